import PV.Lemmas.IPCSemKey
/-!
# C07 — shared memory (`pshm-posix.c` over the POSIX name space model `PV.IPC.OS`)

Model `PV.Model.IPC` with the facts extracted from the current source (`PV.Generated.IPC`; the
F5-repaired `pp_shm_create_handle`).  `G.call` = one thread runs its library call to the end
(sequentially); schedules (`List Action`) = arbitrary interleavings incl. SIGKILL and `Action.fail t e` (the
next system call of `t` is not performed and fails with `e`, scripted).
Statements about `p_shm_new` are for calls that run sequentially (any schedule may run before and
between them); the lock (`lock_is_mutex`) is proved for every interleaving.  What is FALSE of the
code — concurrent first-time creation (F11) and the crash point that leaves a zero-size
segment — is kept as a comment with the negation proved on a concrete witness.
The part "failing system calls" states what the failure exits of `pp_shm_create_handle` / `pp_shm_clean_handle`
leave behind.
-/
namespace PV.IPC.C07
open PV.IPC PV.Generated.IPC

/-- the segment a live PShm handle is mapped to -/
def segOf (g : G) (h : Hid) : Option SegId :=
  match g.hs h with
  | some (p, .shm y) => (findMap (g.os.procs p) y.addr).map (·.seg)
  | _ => none

/-- the lock object a live PShm handle uses -/
def lockOf (g : G) (h : Hid) : Option ObjId :=
  match g.hs h with
  | some (_, .shm y) => some y.sem.obj
  | _ => none

/-- a creator sees exactly the size it asked for, and the segment has exactly that many (zero) bytes -/
theorem creator_size_exact (g : G) (t : Tid) (h : Hid) (k : ShmKey) (size : Nat) (ro : Bool)
    (hi : Idle g t) (hh : g.hs h = none) (hk : g.os.shmNames k = none) (hs : size ≠ 0) :
    let g' := g.call t (.newShm h k size ro)
    ∃ y, g'.hs h = some (g.pidOf t, .shm y) ∧ y.size = size ∧ y.created = true ∧
      g'.os.shmNames k = some g.os.nextSeg ∧ (g'.os.segs g.os.nextSeg).bytes = List.replicate size 0 := by
  have o := creator_opened g t h k size ro hi hh hk hs
  exact ⟨creatorHandle g t k size ro, by rw [o.hs]; simp, rfl, rfl, o.shmNames, o.bytes⟩

/-- the size a handle opened on an existing segment of `L` bytes reports depends only on the size
    argument and `L` (`repSize`): … -/
theorem follower_size (g : G) (t : Tid) (h : Hid) (k : ShmKey) (req : Nat) (ro : Bool) (s : SegId)
    (hi : Idle g t) (hh : g.hs h = none) (hk : g.os.shmNames k = some s) (hL : (g.os.segs s).bytes.length ≠ 0) :
    ∃ y, (g.call t (.newShm h k req ro)).hs h = some (g.pidOf t, .shm y) ∧
      y.size = repSize req (g.os.segs s).bytes.length ∧ y.created = false ∧
      (g.call t (.newShm h k req ro)).os.shmNames = g.os.shmNames ∧ (g.call t (.newShm h k req ro)).os.segs = g.os.segs := by
  obtain ⟨y, o, _⟩ := follower_opened g t h k req ro s hi hh hk hL
  exact ⟨y, by rw [o.hs]; simp, o.size, o.created, o.shmNames, o.segs⟩

/-- … so handles created with the same size argument report the same size: two followers of one
    segment, and a follower that passes the creator's own argument -/
theorem same_arg_same_size (req L : Nat) :
    (∀ L', L' = L → repSize req L' = repSize req L) ∧ (req ≠ 0 → repSize req req = req) ∧
    (req = 0 → repSize req L = L) ∧ (L ≤ req → repSize req L = L) ∧ (req ≠ 0 → req ≤ L → repSize req L = req) := by
  refine ⟨fun L' e => by rw [e], ?_, ?_, ?_, ?_⟩ <;> intros <;> simp only [repSize] <;> split <;> omega

/-- Handles of one name opened while the segment exists — by any two threads of the same or of
    different processes, with any size arguments, with or without a lock semaphore left — are mapped
    to the SAME object, the one the name is bound to; a byte stored through either at any offset
    below both reported sizes is the byte loaded through the other. -/
theorem same_name_same_bytes (g : G) (t1 t2 : Tid) (h1 h2 : Hid) (k : ShmKey) (r1 r2 : Nat) (s : SegId)
    (off : Nat) (b : UInt8)
    (hk : g.os.shmNames k = some s) (hL : (g.os.segs s).bytes.length ≠ 0)
    (i1 : Idle g t1) (i2 : Idle g t2) (hh1 : g.hs h1 = none) (hh2 : g.hs h2 = none) (hne : h1 ≠ h2) :
    let g2 := (g.call t1 (.newShm h1 k r1 false)).call t2 (.newShm h2 k r2 false)
    segOf g2 h1 = some s ∧ segOf g2 h2 = some s ∧
    (off < repSize r1 (g.os.segs s).bytes.length → off < repSize r2 (g.os.segs s).bytes.length →
      ((g2.call t1 (.wr h1 off b)).call t2 (.rd h2 off)).ret t2 = some (.byte b) ∧
      ((g2.call t2 (.wr h2 off b)).call t1 (.rd h1 off)).ret t1 = some (.byte b)) := by
  obtain ⟨y1, o1, _⟩ := follower_opened g t1 h1 k r1 false s i1 hh1 hk hL
  have i1' := i1.call o1.idle
  have i2' := i2.call o1.idle
  generalize g.call t1 (.newShm h1 k r1 false) = g1 at o1 i1' i2'
  obtain ⟨y2, o2, _⟩ := follower_opened g1 t2 h2 k r2 false s i2' (by rw [o1.hs]; simp [Ne.symm hne, hh2])
    (by rw [o1.shmNames]; exact hk) (by rw [o1.segs]; exact hL)
  have i1g2 := i1'.call o2.idle
  have i2g2 := i2'.call o2.idle
  generalize g1.call t2 (.newShm h2 k r2 false) = g2 at o2 i1g2 i2g2
  -- the two handles and their mappings in g2
  have e1 : g2.hs h1 = some (g2.pidOf t1, .shm y1) := by rw [o2.hs, o2.pidOf, o1.pidOf, o1.hs]; simp [hne]
  have e2 : g2.hs h2 = some (g2.pidOf t2, .shm y2) := by rw [o2.hs, o2.pidOf]; simp
  have L1 : (g1.os.segs s).bytes.length = (g.os.segs s).bytes.length := by rw [o1.segs]
  have segL : (g2.os.segs s).bytes.length = (g.os.segs s).bytes.length := by rw [o2.segs, L1]
  have m2 := o2.findMap_self
  have m1 := o1.findMap_self
  rw [← o2.findMap_old _ (by rw [o1.addr, o1.procs]; simp only [if_true, Proc.afterNew]; omega), ← o1.pidOf, ← o2.pidOf] at m1
  rw [← o2.pidOf] at m2
  simp only
  refine ⟨by simp [segOf, e1, m1], by simp [segOf, e2, m2], fun l1 l2 => ?_⟩
  have lt1 : off < (g.os.segs s).bytes.length := Nat.lt_of_lt_of_le l1 (repSize_le _ _)
  exact ⟨write_then_read g2 t1 t2 h1 h2 y1 y2 _ _ off b i1g2 i2g2 e1 e2 m1 m2 rfl rfl rfl l1 (by rw [L1]; exact l2)
      rwWritable mapShared (by rw [segL]; exact lt1),
    write_then_read g2 t2 t1 h2 h1 y2 y1 _ _ off b i2g2 i1g2 e2 e1 m2 m1 rfl rfl rfl (by rw [L1]; exact l2) l1
      rwWritable mapShared (by rw [segL]; exact lt1)⟩

/-- "while the segment exists": for EVERY interleaving of anything (SIGKILLs included) that contains
    no `shm_unlink` of the name, the name stays bound to the same object — so every sequential
    `p_shm_new` in between maps that object (`same_name_same_bytes`); and `shm_unlink (k)` is issued only by
    `p_shm_free` of an owner's handle of `k` or on the failure path of a creator of `k` itself -/
theorem segment_exists_until_owner_free (k : ShmKey) (s : SegId) (g : G) (as : List Action)
    (hk : g.os.shmNames k = some s) (hq : NoShmUnlink k g as) :
    (execAll g as).os.shmNames k = some s ∧
    (∀ c : Call, c.next = .shmUnlink k →
      (∃ st : ShmFreeSt, c = .shmFree st ∧ st.pc = .unlink ∧ st.h.key = k) ∨
      (∃ hid e, ∃ st : ShmNewSt, c = .shmNew hid st ∧ st.pc = .fUnlink e ∧ st.key = k)) :=
  ⟨shm_binding_execAll k s as g hk hq, fun c h => shm_unlink_only_by c k h⟩

/-- every offset below `p_shm_get_size` is inside the handle's mapping and inside the object:
    a load there never faults — for the creator (zero bytes) and for any follower -/
theorem no_fault_below_size (g : G) (t : Tid) (h : Hid) (k : ShmKey) (req : Nat) (ro : Bool)
    (hi : Idle g t) (hh : g.hs h = none)
    (hok : (g.os.shmNames k = none ∧ req ≠ 0) ∨ (∃ s, g.os.shmNames k = some s ∧ (g.os.segs s).bytes.length ≠ 0)) :
    let g' := g.call t (.newShm h k req ro)
    ∃ y, g'.hs h = some (g.pidOf t, .shm y) ∧ ∀ off, off < y.size → ∃ b, g'.os.load (g.pidOf t) y.addr off = .val b := by
  simp only
  rcases hok with ⟨hk, hs⟩ | ⟨s, hk, hL⟩
  · have o := creator_opened g t h k req ro hi hh hk hs
    refine ⟨creatorHandle g t k req ro, by rw [o.hs]; simp, fun off (ho : off < req) => ?_⟩
    have hlen : off < ((g.call t (.newShm h k req ro)).os.segs g.os.nextSeg).bytes.length := by rw [o.bytes]; simpa using ho
    exact ⟨_, load_afterNew _ (g.pidOf t) _ _ _ ro off (by rw [o.procs]; exact if_pos rfl) ho hlen⟩
  · obtain ⟨y, o, _⟩ := follower_opened g t h k req ro s hi hh hk hL
    refine ⟨y, by rw [o.hs]; simp, ?_⟩
    intro off ho
    rw [o.size] at ho
    have hlen : off < ((g.call t (.newShm h k req ro)).os.segs s).bytes.length := by
      rw [o.segs]; exact Nat.lt_of_lt_of_le ho (repSize_le _ _)
    rw [o.addr]
    exact ⟨_, load_afterNew _ (g.pidOf t) _ s _ ro off (by rw [o.procs]; simp) ho hlen⟩

/-- `p_shm_free` removes exactly the mapping `p_shm_new` created — creator or follower, whatever the
    size argument: the process's mappings are those it had before.  (False of the code before fix F5:
    a follower with a smaller size argument mapped the whole segment and unmapped only the clamped size.)
    Address freshness is not a hypothesis: it is part of `MapInv`, an invariant of every reachable
    state (`mapInv_reachable`).  The version for any interleaving is `unmap_exact_interleaved`. -/
theorem unmap_exact (g : G) (t : Tid) (h : Hid) (k : ShmKey) (req : Nat)
    (hi : Idle g t) (hh : g.hs h = none)
    (hok : (g.os.shmNames k = none ∧ req ≠ 0 ∧ g.os.semNames (.lock k) = none) ∨
           (∃ s ol, g.os.shmNames k = some s ∧ (g.os.segs s).bytes.length ≠ 0 ∧ g.os.semNames (.lock k) = some ol))
    (hM : MapInv g) :
    let g2 := (g.call t (.newShm h k req false)).call t (.free h)
    (g2.os.procs (g.pidOf t)).maps = (g.os.procs (g.pidOf t)).maps ∧ g2.hs h = none := by
  have hfresh : ∀ m ∈ (g.os.procs (g.pidOf t)).maps, m.addr ≠ (g.os.procs (g.pidOf t)).nextAddr :=
    fun m hm => Nat.ne_of_lt (hM.claims.fresh _ m hm)
  simp only
  rcases hok with ⟨hk, hs, hl⟩ | ⟨s, ol, hk, hL, hl⟩
  · have o := creator_opened g t h k req false hi hh hk hs
    have i1 := hi.call o.idle
    generalize g.call t (.newShm h k req false) = g1 at o i1
    have hp1 : g1.os.procs (g.pidOf t) = (g.os.procs (g.pidOf t)).afterNew g.os.nextSeg req false := by
      rw [o.procs]; exact if_pos rfl
    have f := call_free_shm_owner g1 t h (creatorHandle g t k req false) g.os.nextSeg g.os.nextObj i1
      (by rw [o.hs, o.pidOf]; exact if_pos rfl) rfl rfl o.shmNames o.lock hs
    refine ⟨?_, by rw [f.2.1]; simp⟩
    rw [f.1, o.pidOf]
    simp only [OS.semRemove, OS.shmRemove, OS.setProc, if_true]
    rw [hp1]
    exact munmapF_afterNew _ _ _ _ hfresh
  · obtain ⟨y, o, hsc⟩ := follower_opened g t h k req false s hi hh hk hL
    have i1 := hi.call o.idle
    generalize g.call t (.newShm h k req false) = g1 at o i1
    have hp1 : g1.os.procs (g.pidOf t) = (g.os.procs (g.pidOf t)).afterNew s (repSize req (g.os.segs s).bytes.length) false := by
      rw [o.procs]; exact if_pos rfl
    have f := call_free_shm_plain g1 t h y i1 (by rw [o.hs, o.pidOf]; exact if_pos rfl) o.created (by rw [hsc, hl]; rfl)
      (by rw [o.size]; exact repSize_ne_zero req _ hL)
    refine ⟨?_, by rw [f.2.1]; simp⟩
    rw [f.1, o.pidOf]
    simp only [OS.setProc, if_true]
    rw [hp1, o.addr, o.size]
    exact munmapF_afterNew _ _ _ _ hfresh

/-- after an owner (take_ownership) frees its handle the segment name and its lock are gone and the
    owner's mapping is unmapped; the next `p_shm_new` yields a FRESH segment (id = the allocation
    counter, never used before), zero-filled, of exactly the newly requested size, with a fresh lock
    of value 1 — old contents, old size and old lock state play no role -/
theorem owner_free_removes (g : G) (t t' : Tid) (h h' : Hid) (y : PShm) (s : SegId) (ol : ObjId) (size' : Nat) (ro' : Bool)
    (hi : Idle g t) (hh : g.hs h = some (g.pidOf t, .shm y))
    (hk : g.os.shmNames y.key = some s) (hlk : y.sem.key = .lock y.key) (hl : g.os.semNames (.lock y.key) = some ol)
    (hs : y.size ≠ 0) (hs' : size' ≠ 0) :
    let g2 := (g.call t (.own h)).call t (.free h)
    g2.os.shmNames y.key = none ∧ g2.os.semNames (.lock y.key) = none ∧ g2.hs h = none ∧
    (g2.os.procs (g.pidOf t)).maps = (munmapF (g.os.procs (g.pidOf t)) y.addr y.size).maps ∧
    g2.calls t = none ∧ g2.pidOf = g.pidOf ∧ (∀ q, (g2.os.procs q).alive = (g.os.procs q).alive) ∧
    (∀ x, x ≠ h → g2.hs x = g.hs x) ∧
    (Idle g2 t' → g2.hs h' = none →
      ∃ y', (g2.call t' (.newShm h' y.key size' ro')).hs h' = some (g2.pidOf t', .shm y') ∧ y'.size = size' ∧
        y'.created = true ∧ (g2.call t' (.newShm h' y.key size' ro')).os.shmNames y.key = some g.os.nextSeg ∧
        ((g2.call t' (.newShm h' y.key size' ro')).os.segs g.os.nextSeg).bytes = List.replicate size' 0 ∧
        (g2.call t' (.newShm h' y.key size' ro')).os.semNames (.lock y.key) = some y'.sem.obj ∧
        ((g2.call t' (.newShm h' y.key size' ro')).os.sems y'.sem.obj).value = 1) := by
  have o := call_own_shm g t h y hi hh
  have i1 := hi.call o.2.2.1
  have al : ∀ q, (((g.call t (.own h)).call t (.free h)).os.procs q).alive = (g.os.procs q).alive :=
    fun q => by rw [call_alive, call_alive]
  generalize g.call t (.own h) = g1 at o i1 al
  have e1 : g1.hs h = some (g1.pidOf t, .shm { y with created := true, sem := { y.sem with created := true } }) := by
    rw [o.2.1, o.2.2.2]; simp
  have f := call_free_shm_owner g1 t h _ s ol i1 e1 rfl rfl (by rw [o.1]; exact hk) (by rw [o.1]; simpa [hlk] using hl) hs
  generalize g1.call t (.free h) = g2 at f al
  have n2 : g2.os.shmNames y.key = none := by rw [f.1]; simp [OS.semRemove, OS.shmRemove]
  have l2 : g2.os.semNames (.lock y.key) = none := by rw [f.1]; simp [OS.semRemove, hlk]
  have ns : g2.os.nextSeg = g.os.nextSeg := by rw [f.1, o.1]; rfl
  simp only
  refine ⟨n2, l2, by rw [f.2.1]; simp, ?_, f.2.2.1, by rw [f.2.2.2, o.2.2.2], al, ?_, ?_⟩
  · rw [f.1, o.2.2.2, o.1]; simp [OS.semRemove, OS.shmRemove, OS.setProc]
  · intro x hx
    rw [f.2.1, o.2.1]; simp [hx]
  · intro i2 hh2
    have c := creator_opened g2 t' h' y.key size' ro' i2 hh2 n2 hs'
    exact ⟨creatorHandle g2 t' y.key size' ro', by rw [c.hs]; simp, rfl, rfl, ns ▸ c.shmNames, ns ▸ c.bytes, c.lock, c.lockValue⟩

/-- the documented recovery: `p_shm_new`, take ownership, `p_shm_free`, `p_shm_new` again -/
def recoverShm (g : G) (t : Tid) (h1 h2 : Hid) (k : ShmKey) (sz sz' : Nat) : G :=
  (((g.call t (.newShm h1 k sz false)).call t (.own h1)).call t (.free h1)).call t (.newShm h2 k sz' false)

/-- the state after thread `tc` has made `j` system calls of the library call `op` and its process is SIGKILLed -/
def crashAt (g : G) (tc : Tid) (op : Op) (j : Nat) : G :=
  ((List.replicate j (Action.step tc false)).foldl exec (g.start tc op)).kill (g.pidOf tc)

/-
  FULL STATEMENT (false of the code):

  theorem crash_recoverable_shm (g) (t h1 h2 k sz sz') (Idle g t) … :
      the recovery sequence from EVERY state g ends with a fresh segment of size sz' and a fresh lock of value 1

  It fails exactly for the states in which the name is bound to a segment of size 0 — what a creator
  killed between `shm_open (O_CREAT|O_EXCL)` and `ftruncate` leaves behind (crash point 1 of `p_shm_new`):
  `p_shm_new` then fails in `mmap` (EINVAL) for every size argument, so the recovery cannot start and the
  name stays (`crash_recoverable_shm_false`).  The `_partial` theorem excludes exactly those states (`hz`).
-/

/-- From every state in which the name is not bound to a zero-size segment — in particular after a
    SIGKILL of any process between any two system calls of `p_shm_new` (other than crash point 1 of a
    creator), `p_shm_free`, lock or unlock, with the lock held or not, lock semaphore present or not —
    the documented sequence ends with the name bound to a fresh zero-filled segment of the newly
    requested size and a fresh lock of value 1. -/
theorem crash_recoverable_shm_partial (g : G) (t : Tid) (h1 h2 : Hid) (k : ShmKey) (sz sz' : Nat)
    (hi : Idle g t) (hh1 : g.hs h1 = none) (hh2 : g.hs h2 = none) (hne : h1 ≠ h2) (hs : sz ≠ 0) (hs' : sz' ≠ 0)
    (hz : ∀ s, g.os.shmNames k = some s → (g.os.segs s).bytes.length ≠ 0) :
    let g4 := recoverShm g t h1 h2 k sz sz'
    ∃ y' snew, g4.hs h2 = some (g.pidOf t, .shm y') ∧ y'.size = sz' ∧ y'.created = true ∧
      g4.os.shmNames k = some snew ∧ (g4.os.segs snew).bytes = List.replicate sz' 0 ∧
      g4.os.semNames (.lock k) = some y'.sem.obj ∧ (g4.os.sems y'.sem.obj).value = 1 := by
  -- step 1: whatever is left of the name, `p_shm_new` succeeds and afterwards segment and lock names are bound
  have s1 : ∃ y s1 ol1, (g.call t (.newShm h1 k sz false)).hs = (fun h' => if h' = h1 then some (g.pidOf t, .shm y) else g.hs h') ∧
      (g.call t (.newShm h1 k sz false)).os.shmNames k = some s1 ∧
      (g.call t (.newShm h1 k sz false)).os.semNames (.lock k) = some ol1 ∧ y.key = k ∧ y.sem.key = .lock k ∧ y.size ≠ 0 ∧
      (g.call t (.newShm h1 k sz false)).calls t = none := by
    cases hk : g.os.shmNames k with
    | none =>
      have c := creator_opened g t h1 k sz false hi hh1 hk hs
      exact ⟨_, g.os.nextSeg, g.os.nextObj, c.hs, c.shmNames, c.lock, rfl, rfl, hs, c.idle⟩
    | some s =>
      obtain ⟨y, o, _⟩ := follower_opened g t h1 k sz false s hi hh1 hk (hz s hk)
      exact ⟨y, s, y.sem.obj, o.hs, by rw [o.shmNames]; exact hk, o.lock, o.key, o.lockKey,
        by rw [o.size]; exact repSize_ne_zero _ _ (hz s hk), o.idle⟩
  obtain ⟨y, sg, ol1, hs1, n1, l1, yk, ylk, ysz, c1⟩ := s1
  have i1 := hi.call c1
  have p1 := call_pidOf g t (.newShm h1 k sz false) []
  generalize hg1 : g.call t (.newShm h1 k sz false) = g1 at hs1 n1 l1 i1 p1
  have e1 : g1.hs h1 = some (g1.pidOf t, .shm y) := by rw [hs1, p1]; simp
  -- steps 2–4
  have r := owner_free_removes g1 t t h1 h2 y sg ol1 sz' false i1 e1 (by rw [yk]; exact n1) (by rw [ylk, yk])
    (by rw [yk]; exact l1) ysz hs'
  simp only at r
  obtain ⟨_, _, _, _, c3, p3, al3, hs3, fin⟩ := r
  have i3 : Idle ((g1.call t (.own h1)).call t (.free h1)) t := ⟨by rw [p3, al3]; exact i1.alive, c3⟩
  have hh3 : ((g1.call t (.own h1)).call t (.free h1)).hs h2 = none := by
    rw [hs3 h2 (Ne.symm hne), hs1]; simp [Ne.symm hne, hh2]
  obtain ⟨y', f1, f2, f3, f4, f5, f6, f7⟩ := fin i3 hh3
  simp only [recoverShm, hg1]
  rw [yk] at f1 f4 f5 f6 f7
  exact ⟨y', g1.os.nextSeg, by rw [f1, p3, p1], f2, f3, f4, f5, f6, f7⟩

/-- the same with the crash point spelled out: after ANY schedule `as` from any state, thread `tc`
    starts ANY library call `op` (p_shm_new, p_shm_free, lock, unlock, …), makes ANY number `j` of its
    system calls, and its process is SIGKILLed; unless that leaves a zero-size segment (`hz`), a live
    process recovers the name with the documented sequence -/
theorem crash_recoverable_shm_at (g0 : G) (as : List Action) (tc : Tid) (op : Op) (j : Nat)
    (t : Tid) (h1 h2 : Hid) (k : ShmKey) (sz sz' : Nat) :
    let gc := crashAt (execAll g0 as) tc op j
    Idle gc t → gc.hs h1 = none → gc.hs h2 = none → h1 ≠ h2 → sz ≠ 0 → sz' ≠ 0 →
    (∀ s, gc.os.shmNames k = some s → (gc.os.segs s).bytes.length ≠ 0) →
    ∃ y' snew, (recoverShm gc t h1 h2 k sz sz').hs h2 = some (gc.pidOf t, .shm y') ∧ y'.size = sz' ∧
      (recoverShm gc t h1 h2 k sz sz').os.shmNames k = some snew ∧
      ((recoverShm gc t h1 h2 k sz sz').os.segs snew).bytes = List.replicate sz' 0 ∧
      (recoverShm gc t h1 h2 k sz sz').os.semNames (.lock k) = some y'.sem.obj ∧
      ((recoverShm gc t h1 h2 k sz sz').os.sems y'.sem.obj).value = 1 := by
  intro gc hi hh1 hh2 hne hs hs' hz
  obtain ⟨y', snew, a, b, _, c, d, e, f⟩ := crash_recoverable_shm_partial gc t h1 h2 k sz sz' hi hh1 hh2 hne hs hs' hz
  exact ⟨y', snew, a, b, c, d, e, f⟩

/-- the crash point that cannot be recovered, on the model: process 0 is killed after the first
    system call of `p_shm_new` (name bound, size 0); `p_shm_new` by process 1 then fails with EINVAL
    for any size argument and the name is still there afterwards -/
def zeroSegState : G := crashAt (G.init id) 0 (.newShm 0 0 4096 false) 1

theorem crash_recoverable_shm_false :
    (zeroSegState.os.shmNames 0).isSome = true ∧
    ((zeroSegState.call 1 (.newShm 1 0 4096 false)).ret 1 = some (.fail .EINVAL)) ∧
    ((zeroSegState.call 1 (.newShm 1 0 0 false)).ret 1 = some (.fail .EINVAL)) ∧
    ((zeroSegState.call 1 (.newShm 1 0 4096 false)).hs 1 = none) ∧
    ((zeroSegState.call 1 (.newShm 1 0 4096 false)).os.shmNames 0).isSome = true := by decide +kernel

/-- the hypothesis `hz` of the partial theorem, as a computable check -/
def nonZeroIfBound (g : G) (k : ShmKey) : Bool :=
  match g.os.shmNames k with
  | some s => decide ((g.os.segs s).bytes.length ≠ 0)
  | none => true

theorem nonZeroIfBound_spec (g : G) (k : ShmKey) (h : nonZeroIfBound g k = true) :
    ∀ s, g.os.shmNames k = some s → (g.os.segs s).bytes.length ≠ 0 := by
  intro s hs
  simp only [nonZeroIfBound, hs, decide_eq_true_eq] at h
  exact h

/-- every OTHER crash point of a first creation (kill after 0, 2, 3, 4, 5 system calls, or after the
    call has returned) satisfies that hypothesis, crash point 1 does not -/
theorem crash_points_of_creation :
    ([0, 2, 3, 4, 5, 6].all fun j => nonZeroIfBound (crashAt (G.init id) 0 (.newShm 0 0 64 false) j) 0) = true ∧
    nonZeroIfBound (crashAt (G.init id) 0 (.newShm 0 0 64 false) 1) 0 = false := by decide +kernel

/-! ## any interleaving: the follower's own system calls interleave with everybody else's

`MapInv` (who owns which mapping; address freshness) holds in every reachable state.  `KeyInv k s L`
("the segment of `k` exists": bound to `s` of `L` bytes, all live handles of `k` mapped to `s`, all
`p_shm_new (k)` in flight are followers that have only seen `s`, nobody is about to `ftruncate s`) is
established by a first creation and preserved by EVERY schedule without a `shm_unlink (k)` — which only
an owner free or a failing creator of `k` issues (`segment_exists_until_owner_free`). -/

/-- every state reachable from the initial one satisfies `MapInv` and `SegWF` -/
theorem reachable_invariants (pidOf : Tid → Pid) (as : List Action) :
    MapInv (execAll (G.init pidOf) as) ∧ SegWF (execAll (G.init pidOf) as) :=
  ⟨mapInv_reachable pidOf as, segWF_execAll as _ (segWF_init pidOf)⟩

/-- a first creation of `k` (no live handle of `k`, no `p_shm_new (k)` in flight) establishes the
    invariant, and any schedule without `shm_unlink (k)` keeps it — whatever `p_shm_new`, `p_shm_free`,
    lock, unlock, store or SIGKILL steps of whatever threads and processes it interleaves -/
theorem segment_exists_while_not_unlinked (g : G) (t : Tid) (h : Hid) (k : ShmKey) (size : Nat) (ro : Bool) (as : List Action)
    (hM : MapInv g) (hS : SegWF g) (hi : Idle g t) (hh : g.hs h = none) (hk : g.os.shmNames k = none) (hs : size ≠ 0)
    (hnoH : ∀ h' p y, g.hs h' = some (p, .shm y) → y.key ≠ k)
    (hnoF : ∀ t' hid st, g.calls t' = some (.shmNew hid st) → st.key ≠ k)
    (hq : NoShmUnlink k (g.call t (.newShm h k size ro)) as) :
    MapInv (execAll (g.call t (.newShm h k size ro)) as) ∧
    KeyInv k g.os.nextSeg size (execAll (g.call t (.newShm h k size ro)) as) :=
  keyInv_execAll k _ size as _ (mapInv_call g t _ [] hM)
    (keyInv_after_creation g t h k size ro hM hS hi hh hk hs hnoH hnoF) hq

/-- **same_name_same_bytes, any interleaving.**  While the segment of `k` exists (`MapInv ∧ KeyInv` at
    `g0`, e.g. from `segment_exists_while_not_unlinked`) and for every schedule `as` without a
    `shm_unlink (k)`: ANY two live handles of `k` in the resulting state — whenever and by whichever
    interleaved `p_shm_new` calls of whichever threads / processes they were opened — address the same
    memory: a byte stored through one is loaded through the other at every offset below both sizes. -/
theorem same_name_same_bytes_interleaved (k : ShmKey) (s : SegId) (L : Nat) (g0 : G) (as : List Action)
    (hM : MapInv g0) (hK : KeyInv k s L g0) (hq : NoShmUnlink k g0 as)
    (ta tb : Tid) (ha hb : Hid) (ya yb : PShm) (off : Nat) (b : UInt8) :
    let g := execAll g0 as
    Idle g ta → Idle g tb → g.hs ha = some (g.pidOf ta, .shm ya) → g.hs hb = some (g.pidOf tb, .shm yb) →
    ya.key = k → yb.key = k → ya.ro = false → off < ya.size → off < yb.size →
    ((g.call ta (.wr ha off b)).call tb (.rd hb off)).ret tb = some (.byte b) := by
  intro g ia ib hha hhb ka kb hrw la lb
  obtain ⟨hM', hK'⟩ := keyInv_execAll k s L as g0 hM hK hq
  exact handles_share_bytes k s L g hM' hK' ta tb ha hb ya yb off b ia ib hha hhb ka kb hrw la lb

/-- **no_fault_below_size, any interleaving**: every offset below `p_shm_get_size` of every live handle of
    `k` is inside its mapping and inside the object, and the reported size never exceeds the segment's -/
theorem no_fault_below_size_interleaved (k : ShmKey) (s : SegId) (L : Nat) (g0 : G) (as : List Action)
    (hM : MapInv g0) (hK : KeyInv k s L g0) (hq : NoShmUnlink k g0 as)
    (h : Hid) (p : Pid) (y : PShm) (off : Nat) :
    (execAll g0 as).hs h = some (p, .shm y) → y.key = k → off < y.size →
    y.size ≤ L ∧ ∃ b, (execAll g0 as).os.load p y.addr off = .val b := by
  intro hy hk ho
  obtain ⟨hM', hK'⟩ := keyInv_execAll k s L as g0 hM hK hq
  exact ⟨(hK'.handles h p y hy hk).1, handle_no_fault k s L _ hM' hK' h p y hy hk off ho⟩

/-- **unmap_exact, any interleaving**: in every reachable state the `munmap` step of ANY `p_shm_free`
    in flight (any name, creator or follower, whatever else is running) removes exactly the one mapping
    that the handle's `p_shm_new` created — it exists, is the only one at that address, has exactly the
    handle's size — and no other mapping of any process -/
theorem unmap_exact_interleaved (pidOf : Tid → Pid) (as : List Action) (t : Tid) (i : Bool) (st : ShmFreeSt) :
    let g := execAll (G.init pidOf) as
    g.calls t = some (.shmFree st) → st.pc = .munmap →
    ∃ m, m ∈ (g.os.procs (g.pidOf t)).maps ∧ m.addr = st.h.addr ∧ m.len = st.h.size ∧
      (∀ m' ∈ (g.os.procs (g.pidOf t)).maps, m'.addr = st.h.addr → m' = m) ∧
      ((g.step t i).os.procs (g.pidOf t)).maps = (g.os.procs (g.pidOf t)).maps.filter (fun m' => decide (m'.addr ≠ st.h.addr)) ∧
      ∀ q, q ≠ g.pidOf t → ((g.step t i).os.procs q).maps = (g.os.procs q).maps := by
  intro g hc hpc
  exact free_unmaps_exactly g t i st (mapInv_reachable pidOf as) hc hpc

/-- address freshness is an invariant of the `mmap` model: in every reachable state every mapping of a
    process lies below its next address, and no two mappings share an address -/
theorem address_freshness (pidOf : Tid → Pid) (as : List Action) (p : Pid) :
    (∀ m ∈ ((execAll (G.init pidOf) as).os.procs p).maps, m.addr < ((execAll (G.init pidOf) as).os.procs p).nextAddr) ∧
    (((execAll (G.init pidOf) as).os.procs p).maps.map (·.addr)).Nodup :=
  ⟨fun m hm => (mapInv_reachable pidOf as).claims.fresh p m hm, (mapInv_reachable pidOf as).claims.nodup p⟩

theorem shm_lock_eintr_transparent (g : G) (t : Tid) (h : Hid) (script : List Nat) :
    (g.call t (.lock h) script).Same (g.call t (.lock h) []) :=
  eintr_transparent g t (.lock h) script

theorem shm_open_eintr_transparent (g : G) (t : Tid) (h : Hid) (k : ShmKey) (size : Nat) (ro : Bool) (script : List Nat) :
    (g.call t (.newShm h k size ro) script).Same (g.call t (.newShm h k size ro) []) :=
  eintr_transparent g t (.newShm h k size ro) script

/-- a sequential first creation leaves all lock handles of the name agreeing on one object of value 1 -/
theorem creation_establishes_lock (g : G) (t : Tid) (h : Hid) (k : ShmKey) (size : Nat) (ro : Bool)
    (hi : Idle g t) (hh : g.hs h = none) (hk : g.os.shmNames k = none) (hs : size ≠ 0)
    (hnone : ∀ h' p x, g.hs h' = some (p, x) → ¬ (match x with | .sem z => z.key = .lock k | .shm z => z.sem.key = .lock k)) :
    let g' := g.call t (.newShm h k size ro)
    Agree (.lock k) g.os.nextObj g' ∧ (g'.os.sems g.os.nextObj).value = 1 ∧ g.os.nextObj < g'.os.nextObj := by
  simp only
  have key : ∀ g' : G, g'.os.semNames (.lock k) = some g.os.nextObj →
      g'.hs = (fun h' => if h' = h then some (g.pidOf t, .shm (creatorHandle g t k size ro)) else g.hs h') →
      Agree (.lock k) g.os.nextObj g' := by
    intro g' hn hhs
    refine ⟨hn, ?_, ?_⟩
    · intro h' p x hx hkx
      rw [hhs] at hx
      dsimp only at hx
      split at hx
      · simp at hx
      · exact absurd hkx (hnone h' p (.sem x) hx)
    · intro h' p y hy hky
      rw [hhs] at hy
      dsimp only at hy
      split at hy
      · simp only [Option.some.injEq, Prod.mk.injEq, Handle.shm.injEq] at hy
        rw [← hy.2]; rfl
      · exact absurd hky (hnone h' p (.shm y) hy)
  have c := creator_opened g t h k size ro hi hh hk hs
  exact ⟨key _ c.lock c.hs, c.lockValue, by rw [c.nextObj]; exact Nat.lt_succ_self _⟩

/-- `p_shm_lock` / `p_shm_unlock` through ALL handles of a name — in any thread or process, for
    EVERY interleaving, handles opened at any time by calls that are OPEN-mode on the lock (i.e. by
    followers: `QuietRun (.lock k)`) — act on one object: every such handle's lock is `o`, and the
    number of successful locks minus unlocks since a state with value 1 never exceeds 1.
    (C06 `k_exclusion` with v = 1.)  The hypotheses hold after a sequential creation
    (`creation_establishes_lock`); with two concurrent first creators they do not (F11 b). -/
theorem lock_is_mutex (k : ShmKey) (o : ObjId) (g : G) (as : List Action)
    (hA : Agree (.lock k) o g) (hv : (g.os.sems o).value = 1) (ho : o < g.os.nextObj) (hq : QuietRun (.lock k) g as) :
    Agree (.lock k) o (execAll g as) ∧
    (∀ h p y, (execAll g as).hs h = some (p, .shm y) → y.key = k → y.sem.key = .lock k →
        acquireNext y.sem = .semWait o ∧ releaseNext y.sem = .semPost o) ∧
    acquired o (execAll g as).log - acquired o g.log ≤ 1 + (released o (execAll g as).log - released o g.log) := by
  have hA' := agree_execAll (.lock k) o as g hA hq
  refine ⟨hA', ?_, ?_⟩
  · intro h p y hy _ hky
    have := hA'.2.2 h p y hy hky
    simp [acquireNext, releaseNext, this]
  · obtain ⟨evs, hl, hc⟩ := counter_execAll o as g ho
    rw [hl, acquired_append, released_append]
    omega

/-- **For C08.**  For EVERY schedule from a state in which all lock handles of name `k` agree on one
    object `o` of value 1 (what a sequential creation establishes: `creation_establishes_lock`) and in
    which no creator's CREATE-mode open / no owner's free of the lock is under way (`QuietRun (.lock k)`):
    reading the new part `evs` of the event log, if every `p_shm_unlock` is by a current holder
    (`Bracketed`: lock-bracketed critical sections, as every `pshmbuffer.c` operation is), then at most
    ONE thread — of any process — is between a successful `p_shm_lock` and its `p_shm_unlock`
    (`holders o evs` has length ≤ 1), and every live handle of `k` locks / unlocks exactly `o`. -/
theorem at_most_one_in_critical_section (k : ShmKey) (o : ObjId) (g : G) (as : List Action)
    (hA : Agree (.lock k) o g) (hv : (g.os.sems o).value = 1) (ho : o < g.os.nextObj) (hq : QuietRun (.lock k) g as) :
    ∃ evs, (execAll g as).log = evs ++ g.log ∧
      (Bracketed o evs → (holders o evs).length ≤ 1 ∧ ∀ t1 t2, t1 ∈ holders o evs → t2 ∈ holders o evs → t1 = t2) ∧
      (∀ h p y, (execAll g as).hs h = some (p, .shm y) → y.sem.key = .lock k →
        acquireNext y.sem = .semWait o ∧ releaseNext y.sem = .semPost o) := by
  obtain ⟨evs, hevs, hc⟩ := counter_execAll o as g ho
  have hA' := agree_execAll (.lock k) o as g hA hq
  refine ⟨evs, hevs, ?_, ?_⟩
  · intro hb
    rw [hv] at hc
    have hcount := holders_count o evs hb
    have hlen : (holders o evs).length ≤ 1 := by omega
    refine ⟨hlen, ?_⟩
    intro t1 t2 h1 h2
    match hh : holders o evs, hlen, h1, h2 with
    | [], _, h1, _ => cases h1
    | [x], _, h1, h2 =>
      simp only [List.mem_singleton] at h1 h2
      rw [h1, h2]
    | _ :: _ :: _, hl, _, _ => simp at hl
  · intro h p y hy hky
    have := hA'.2.2 h p y hy hky
    simp [acquireNext, releaseNext, this]

/-- … from a first creation on: the hypotheses above hold right after a sequential `p_shm_new` that
    created `k` while no lock handle of `k` was live -/
theorem critical_sections_after_creation (g : G) (t : Tid) (h : Hid) (k : ShmKey) (size : Nat) (ro : Bool) (as : List Action)
    (hi : Idle g t) (hh : g.hs h = none) (hk : g.os.shmNames k = none) (hs : size ≠ 0)
    (hnone : ∀ h' p x, g.hs h' = some (p, x) → ¬ (match x with | .sem z => z.key = .lock k | .shm z => z.sem.key = .lock k))
    (hq : QuietRun (.lock k) (g.call t (.newShm h k size ro)) as) :
    ∃ evs, (execAll (g.call t (.newShm h k size ro)) as).log = evs ++ (g.call t (.newShm h k size ro)).log ∧
      (Bracketed g.os.nextObj evs → (holders g.os.nextObj evs).length ≤ 1) := by
  obtain ⟨hA, hv, ho⟩ := creation_establishes_lock g t h k size ro hi hh hk hs hnone
  obtain ⟨evs, h1, h2, _⟩ := at_most_one_in_critical_section k g.os.nextObj _ as hA hv ho hq
  exact ⟨evs, h1, fun hb => (h2 hb).1⟩

/-- PShm structs and shm calls only ever address the lock key of their own name — in every reachable
    state; so they are `quiet` for every user semaphore key, and `QuietRun (.user n)` (C06) is a
    condition on the `p_semaphore_new` / `p_semaphore_free` calls alone -/
theorem shm_calls_never_touch_user_keys (pidOf : Tid → Pid) (as : List Action) (n : Nat) :
    SemKeyWF (execAll (G.init pidOf) as) ∧
    ((∀ t c, (execAll (G.init pidOf) as).calls t = some c →
        (∀ hid s, c = .semNew hid s → ¬ s.mayUnlink (.user n)) ∧ (∀ s, c = .semFree s → ¬ s.mayUnlink (.user n))) →
      Quiet (.user n) (execAll (G.init pidOf) as)) :=
  ⟨semKeyWF_execAll as _ (semKeyWF_init pidOf), quiet_user _ (semKeyWF_execAll as _ (semKeyWF_init pidOf)) n⟩

/-- schedule of two threads: `true` = thread 0 makes its next system call, `false` = thread 1 -/
def sched (s : List Bool) : List Action := s.map fun b => if b then Action.step 0 false else Action.step 1 false

/-- two processes have just called `p_shm_new (name 0, size)` for the first time -/
def raceStart (size : Nat) : G :=
  ((G.init id).start 0 (.newShm 0 0 size false)).start 1 (.newShm 1 0 size false)

/-- both calls returned a handle, and the two handles share segment and lock semaphore -/
def raceOK (g : G) : Bool :=
  (segOf g 0).isSome && (segOf g 1).isSome && decide (segOf g 0 = segOf g 1) &&
  (lockOf g 0).isSome && decide (lockOf g 0 = lockOf g 1) && decide (g.calls 0 = none) && decide (g.calls 1 = none)

/-
  FULL STATEMENT (false of the code — F11):

  theorem first_open_race (s : List Bool) (hs : s is an interleaving of all system calls of the two calls) :
      raceOK (execAll (raceStart size) (sched s)) = true

  Window (a): the follower's `fstat` runs between the creator's `shm_open` and `ftruncate`: it sees
  size 0, `mmap` of length 0 fails (EINVAL), `p_shm_new` returns NULL although the segment is being created.
  Window (b): the follower's exclusive `sem_open` of the lock runs before the creator's: the follower
  creates the lock, the creator's CREATE-mode `p_semaphore_new` unlinks it and makes a second one:
  both calls succeed and the two handles lock DIFFERENT semaphores.
-/

def tt : Bool := true
def ff : Bool := false

/-- window (a), exhibited: a b b b a a a a b b b b -/
def witnessA : List Bool := [tt, ff, ff, ff, tt, tt, tt, tt, ff, ff, ff, ff]
/-- window (b), exhibited: a a a a b b b b b b a a a -/
def witnessB : List Bool := [tt, tt, tt, tt, ff, ff, ff, ff, ff, ff, tt, tt, tt]

/-- negation of `first_open_race`, window (a): the follower fails with EINVAL while the creator succeeds -/
theorem first_open_race_false_a :
    (execAll (raceStart 4096) (sched witnessA)).ret 1 = some (.fail .EINVAL) ∧
    (segOf (execAll (raceStart 4096) (sched witnessA)) 0).isSome = true ∧
    raceOK (execAll (raceStart 4096) (sched witnessA)) = false := by decide +kernel

/-- negation of `first_open_race`, window (b): both succeed, same segment, two different lock semaphores
    (each of value 1: both processes can hold "the" lock at once) -/
theorem first_open_race_false_b :
    segOf (execAll (raceStart 4096) (sched witnessB)) 0 = segOf (execAll (raceStart 4096) (sched witnessB)) 1 ∧
    lockOf (execAll (raceStart 4096) (sched witnessB)) 0 = some 1 ∧
    lockOf (execAll (raceStart 4096) (sched witnessB)) 1 = some 0 ∧
    ((execAll (raceStart 4096) (sched witnessB)).os.sems 0).value = 1 ∧
    ((execAll (raceStart 4096) (sched witnessB)).os.sems 1).value = 1 ∧
    raceOK (execAll (raceStart 4096) (sched witnessB)) = false := by decide +kernel

/-- all schedules of length `len` in which thread 0 makes exactly `m` steps -/
def interleavings : Nat → Nat → List (List Bool)
  | 0, 0 => [[]]
  | 0, _ + 1 => []
  | len + 1, 0 => (interleavings len 0).map (false :: ·)
  | len + 1, m + 1 => ((interleavings len m).map (true :: ·)) ++ ((interleavings len (m + 1)).map (false :: ·))

theorem mem_interleavings (s : List Bool) : s ∈ interleavings s.length (s.count true) := by
  induction s with
  | nil => simp [interleavings]
  | cons b s ih =>
    cases b
    · simp only [List.length_cons, List.count_cons_of_ne (by decide : (false : Bool) ≠ true)]
      cases hm : s.count true with
      | zero =>
        rw [hm] at ih
        simp only [interleavings, List.mem_map]
        exact ⟨s, ih, rfl⟩
      | succ m =>
        rw [hm] at ih
        simp only [interleavings, List.mem_append, List.mem_map]
        right; exact ⟨s, ih, rfl⟩
    · simp only [List.length_cons, List.count_cons_self]
      simp only [interleavings, List.mem_append, List.mem_map]
      left; exact ⟨s, ih, rfl⟩

/-- position (0-based) of the `n`-th (1-based) occurrence of `b` -/
def posOf (b : Bool) : Nat → List Bool → Nat
  | _, [] => 0
  | n, x :: xs => if x = b then (if n ≤ 1 then 0 else 1 + posOf b (n - 1) xs) else 1 + posOf b n xs

/-- thread 0 is the creator (5 system calls), thread 1 the follower (7); the schedule avoids both
    windows: the creator's `ftruncate` (its 2nd call) precedes the follower's `fstat` (its 3rd), and
    the creator's `sem_open` (its 5th) precedes the follower's first `sem_open` (its 6th) -/
def avoidsWindows (s : List Bool) : Bool :=
  decide (s.head? = some true) && decide (posOf true 2 s < posOf false 3 s) && decide (posOf true 5 s < posOf false 6 s)

theorem race_enumerated :
    ((interleavings 12 5).all fun s => !avoidsWindows s || raceOK (execAll (raceStart 4096) (sched s))) = true := by
  decide +kernel

/-- For EVERY interleaving of the creator's 5 and the follower's 7 system calls that avoids the two
    windows, both `p_shm_new` calls succeed and the handles share segment AND lock semaphore. -/
theorem first_open_race_partial (s : List Bool) (h5 : s.count true = 5) (h7 : s.count false = 7)
    (hw : avoidsWindows s = true) : raceOK (execAll (raceStart 4096) (sched s)) = true := by
  have hm := mem_interleavings s
  have hlen : s.length = 12 := by
    have := List.length_eq_countP_add_countP (l := s) (· == true)
    have e1 : List.countP (fun x => x == true) s = s.count true := by simp [List.count]
    have e2 : List.countP (fun a => decide ¬(a == true) = true) s = s.count false := by
      simp only [List.count]; congr 1; funext a; cases a <;> rfl
    omega
  rw [h5, hlen] at hm
  have := List.all_eq_true.mp race_enumerated s hm
  simpa [hw] using this

/-- a state with a live segment: process 0 has created name 0 with 64 bytes -/
def demo : G := (G.init id).call 0 (.newShm 0 0 64 false)

set_option maxRecDepth 100000 in
/-- hypotheses of `same_name_same_bytes`, `follower_size`, `no_fault_below_size`, `unmap_exact`
    (follower case), `owner_free_removes`, `crash_recoverable_shm_partial`, `lock_is_mutex` hold in `demo` -/
example :
    demo.os.shmNames 0 = some 0 ∧ (demo.os.segs 0).bytes.length = 64 ∧ demo.os.semNames (.lock 0) = some 0 ∧
    (demo.os.sems 0).value = 1 ∧ demo.os.nextObj = 1 ∧
    (demo.os.procs (demo.pidOf 1)).alive = true ∧ demo.calls 1 = none ∧ demo.calls 2 = none ∧
    demo.hs 1 = none ∧ demo.hs 2 = none ∧ nonZeroIfBound demo 0 = true ∧
    (demo.os.procs (demo.pidOf 1)).maps = [] ∧
    demo.hs 0 = some (0, .shm ⟨true, 0, 1, 64, ⟨true, .lock 0, 0, .create, 1⟩, false⟩) := by decide +kernel

/-- hypotheses of `creator_size_exact` / `creation_establishes_lock` / `unmap_exact` (creator case) hold initially -/
example : Idle (G.init id) 0 ∧ (G.init id).hs 0 = none ∧ (G.init id).os.shmNames 0 = none ∧
    (G.init id).os.semNames (.lock 0) = none := ⟨⟨rfl, rfl⟩, rfl, rfl, rfl⟩

set_option maxRecDepth 1000000 in
/-- `first_open_race_partial` is not vacuous: 111 of the 792 interleavings of 5 + 7 steps have
    thread 0 first and avoid both windows -/
example : (interleavings 12 5).length = 792 ∧ ((interleavings 12 5).filter avoidsWindows).length = 111 := by
  decide +kernel

/-- `QuietRun` on the lock is satisfiable with real work: a follower in the middle of its `p_shm_new`
    (OPEN mode on the lock) is quiet -/
example : ∀ st : SemNewSt, st.mode = .open → st.pc = .excl → Call.quiet (.lock 0) (.shmNew 1 { key := 0, req := 0, ro := false, size := 0, pc := .sem st }) := by
  intro st hm hp
  simp [Call.quiet, SemNewSt.mayUnlink, hm, hp]

/-- `Bracketed` / `holders` are not vacuous: lock by thread 1, unlock by thread 1, lock by thread 2 -/
example :
    Bracketed 0 [⟨2, 2, .semWait 0, .ok 0⟩, ⟨1, 1, .semPost 0, .ok 0⟩, ⟨1, 1, .semWait 0, .ok 0⟩] ∧
    holders 0 [⟨2, 2, .semWait 0, .ok 0⟩, ⟨1, 1, .semPost 0, .ok 0⟩, ⟨1, 1, .semWait 0, .ok 0⟩] = [2] ∧
    holders 0 [⟨1, 1, .semWait 0, .ok 0⟩] = [1] := by
  simp [Bracketed, holders, isAcq, isRel]

/-
  FULL STATEMENT (false of the code):

  theorem lock_is_mutex_while_segment_exists : for every schedule without an owner free of the segment
      name `k` (no `shm_unlink (k)`), SIGKILLs included, all live handles of `k` lock ONE semaphore.

  It fails after a creator is killed between `close` and its `p_semaphore_new` (crash points 3 and 4 of
  `p_shm_new`): the segment exists without a lock semaphore; the next follower's OPEN-mode
  `p_semaphore_new` creates it and therefore has `sem_created = TRUE`; when that follower — not an owner
  of the segment — frees its handle, `pp_semaphore_clean_handle` unlinks the lock name while the segment
  and the other handles live on; the next opener creates a SECOND lock semaphore.  `lock_is_mutex` /
  `at_most_one_in_critical_section` exclude it through `QuietRun (.lock k)` (that `p_shm_free` is a call
  that may unlink the lock key).
-/

/-- the witness: creator (process 0) killed after 4 system calls; followers 1 and 2 open; 1 frees; 3 opens -/
def lockLostWitness : G :=
  let g0 := (List.replicate 4 (Action.step 0 false)).foldl exec ((G.init id).start 0 (.newShm 0 0 64 false))
  let g1 := g0.kill 0
  let g2 := (g1.call 1 (.newShm 1 0 0 false)).call 2 (.newShm 2 0 0 false)
  let g3 := g2.call 1 (.free 1)
  g3.call 3 (.newShm 3 0 0 false)

/-- negation on the witness: no `shm_unlink` has happened and the segment name is still bound, handles 2
    and 3 map the same segment, but they hold DIFFERENT lock semaphores of value 1 each, and both
    `p_shm_lock` calls succeed at once -/
theorem follower_free_unlinks_lock_false :
    lockLostWitness.os.shmNames 0 = some 0 ∧
    (lockLostWitness.log.all fun e => decide (e.sys ≠ .shmUnlink 0)) = true ∧
    segOf lockLostWitness 2 = some 0 ∧ segOf lockLostWitness 3 = some 0 ∧
    lockOf lockLostWitness 2 = some 0 ∧ lockOf lockLostWitness 3 = some 1 ∧
    ((lockLostWitness.call 2 (.lock 2)).call 3 (.lock 3)).ret 2 = some .unit ∧
    ((lockLostWitness.call 2 (.lock 2)).call 3 (.lock 3)).ret 3 = some .unit := by decide +kernel

/-! ## failing system calls (the failure exits of `pp_shm_create_handle` and the clean-up)

`Action.fail t e` = the system call `t` is about to make is not performed and returns `-1 / errno = e`.  The invariants
`MapInv`, `KeyInv`, `SegWF`, `SemKeyWF`, `Agree` are preserved by it, so every `…_interleaved` theorem, `lock_is_mutex`,
`at_most_one_in_critical_section` and `address_freshness` above hold for schedules in which any system call of any call
fails.  The sequential theorems below (`G.callF`, failure script: index of the system call ↦ errno) say what a failed
`p_shm_new` leaves behind: exactly what was acquired so far is released — descriptor closed, mapping removed, a name the
call created itself unlinked again, a name it found untouched — and no handle exists. -/

/-- creator whose `ftruncate` fails: descriptor closed, name unlinked again, no mapping, no handle -/
theorem creator_ftruncate_failure_is_clean (g : G) (t : Tid) (h : Hid) (k : ShmKey) (size : Nat) (ro : Bool) (e : Errno)
    (hi : Idle g t) (hh : g.hs h = none) (hk : g.os.shmNames k = none) :
    let g' := g.callF t (.newShm h k size ro) [(1, e)]
    g'.os.shmNames k = none ∧ g'.os.semNames = g.os.semNames ∧ g'.hs = g.hs ∧ g'.ret t = some (.fail e) ∧ g'.calls t = none ∧
    (g'.os.procs (g.pidOf t)).maps = (g.os.procs (g.pidOf t)).maps ∧
    (g'.os.procs (g.pidOf t)).fds = (g.os.procs (g.pidOf t)).fds.filter (fun x => !decide (x.1 = (g.os.procs (g.pidOf t)).nextFd)) := by
  have c1 := shmCreat1
  simp [ipc_run, hi.alive, hi.idle, hh, hk, c1]

/-- creator whose `mmap` fails -/
theorem creator_mmap_failure_is_clean (g : G) (t : Tid) (h : Hid) (k : ShmKey) (size : Nat) (ro : Bool) (e : Errno)
    (hi : Idle g t) (hh : g.hs h = none) (hk : g.os.shmNames k = none) :
    let g' := g.callF t (.newShm h k size ro) [(2, e)]
    g'.os.shmNames k = none ∧ g'.os.semNames = g.os.semNames ∧ g'.hs = g.hs ∧ g'.ret t = some (.fail e) ∧ g'.calls t = none ∧
    (g'.os.procs (g.pidOf t)).maps = (g.os.procs (g.pidOf t)).maps ∧
    (g'.os.procs (g.pidOf t)).fds = (g.os.procs (g.pidOf t)).fds.filter (fun x => !decide (x.1 = (g.os.procs (g.pidOf t)).nextFd)) := by
  have c1 := shmCreat1
  simp [ipc_run, hi.alive, hi.idle, hh, hk, c1]

/-- creator whose lock semaphore cannot be created (its `sem_open` fails with anything but EINTR / EEXIST): the mapping is
    removed (no mapping at the address `mmap` returned), the name is unlinked again, no semaphore name appears -/
theorem creator_lock_failure_is_clean (g : G) (t : Tid) (h : Hid) (k : ShmKey) (size : Nat) (ro : Bool) (e : Errno)
    (hi : Idle g t) (hh : g.hs h = none) (hk : g.os.shmNames k = none) (hs : size ≠ 0) (h1 : e ≠ .EINTR) (h2 : e ≠ .EEXIST)
    (hfresh : ∀ m ∈ (g.os.procs (g.pidOf t)).maps, m.addr ≠ (g.os.procs (g.pidOf t)).nextAddr) :
    let g' := g.callF t (.newShm h k size ro) [(4, e)]
    g'.os.shmNames k = none ∧ g'.os.semNames = g.os.semNames ∧ g'.hs = g.hs ∧ g'.ret t = some (.fail e) ∧ g'.calls t = none ∧
    (g'.os.procs (g.pidOf t)).maps = (g.os.procs (g.pidOf t)).maps := by
  have c1 := shmCreat1
  simp [ipc_run, hi.alive, hi.idle, hh, hk, hs, c1]
  simpa [Proc.afterNew, hi.alive] using munmapF_afterNew (g.os.procs (g.pidOf t)) g.os.nextSeg size ro hfresh

/-- follower whose `fstat` fails: descriptor closed, nothing else changed -/
theorem follower_fstat_failure_is_clean (g : G) (t : Tid) (h : Hid) (k : ShmKey) (req : Nat) (ro : Bool) (s : SegId) (e : Errno)
    (hi : Idle g t) (hh : g.hs h = none) (hk : g.os.shmNames k = some s) :
    let g' := g.callF t (.newShm h k req ro) [(2, e)]
    g'.os.shmNames = g.os.shmNames ∧ g'.os.segs = g.os.segs ∧ g'.os.semNames = g.os.semNames ∧ g'.hs = g.hs ∧
    g'.ret t = some (.fail e) ∧ g'.calls t = none ∧ (g'.os.procs (g.pidOf t)).maps = (g.os.procs (g.pidOf t)).maps := by
  have c1 := shmExcl1
  have c2 := shmPlain2
  simp [ipc_run, hi.alive, hi.idle, hh, hk, c1, c2]

/-- an owner's `p_shm_free` whose `munmap` fails: the clean-up goes on, segment name and lock name are removed -/
theorem owner_free_goes_on_after_munmap_failure (g : G) (t : Tid) (h : Hid) (y : PShm) (s : SegId) (ol : ObjId) (e : Errno) (hi : Idle g t)
    (hh : g.hs h = some (g.pidOf t, .shm y)) (hc : y.created = true) (hsc : y.sem.created = true)
    (hk : g.os.shmNames y.key = some s) (hl : g.os.semNames y.sem.key = some ol) :
    let g' := g.callF t (.free h) [(0, e)]
    g'.os.shmNames y.key = none ∧ g'.os.semNames y.sem.key = none ∧ g'.hs h = none ∧ g'.calls t = none ∧
    (g'.os.procs (g.pidOf t)).maps = (g.os.procs (g.pidOf t)).maps := by
  simp [ipc_run, hi.alive, hi.idle, hh, hc, hsc, hk, hl]


/-- non-vacuity: hypotheses are satisfiable (initial state), and the concrete runs -/
example := creator_ftruncate_failure_is_clean (G.init id) 0 0 0 4096 false .ENOMEM ⟨rfl, rfl⟩ rfl rfl
example := creator_mmap_failure_is_clean (G.init id) 0 0 0 4096 false .ENOMEM ⟨rfl, rfl⟩ rfl rfl
example := creator_lock_failure_is_clean (G.init id) 0 0 0 4096 false .EMFILE ⟨rfl, rfl⟩ rfl rfl (by decide) (by decide) (by decide)
          (by intro m hm; cases hm)
example : let g := ((G.init id).call 0 (.newShm 0 0 64 false)).callF 1 (.newShm 1 0 16 false) [(2, .EACCES)]
    g.ret 1 = some (.fail .EACCES) ∧ g.hs 1 = none ∧ g.os.shmNames 0 = some 0 ∧ (g.os.procs 1).maps = [] ∧ (g.os.procs 1).fds = [] := by decide +kernel
example : let g := ((G.init id).call 0 (.newShm 0 0 64 false)).callF 0 (.free 0) [(0, .EINVAL)]
    g.os.shmNames 0 = none ∧ g.os.semNames (.lock 0) = none ∧ (g.os.procs 0).maps.length = 1 := by decide +kernel
/-- every close site: a failing `close` is only a warning, the call goes on (success at site 4, failure paths at 1-3) -/
example : ((G.init id).callF 0 (.newShm 0 0 64 false) [(3, .EBADF)]).ret 0 = some (.shm ⟨true, 0, 1, 64, ⟨true, .lock 0, 0, .create, 1⟩, false⟩) ∧
    ((G.init id).callF 0 (.newShm 0 0 64 false) [(1, .ENOMEM), (2, .EBADF)]).ret 0 = some (.fail .ENOMEM) ∧
    (((G.init id).callF 0 (.newShm 0 0 64 false) [(1, .ENOMEM), (2, .EBADF)]).os.shmNames 0) = none := by decide +kernel
example := mapInv_reachable id [.start 0 (.newShm 0 0 64 false), .step 0 false, .fail 0 .ENOMEM, .step 0 false, .fail 0 .EACCES]

/-- computable form of `NoShmUnlink` -/
def noShmUnlinkB (k : ShmKey) : G → List Action → Bool
  | _, [] => true
  | g, a :: as =>
    (match a with
     | .step t _ => (match g.calls t with
                     | some c => decide (c.next ≠ .shmUnlink k)
                     | none => true)
     | _ => true) && noShmUnlinkB k (exec g a) as

theorem noShmUnlinkB_spec (k : ShmKey) (as : List Action) : ∀ g, noShmUnlinkB k g as = true → NoShmUnlink k g as := by
  induction as with
  | nil => intro g _; trivial
  | cons a as ih =>
    intro g h
    simp only [noShmUnlinkB, Bool.and_eq_true] at h
    refine ⟨?_, ih _ h.2⟩
    cases a with
    | step t i =>
      intro c hc
      have h1 := h.1
      simp only [hc, decide_eq_true_eq] at h1
      exact h1
    | start t op => trivial
    | kill p => trivial
    | fail t e => trivial

/-- process 0 has created name 0 (64 bytes); then processes 1 and 2 open it (16 bytes / whole segment)
    with their system calls strictly alternating, while process 0 stores a byte in between -/
def interleavedOpens : List Action :=
  [.start 1 (.newShm 1 0 16 false), .start 2 (.newShm 2 0 0 false),
   .step 1 false, .step 2 false, .step 1 false, .start 0 (.wr 0 3 7), .step 2 false, .step 1 false, .step 2 false,
   .step 1 false, .step 2 false, .step 1 false, .step 2 false, .step 1 false, .step 2 false, .step 1 false, .step 2 false]

set_option maxRecDepth 100000 in
/-- the hypotheses of `segment_exists_while_not_unlinked` / `same_name_same_bytes_interleaved` /
    `no_fault_below_size_interleaved` hold for this run, both followers got their handles, and the
    handles are of different reported sizes -/
example :
    (G.init id).hs 0 = none ∧ (G.init id).os.shmNames 0 = none ∧
    noShmUnlinkB 0 ((G.init id).call 0 (.newShm 0 0 64 false)) interleavedOpens = true ∧
    (execAll ((G.init id).call 0 (.newShm 0 0 64 false)) interleavedOpens).hs 1 =
      some (1, .shm ⟨false, 0, 1, 16, ⟨false, .lock 0, 0, .open, 1⟩, false⟩) ∧
    (execAll ((G.init id).call 0 (.newShm 0 0 64 false)) interleavedOpens).hs 2 =
      some (2, .shm ⟨false, 0, 1, 64, ⟨false, .lock 0, 0, .open, 1⟩, false⟩) ∧
    (execAll ((G.init id).call 0 (.newShm 0 0 64 false)) interleavedOpens).calls 1 = none ∧
    (execAll ((G.init id).call 0 (.newShm 0 0 64 false)) interleavedOpens).calls 2 = none := by decide +kernel

/-- the state after that run -/
def afterInterleavedOpens : G := execAll ((G.init id).call 0 (.newShm 0 0 64 false)) interleavedOpens

theorem afterInterleavedOpens_facts :
    noShmUnlinkB 0 ((G.init id).call 0 (.newShm 0 0 64 false)) interleavedOpens = true ∧
    afterInterleavedOpens.hs 1 = some (afterInterleavedOpens.pidOf 1, .shm ⟨false, 0, 1, 16, ⟨false, .lock 0, 0, .open, 1⟩, false⟩) ∧
    afterInterleavedOpens.hs 2 = some (afterInterleavedOpens.pidOf 2, .shm ⟨false, 0, 1, 64, ⟨false, .lock 0, 0, .open, 1⟩, false⟩) ∧
    (afterInterleavedOpens.os.procs (afterInterleavedOpens.pidOf 1)).alive = true ∧ afterInterleavedOpens.calls 1 = none ∧
    (afterInterleavedOpens.os.procs (afterInterleavedOpens.pidOf 2)).alive = true ∧ afterInterleavedOpens.calls 2 = none := by
  decide +kernel

/-- … and the general theorem applies to it: what process 1 stores at offset 5 is what process 2 loads -/
example (b : UInt8) :
    ((afterInterleavedOpens.call 1 (.wr 1 5 b)).call 2 (.rd 2 5)).ret 2 = some (.byte b) := by
  have hinit := reachable_invariants id []
  obtain ⟨f0, f1, f2, f3, f4, f5, f6⟩ := afterInterleavedOpens_facts
  have hex := segment_exists_while_not_unlinked (G.init id) 0 0 0 64 false interleavedOpens hinit.1 hinit.2 ⟨rfl, rfl⟩ rfl rfl
    (by decide) (by intro h' p y hy; simp [G.init] at hy) (by intro t' hid st hc; simp [G.init] at hc)
    (noShmUnlinkB_spec 0 _ _ f0)
  exact same_name_same_bytes_interleaved 0 _ 64 afterInterleavedOpens [] hex.1 hex.2 trivial 1 2 1 2
    ⟨false, 0, 1, 16, ⟨false, .lock 0, 0, .open, 1⟩, false⟩ ⟨false, 0, 1, 64, ⟨false, .lock 0, 0, .open, 1⟩, false⟩ 5 b
    ⟨f3, f4⟩ ⟨f5, f6⟩ f1 f2 rfl rfl rfl (by decide) (by decide)

end PV.IPC.C07
