import PV.Lemmas.SocketCalls
import PV.Lemmas.SocketGetters
import PV.Lemmas.SocketFd
/-!
# C10 — Socket modes and lifecycle

Theorems about the model `PV.Model.Socket` of `psocket.c`; every statement is for all scripts of
native results (and, where sequences are involved, all call sequences).

§1 closed_is_dead / close_idempotent · §3 timeout_semantics / nonblocking_never_waits · §2 getters_reflect ·
§4 cloexec · §5 fd_closed_once · §6 failure paths reached by the directed cases of the coverage audit
(`refused_address_connect / _send_to / _bind`: an address object `p_socket_address_to_native` rejects;
`new_from_fd_null_iff_error`, `new_from_fd_keeps_descriptor`: the error returns of adoption; `adopted_identity`:
family / protocol / connected of an adopted socket, incl. families the library does not know) ·
§7 `p_socket_shutdown` reads every pair of C ints as truth values (`shutdown_source_as_modelled`, `shutdown_args_full`,
`shutdown_reads_truth_values`; the `== TRUE` reading of the code before its repair: `shutdown_args_historical_witness`).
-/
namespace PV.Socket
open PV.Generated.Socket

/-! ## 1. `closed_is_dead`, `close_idempotent` -/

def demoSockC10 : Sock := { family := AF_INET, protocol := 6, type := 1, fd := 5, listen_backlog := 5, timeout := 50, blocking := true, connected := true }

def notAvailable : PErr := { code := P_ERROR_IO_NOT_AVAILABLE, native := 0, msg := "Socket is already closed" }

/-- no argument is rejected before `pp_socket_check` is reached -/
def Call.argsOk : Call → Bool
  | .bind a _ => a ≠ .null
  | .connect a => a ≠ .null
  | .receive bn _ => !bn
  | .receiveFrom _ bn n => !bn && n ≠ 0
  | .send b n => b.isSome && n ≠ 0
  | .sendTo a b _ => a ≠ .null && b.isSome
  | _ => true

/-- the value each guarded function returns on failure -/
def Call.failRet : Call → Int
  | .receive .. | .receiveFrom .. | .send .. | .sendTo .. => -1
  | _ => 0

section
attribute [local simp] call callM check Call.argsOk Call.failRet notAvailable M.bind M.pure pure

/-- After `close`, every call guarded by `pp_socket_check` fails with NOT_AVAILABLE (INVALID_ARGUMENT
    if an argument is NULL — that test comes first), touches **no** descriptor (`tr = []`), consumes
    nothing and leaves the object as it was. -/
theorem closed_is_dead (s : Sock) (hc : s.closed = true) (c : Call) (hg : c.guarded = true) (script : Script) (e : Int) :
    call s c script e =
      .ok { sock := s, out := failOut c.failRet (if c.argsOk then notAvailable else invalidArg),
            tr := [], rest := script, errno := e } := by
  cases c <;> simp [Call.guarded] at hg
  case bind a r => cases a <;> simp [bind, hc]
  case connect a => cases a <;> simp [connect, hc]
  case listen => simp [listen, hc]
  case accept => simp [accept, hc]
  case receive bn n => cases bn <;> simp [receive, hc]
  case receiveFrom w bn n =>
    cases bn <;> by_cases h0 : n = 0 <;>
      simp [receiveFrom, hc, h0]
  case send b n =>
    cases b <;> by_cases h0 : n = 0 <;>
      simp [send, hc, h0]
  case sendTo a b n =>
    cases a <;> cases b <;> simp [sendTo, hc]
  case shutdown r w => simp [shutdown, hc]
  case setBufferSize d n => simp [setBufferSize, hc]
  case ioWait cnd => simp [ioWait, hc]

end

/-- a successful `close` issues exactly `close (fd)`, and leaves `closed`, `fd = −1`, not connected, not listening -/
theorem close_effect (s : Sock) (hc : s.closed = false) (script : Script) (e : Int) (r : CallResult)
    (h : call s .close script e = .ok r) :
    r.tr.map (·.call) = [.close s.fd] ∧
    (r.out.ret = 1 →
      r.sock = { s with connected := false, closed := true, listening := false, fd := -1 } ∧ r.out.err = none) ∧
    (r.out.ret ≠ 1 → r.sock = s ∧ r.out.err.isSome) := by
  obtain ⟨er, b, h', ho⟩ := callM_close_ok (call_ok h)
  rcases (close_spec s).elim h' with ⟨hc', _⟩ | ⟨_, rc, htr, hx⟩
  · rw [hc] at hc'; cases hc'
  · rw [htr, ho]
    rcases hx with ⟨_, hx⟩ | ⟨_, e, hx⟩
    all_goals
      simp only [Prod.mk.injEq] at hx
      obtain ⟨h1, rfl, rfl⟩ := hx
      simp [h1, b2i]

/-- `close` on a closed socket: TRUE, no native call -/
theorem close_idempotent (s : Sock) (hc : s.closed = true) (script : Script) (e : Int) :
    call s .close script e = .ok { sock := s, out := { ret := 1 }, tr := [], rest := script, errno := e } := by
  simp [call, callM, close, hc, M.bind, M.pure, pure, b2i]

/-- After `close` the object holds `fd = −1` (`close_effect`), so whatever a later call does — the guarded
    ones issue nothing, the unguarded query calls (`check_connect_result`, `set_keepalive`,
    `get_local/remote_address`) do issue their native call — no native call carries a descriptor other than
    the object's `fd` field, i.e. −1: the old number is never used again. -/
theorem dead_socket_descriptor (s : Sock) (hc : s.closed = true) (c : Call) (script : Script) (e : Int) (r : CallResult)
    (h : call s c script e = .ok r) : ∀ ev ∈ r.tr, ev.call.fd? = none ∨ ev.call.fd? = some s.fd := by
  by_cases hg : c.guarded = true
  · rw [closed_is_dead s hc c hg] at h
    injection h with h; subst h; simp
  · refine TrAll.of_call s c ?_ script e r h
    cases c <;> simp [Call.guarded] at hg <;> simp only [callM]
    case close => unfold close; tr_all (simp [Issued.fd?])
    case checkConnectResult => unfold checkConnectResult; tr_all (simp [Issued.fd?])
    case setKeepalive => unfold setKeepalive; tr_all (simp [Issued.fd?])
    case getLocal => unfold getAddress; tr_all (simp [Issued.fd?])
    case getRemote => unfold getAddress; tr_all (simp [Issued.fd?])
    all_goals exact TrAll.pure _

example : call { demoSockC10 with } .close [{ sys := .close, ret := .ok 0 }] =
    .ok { sock := { demoSockC10 with connected := false, closed := true, listening := false, fd := -1 },
          out := { ret := 1 }, tr := [⟨.close 5, { sys := .close, ret := .ok 0 }⟩], rest := [], errno := 0 } := by
  rfl

/-! ## 3. `timeout_semantics`, `nonblocking_never_waits` -/

/-- **timeout_semantics (1)**: whatever the call, the mode and the script, every wait the library makes is
    `poll ({fd}, 1, T)` with the socket's own descriptor and `T = timeout` if `timeout > 0`, else `−1`
    (blocks until the condition holds).  In particular a shortened, zero or negative-but-not-−1 timeout is
    never handed to `poll`, and an interrupted `poll` is re-issued with the **full** `T`. -/
theorem timeout_semantics (s : Sock) (c : Call) (script : Script) (e : Int) (r : CallResult)
    (h : call s c script e = .ok r) : ∀ ev ∈ r.tr, pollArgsOk s.fd s.timeout ev :=
  TrAll.of_call s c (callM_polls s c) script e r h

/-- the error `p_socket_io_condition_wait` makes when its `poll` returned 0 -/
def isWaitTimeout (pe : PErr) : Prop := pe.msg = msgTimedOut

/-- **timeout_semantics (2)**: the time-out error of a data loop is produced only by a `poll` that returned 0
    — the last native call made — and by (1) that `poll` was given the full `T`; so, the kernel keeping its
    `poll` contract, not before `T` elapsed.  (Loop level: covers receive, receive_from, send, send_to, accept.) -/
theorem timed_out_only_from_poll_zero (c : LoopCfg) (hmsg : c.failMsg ≠ msgTimedOut) (ph : Phase) (script : Script) (e : Int)
    (pe : PErr) (h : (ioLoop c ph script e).fin = .fail pe) (ht : isWaitTimeout pe) :
    ∃ r, (ioLoop c ph script e).evs.getLast? = some ⟨c.poll, r⟩ ∧ r.ret = .ok 0 :=
  ioLoop_timeout_from_poll0 c ph script e pe h ht hmsg

/-- the same at API level for `p_socket_receive` … -/
theorem timed_out_only_from_poll_zero_receive (s : Sock) (hc : s.closed = false) (n : Nat) (script : Script) (e : Int)
    (r : CallResult) (pe : PErr) (h : call s (.receive false n) script e = .ok r) (he : r.out.err = some pe)
    (ht : isWaitTimeout pe) :
    ∃ x, r.tr.getLast? = some ⟨.poll s.fd pollEventsIn (pollTimeout s) 1, x⟩ ∧ x.ret = .ok 0 := by
  rw [receive_eq s hc] at h
  obtain ⟨hf, hr⟩ := ofLoop_ok_err _ _ _ _ _ pe (by intro x; rfl) h he
  obtain ⟨x, h1, h2⟩ := ioLoop_timeout_from_poll0 _ _ _ _ pe hf ht (by simp [recvCfg, loopCfg, msgTimedOut])
  exact ⟨x, by subst hr; simpa [recvCfg, loopCfg, pollCall, pollEvents, P_SOCKET_IO_CONDITION_POLLIN] using h1, h2⟩

/-- … `p_socket_send` … -/
theorem timed_out_only_from_poll_zero_send (s : Sock) (hc : s.closed = false) (b : Bytes) (n : Nat) (hn : n ≠ 0)
    (script : Script) (e : Int) (r : CallResult) (pe : PErr)
    (h : call s (.send (some b) n) script e = .ok r) (he : r.out.err = some pe) (ht : isWaitTimeout pe) :
    ∃ x, r.tr.getLast? = some ⟨.poll s.fd pollEventsOut (pollTimeout s) 1, x⟩ ∧ x.ret = .ok 0 := by
  rw [send_eq s hc b n hn] at h
  obtain ⟨hf, hr⟩ := ofLoop_ok_err _ _ _ _ _ pe (by intro x; rfl) h he
  obtain ⟨x, h1, h2⟩ := ioLoop_timeout_from_poll0 _ _ _ _ pe hf ht (by simp [sendCfg, loopCfg, msgTimedOut])
  exact ⟨x, by subst hr; simpa [sendCfg, loopCfg, pollCall, pollEvents, P_SOCKET_IO_CONDITION_POLLIN, P_SOCKET_IO_CONDITION_POLLOUT] using h1, h2⟩

/-- … and `p_socket_io_condition_wait` itself (used by blocking connect). -/
theorem timed_out_only_from_poll_zero_wait (s : Sock) (hc : s.closed = false) (cond : Int)
    (script : Script) (e : Int) (r : CallResult) (pe : PErr)
    (h : call s (.ioWait cond) script e = .ok r) (he : r.out.err = some pe) (ht : isWaitTimeout pe) :
    ∃ x, r.tr.getLast? = some ⟨.poll s.fd (pollEvents cond) (pollTimeout s) 1, x⟩ ∧ x.ret = .ok 0 := by
  rw [ioWait_eq s hc] at h
  obtain ⟨hf, hr⟩ := ofLoop_ok_err _ _ _ _ _ pe (by intro x; rfl) h he
  obtain ⟨x, h1, h2⟩ := pollLoop_timeout_from_poll0 _ _ _ pe hf ht
  exact ⟨x, by subst hr; simpa [pollCall] using h1, h2⟩

/-- an error code TIMED_OUT that is *not* the wait's own comes from the kernel reporting ETIMEDOUT
    (a real reason), never from the library's timer: the wait's error is the only one built without a native failure -/
theorem other_timed_out_is_ETIMEDOUT (e : Int) (h : ioFromSystem e = P_ERROR_IO_TIMED_OUT) : e = ETIMEDOUT :=
  code_of_class h (by decide) (by decide)

/-- non-vacuity: T = 50 ms, `poll` is interrupted, re-issued with 50 again, then times out -/
example : (call demoSockC10 (.receive false 4) [{ sys := .poll, ret := .err EINTR }, { sys := .poll, ret := .ok 0 }]).toOption.map
    (fun r => (r.out.err.map (·.code), r.tr.map (·.call))) =
    some (some P_ERROR_IO_TIMED_OUT, [.poll 5 POLLIN 50 1, .poll 5 POLLIN 50 1]) := by decide

/-- with no timeout the wait is unbounded -/
example : (call { demoSockC10 with timeout := 0 } (.receive false 4) [{ sys := .poll, ret := .ok 1 }, { sys := .recv, ret := .ok 0 }]).toOption.map
    (fun r => r.tr.map (·.call)) = some [.poll 5 POLLIN (-1) 1, .recv 5 0 4 0] := by decide

/-! ### non-blocking -/

/-- the calls that may block -/
def Call.mayWait : Call → Bool
  | .send .. | .sendTo .. | .receive .. | .receiveFrom .. | .accept | .connect .. => true
  | _ => false

/-- **nonblocking_never_waits (1)**: with `blocking = FALSE`, send / send_to / receive / receive_from / accept /
    connect issue no `poll` at all, on any script. -/
theorem nonblocking_never_waits (s : Sock) (hb : s.blocking = false) (c : Call) (hw : c.mayWait = true)
    (script : Script) (e : Int) (r : CallResult) (h : call s c script e = .ok r) :
    ∀ ev ∈ r.tr, ev.call.sys ≠ .poll := by
  apply TrAll.of_call (P := noPoll) s c _ script e r h
  have other : ∀ ev : Ev, ev.call.sys ∉ [.poll] → noPoll ev := fun ev h => by simpa [noPoll] using h
  cases c <;> simp [Call.mayWait] at hw <;> simp only [callM]
  case receive bn n =>
    unfold receive; tr_all (skip)
    exact runLoop_noPoll s hb _ _ _ (by simp [recvCall, Issued.sys])
  case receiveFrom w bn n =>
    unfold receiveFrom; tr_all (simp [noPoll, Issued.sys])
    exact runLoop_noPoll s hb _ _ _ (by simp [recvfromCall, Issued.sys])
  case send b n =>
    unfold send; tr_all (skip)
    exact runLoop_noPoll s hb _ _ _ (by simp [sendCall, Issued.sys])
  case sendTo a b n =>
    unfold sendTo; tr_all (skip)
    exact runLoop_noPoll s hb _ _ _ (by simp [sendtoCall, Issued.sys])
  case accept =>
    unfold accept; tr_all (simp [noPoll, Issued.sys])
    · exact runLoop_noPoll s hb _ _ _ (by simp [Issued.sys])
    · exact (cloexecBlock_only ..).trAll _ other
    · exact (newFromFd_only _).trAll _ other
  case connect a =>
    unfold connect
    simp only [hb]
    tr_all (skip)
    · exact TrAll.liftLoop _ fun sc e ev hev => by unfold noPoll; rw [connLoop_calls _ sc e ev hev]; simp [Issued.sys]
    all_goals simp_all

/-- **nonblocking_never_waits (2)**: a would-block answer of the data call is handed back at once as
    WOULD_BLOCK, after exactly that one native call (loop level: all five data calls) -/
theorem nonblocking_wouldblock_at_once (c : LoopCfg) (hb : c.blocking = false) (r : Res) (rest : Script) (e x : Int)
    (hs : r.sys = c.call.sys) (hr : r.ret = .err x) (hw : ioFromSystem x = P_ERROR_IO_WOULD_BLOCK) :
    ioLoop c (startPhase c) (r :: rest) e =
      ⟨.fail { code := P_ERROR_IO_WOULD_BLOCK, native := x, msg := c.failMsg }, [⟨c.call, r⟩], rest, x⟩ := by
  have : startPhase c = .data := by simp [startPhase, hb]
  rw [this]
  exact ioLoop_nonblocking_wouldblock c hb r rest e x hs hr hw

/-- … for `p_socket_receive` at API level: `recv → EAGAIN` gives `−1`, WOULD_BLOCK / EAGAIN, one native call -/
theorem nonblocking_receive_wouldblock (s : Sock) (hb : s.blocking = false) (hc : s.closed = false) (n : Nat) (rest : Script) (e : Int) :
    call s (.receive false n) ({ sys := .recv, ret := .err EAGAIN } :: rest) e =
      .ok { sock := s,
            out := failOut (-1) { code := P_ERROR_IO_WOULD_BLOCK, native := EAGAIN, msg := "Failed to call recv() on socket" },
            tr := [⟨.recv s.fd 0 (toSocklen n) recvFlags, { sys := .recv, ret := .err EAGAIN }⟩], rest := rest, errno := EAGAIN } := by
  rw [receive_eq s hc]
  rw [nonblocking_wouldblock_at_once (recvCfg s n) (by simp [recvCfg, loopCfg, hb]) _ rest e EAGAIN
    (by simp [recvCfg, loopCfg, recvCall, Issued.sys]) rfl io_EAGAIN]
  simp [ofLoop, recvCfg, loopCfg, recvCall]

/-! ## 2. `getters_reflect`

Spec: the record `PV.Socket.Spec.Flags` (timeout, backlog, blocking, keepalive, connected, closed,
listening) updated by `Spec.step` — timeout clamped at 0; backlog frozen while listening; keepalive
only on a successful `setsockopt`; connected set by a successful connect / check_connect_result (and
by accept / new_from_fd when `getpeername` succeeds), cleared by close, by shutdown of both
directions and by a SO_ERROR ≠ 0 ("Error in socket layer"); closed / listening by close / listen. -/

/-- one call, every script: the object's mode/lifecycle fields after the call are the spec record's -/
theorem getters_reflect_step (s : Sock) (c : Call) (script : Script) (e : Int) (r : CallResult)
    (h : call s c script e = .ok r) :
    Spec.flagsOf r.sock = Spec.step (Spec.flagsOf s) c r.out r.tr :=
  (call_good s c script e r h).flags

/-- no call changes family / type / protocol; `fd` changes only in `close` (to −1), so `closed → fd = −1` is invariant -/
theorem getters_identity_fields (s : Sock) (c : Call) (script : Script) (e : Int) (r : CallResult)
    (h : call s c script e = .ok r) :
    (r.sock.family = s.family ∧ r.sock.type = s.type ∧ r.sock.protocol = s.protocol) ∧
    (r.sock.fd = s.fd ∨ (c = .close ∧ r.sock.fd = -1)) ∧
    ((s.closed = true → s.fd = -1) → (r.sock.closed = true → r.sock.fd = -1)) :=
  have g := call_good s c script e r h
  ⟨g.identity, g.fd.imp And.left id, fun hi hcl => g.fd.elim (fun h1 => h1.1 ▸ hi (h1.2 ▸ hcl)) (·.2)⟩

/-- a socket made by `p_socket_new` starts blocking, timeout 0, backlog 5, not connected / closed / listening / keepalive -/
theorem getters_of_new (f t p : Int) (script : Script) (e : Int) (s : Sock) (err : Option PErr) (st : St) (evs : List Ev)
    (h : runM (new f t p) script e = .ok ((some s, err), st, evs)) :
    Spec.flagsOf s = Spec.fresh ∧ s.family = f ∧ s.type = t ∧ s.protocol = p :=
  have g := (new_res f t p).elim (runM_ok h) s rfl
  ⟨g.1, g.2.1, g.2.2.1, g.2.2.2.1⟩

/-- an accepted socket: as `Spec.adopted` (connected iff `getpeername` worked, keepalive as the kernel says), protocol of the listener -/
theorem getters_of_accepted (s : Sock) (script : Script) (e : Int) (r : CallResult) (ns : Sock)
    (h : call s .accept script e = .ok r) (hs : r.out.sock = some ns) :
    Spec.flagsOf ns = Spec.adopted r.tr ∧ ns.protocol = s.protocol :=
  have g := (callM_accept_res s).elim (call_ok h) ns hs
  ⟨g.1, g.2.1⟩

/-- **getters_reflect**: after ANY sequence of API calls (new / new_from_fd / any call on any slot incl. accept /
    free) with ANY native answers, starting from nothing, the fields behind the connected / closed / keepalive /
    blocking / timeout / backlog getters of every socket held equal the spec record (`run`, `sstep` in
    `PV.Lemmas.SocketGetters`) -/
theorem getters_reflect (steps : List (WCall × Script)) (e : Int) (slot : Nat) :
    (World.get (run [] [] e steps).1 slot).map Spec.flagsOf = SWorld.get (run [] [] e steps).2 slot :=
  run_inv steps [] [] e (fun _ => rfl) slot

/-- non-vacuity: adopt fd 5 (connected, keepalive), timeout −3 → 0, backlog 9, listen, backlog 11 (frozen),
    shutdown both, close twice, call on an empty slot — model and spec worlds agree, and are not trivial -/
example : (run [] [] 0 demoSteps).1.map (fun p => (p.1, Spec.flagsOf p.2)) = (run [] [] 0 demoSteps).2
    ∧ (run [] [] 0 demoSteps).2.length = 1 := by decide

/-! ## 4. `cloexec`   (kernel side: `cloexecAfter`, contract `fcntlFdOk` — trusted)

`p_socket_new` asks for SOCK_CLOEXEC and then runs `F_GETFD` / `F_SETFD (flags | FD_CLOEXEC)`;
`p_socket_accept` uses plain `accept()` (not `accept4`) followed by the same block, so between the two
native calls the fresh descriptor is inheritable (a window for `fork+exec` in another thread — not
visible to a single-threaded model, recorded as a remark).  "By the time the call returns": -/

/-- every socket object returned by `p_socket_new` holds a descriptor with close-on-exec set, provided the
    `fcntl (F_GETFD / F_SETFD)` calls on it do not fail (they cannot on a valid descriptor) -/
theorem cloexec (f t p : Int) (script : Script) (e : Int) (s : Sock) (err : Option PErr) (st : St) (evs : List Ev)
    (h : runM (new f t p) script e = .ok ((some s, err), st, evs)) (hk : fcntlFdOk s.fd evs = true) :
    cloexecAfter s.fd evs false = true :=
  (cloexec_new f t p).elim (runM_ok h) s rfl hk

/-- … and every socket object returned by `p_socket_accept` (on every path that keeps the descriptor), same proviso -/
theorem cloexec_accepted (s : Sock) (script : Script) (e : Int) (r : CallResult) (ns : Sock)
    (h : call s .accept script e = .ok r) (hs : r.out.sock = some ns) (hk : fcntlFdOk ns.fd r.tr = true) :
    cloexecAfter ns.fd r.tr false = true :=
  (cloexec_accept s).elim (callM_accept_ok (call_ok h)).2 ns hs hk

/-- the code as it is when the proviso fails: `F_SETFD` fails after `accept` → only a warning, the object for
    descriptor 7 is returned and the flag is NOT set -/
example :
    (call { demoSockC10 with connected := false, listening := true } .accept
      ([{ sys := .poll, ret := .ok 1 }, { sys := .accept, ret := .ok 7 }, { sys := .fcntl, ret := .ok 0 },
        { sys := .fcntl, ret := .err EBADF }] ++ newFromFdAnswers)).toOption.map
      (fun r => (r.out.sock.map (·.fd), r.out.sock.map (fun ns => cloexecAfter ns.fd r.tr false))) =
    some (some 7, some false) := by decide

/-! ## 5. `fd_closed_once`   (kernel side: `fdTable` — trusted)

Sequences: `Reach w tr` = the world `w` and the whole trace `tr` reached from nothing by any API calls
(`p_socket_new`, every call on a socket incl. accept / close, `p_socket_free`, init_once) on any scripts;
a slot is only filled when empty (`WCall.Disciplined`; overwriting a live pointer is the caller's leak);
`p_socket_new_from_fd` on a caller-supplied descriptor (ownership transfer) is outside this theorem.
Kernel contract: `FreshFrom [] tr` (socket()/accept() never return a number that is open) and
`ClosesSucceed tr` (close() returns 0). -/

/-- the descriptor table of the whole trace is defined — **no number is passed to `close()` twice or without
    having been obtained** — and the open numbers are exactly, without repetition, the `fd` fields of the live
    objects not marked closed (incl. the failed-`new_from_fd` path inside accept and the failed
    `set_fd_blocking` path inside new, where the library closes the fresh descriptor itself) -/
theorem fd_closed_once_invariant {w : World} {tr : List Ev} (h : Reach w tr) (hfr : FreshFrom [] tr) (hcl : ClosesSucceed tr) :
    ∃ T, fdTable tr [] = some T ∧ FdInv w T :=
  fd_closed_once h hfr hcl

/-- hence, once every object is freed or closed, every descriptor obtained was closed **exactly once** -/
theorem fd_closed_once_all {w : World} {tr : List Ev} (h : Reach w tr) (hfr : FreshFrom [] tr)
    (hcl : ClosesSucceed tr) (hall : w.openFds = []) : fdTable tr [] = some [] :=
  fd_closed_once_balanced h hfr hcl hall

/-- the failing-`close()` case, as the code behaves: `p_socket_close` reports the error and keeps `fd`, a later
    `p_socket_free` passes the same number to `close()` again (on Linux the first call had released it: stray close) -/
theorem failing_close_is_closed_twice :
    ((wstep [(0, demoOpenSock)] (.on 0 .close) [{ sys := .close, ret := .err EINTR }]).toOption.bind fun r1 =>
      (wstep r1.world (.free 0) [{ sys := .close, ret := .ok 0 }]).toOption.map fun r2 =>
        ((r1.tr ++ r2.tr).map (fun ev => (ev.call, ev.res.ret)), fdTable (r1.tr ++ r2.tr) [5])) =
    some ([(.close 5, .err EINTR), (.close 5, .ok 0)], none) := by decide

/-- non-vacuity (conclusion exercised on a concrete run): new → 7, accept → 8, both freed: closes are exactly 7 and 8 -/
example :
    (wrun [] [] [.new 0 AF_INET P_SOCKET_TYPE_STREAM P_SOCKET_PROTOCOL_TCP, .on 0 .accept 1, .free 0, .free 1]
      ([{ sys := .socket, ret := .ok 7 }, { sys := .fcntl, ret := .ok 1 }, { sys := .fcntl, ret := .ok 2 }, { sys := .fcntl, ret := .ok 0 },
        { sys := .poll, ret := .ok 1 }, { sys := .accept, ret := .ok 8 }, { sys := .fcntl, ret := .ok 0 }, { sys := .fcntl, ret := .ok 0 }]
       ++ newFromFdAnswers ++ [{ sys := .close, ret := .ok 0 }, { sys := .close, ret := .ok 0 }]) 0).toOption.map
      (fun x => (x.2.map (·.call) |>.filter (fun c => c.sys == .close), fdTable x.2 [])) =
    some ([.close 7, .close 8], some []) := by decide

/-! ## 6. failure paths: a refused address object, a failing adoption

(the branches of `p_socket_bind / connect / send_to` after `p_socket_address_to_native` answered FALSE, and the
error returns of `p_socket_new_from_fd`; the differential runs reach them through `bad:<hex>` addresses and the
directed adoption cases of `tools/props/sockets.py`) -/

def convFailed : PErr := { code := P_ERROR_IO_FAILED, native := 0, msg := "Failed to convert socket address to native structure" }

/-- `p_socket_connect` with an address object that `p_socket_address_to_native` rejects: FALSE / FAILED, **no** native
    call (in particular no `connect` with an uninitialised `sockaddr_storage`), nothing consumed, and the object — its
    `connected` flag included — is exactly as before; in every mode, whatever the script -/
theorem refused_address_connect (s : Sock) (hc : s.closed = false) (script : Script) (e : Int) :
    call s (.connect .bad) script e = .ok { sock := s, out := failOut 0 convFailed, tr := [], rest := script, errno := e } := by
  simp [call, callM, connect, check, hc, convFailed, M.pure, pure]

/-- … `p_socket_send_to`: −1 / FAILED, no wait, no `sendto` -/
theorem refused_address_send_to (s : Sock) (hc : s.closed = false) (b : Bytes) (n : Nat) (script : Script) (e : Int) :
    call s (.sendTo .bad (some b) n) script e =
      .ok { sock := s, out := failOut (-1) convFailed, tr := [], rest := script, errno := e } := by
  simp [call, callM, sendTo, check, hc, convFailed, M.bind, M.pure, pure]

/-- … `p_socket_bind`: the two best-effort `setsockopt` calls are made (their results are ignored), then FALSE / FAILED
    and **no** `bind`; the object is unchanged -/
theorem refused_address_bind (s : Sock) (hc : s.closed = false) (reuse : Bool) (script : Script) (e : Int) (r : CallResult)
    (h : call s (.bind .bad reuse) script e = .ok r) :
    r.sock = s ∧ r.out = failOut 0 convFailed ∧
    r.tr.map (·.call) = [.setsockopt s.fd SOL_SOCKET SO_REUSEADDR (b2i reuse) 4,
                         .setsockopt s.fd SOL_SOCKET SO_REUSEPORT (b2i (reuse && s.type = P_SOCKET_TYPE_DATAGRAM)) 4] := by
  obtain ⟨o, h', ho⟩ := bind_pure_ok (f := fun o => (s, o)) (fun _ => rfl) (call_ok h)
  have spec : ResAll (fun o evs => o = failOut 0 convFailed ∧ evs.map (·.call) =
      [.setsockopt s.fd SOL_SOCKET SO_REUSEADDR (b2i reuse) 4,
       .setsockopt s.fd SOL_SOCKET SO_REUSEPORT (b2i (reuse && s.type = P_SOCKET_TYPE_DATAGRAM)) 4]) (bind s .bad reuse) := by
    unfold bind
    simp only [check, hc, Bool.false_eq_true, if_false]
    exact ResAll.bind_sys _ _ fun _ => ResAll.bind_sys _ _ fun _ => ResAll.pure _ ⟨rfl, rfl⟩
  obtain ⟨h1, h2⟩ := spec.elim h'
  simp only [Prod.mk.injEq] at ho
  exact ⟨ho.1, ho.2.trans h1, h2⟩

/-- non-vacuity: a connected blocking socket, refused address: nothing is issued although the script offers a `connect` answer -/
example : call demoSockC10 (.connect .bad) [{ sys := .connect, ret := .ok 0 }] =
    .ok { sock := demoSockC10, out := failOut 0 convFailed, tr := [], rest := [{ sys := .connect, ret := .ok 0 }], errno := 0 } :=
  refused_address_connect demoSockC10 rfl _ _
example : (call demoSockC10 (.bind .bad true) [{ sys := .setsockopt, ret := .ok 0 }, { sys := .setsockopt, ret := .err EBADF }, { sys := .bind, ret := .ok 0 }]).toOption.map
    (fun r => (r.out.ret, r.tr.length, r.rest.length)) = some (0, 2, 1) := by decide

/-- `p_socket_new_from_fd` returns NULL **exactly when** it reports an error, on every script: each error return of
    `pp_socket_set_details_from_fd` (SO_TYPE failing or answering with an option length other than `sizeof (int)`,
    `getsockname` failing, the SO_DOMAIN query failing) and of `pp_socket_set_fd_blocking` (F_SETFL failing) and the bad
    descriptor give NULL + error; the success return gives an object and no error -/
theorem new_from_fd_null_iff_error (fd : Int) (script : Script) (e : Int) (so : Option Sock) (err : Option PErr) (st : St) (evs : List Ev)
    (h : runM (newFromFd fd) script e = .ok ((so, err), st, evs)) : so = none ↔ err.isSome = true :=
  ((newFromFd_res fd).elim (runM_ok h)).1

/-- … and it never passes the caller's descriptor to `close()` (nor obtains one): a failed adoption leaves the descriptor
    with the caller; inside `p_socket_accept` the library closes it itself (`fd_closed_once`) -/
theorem new_from_fd_keeps_descriptor (fd : Int) (script : Script) (e : Int) (x : Option Sock × Option PErr) (st : St) (evs : List Ev)
    (h : runM (newFromFd fd) script e = .ok (x, st, evs)) : ∀ ev ∈ evs, ev.call.sys ≠ .close ∧ ev.call.sys ≠ .socket ∧ ev.call.sys ≠ .accept :=
  ((newFromFd_only fd).trAll [.close, .socket, .accept] fun ev h => by simpa [not_or] using h).elim (runM_ok h)

/-- the identity getters (family / type / protocol) and `connected` of an adopted socket, on every script: the family is
    INET, INET6 or UNKNOWN (whatever 16-bit value `getsockname` wrote); for a family the library does not know the
    protocol stays UNKNOWN-as-allocated (0), no `getpeername` result is taken and the object is **not connected**; for
    INET / INET6 the protocol is the one of the native type: STREAM → TCP, DATAGRAM → UDP, SEQPACKET → SCTP, other → 0 -/
theorem adopted_identity (fd : Int) (script : Script) (e : Int) (ns : Sock) (err : Option PErr) (st : St) (evs : List Ev)
    (h : runM (newFromFd fd) script e = .ok ((some ns, err), st, evs)) :
    (ns.family = AF_INET ∨ ns.family = AF_INET6 ∨ ns.family = 0) ∧
    (ns.family = 0 → ns.protocol = 0 ∧ ns.connected = false) ∧
    (ns.family ≠ 0 → ns.protocol = protoOfType ns.type 0) :=
  (((newFromFd_res fd).elim (runM_ok h)).2 ns rfl).2.2.2

/-- non-vacuity: a SEQPACKET socket of family INET is adopted with protocol SCTP; an AF_UNIX descriptor with family
    UNKNOWN, protocol 0, not connected, and no `getpeername` among its four native calls before the fcntl pair -/
example : (runM (newFromFd 6) [{ sys := .getsockopt, ret := .ok 0, val := SOCK_SEQPACKET }, { sys := .getsockname, ret := .ok 0, sa := [2, 0, 0, 80, 127, 0, 0, 1] },
      { sys := .getpeername, ret := .ok 0 }, { sys := .getsockopt, ret := .ok 0, val := 0 }, { sys := .fcntl, ret := .ok 2 }, { sys := .fcntl, ret := .ok 0 }] 0).toOption.map
    (fun x => x.1.1.map (fun ns => (ns.family, ns.type, ns.protocol, ns.connected))) = some (some (AF_INET, P_SOCKET_TYPE_SEQPACKET, P_SOCKET_PROTOCOL_SCTP, true)) := by decide
example : (runM (newFromFd 6) [{ sys := .getsockopt, ret := .ok 0, val := SOCK_STREAM }, { sys := .getsockname, ret := .ok 0, sa := [1, 0, 47, 120, 0] },
      { sys := .getsockopt, ret := .ok 0, val := 1 }, { sys := .fcntl, ret := .ok 2 }, { sys := .fcntl, ret := .ok 0 }] 0).toOption.map
    (fun x => (x.1.1.map (fun ns => (ns.family, ns.protocol, ns.connected, ns.keepalive)), x.2.2.map (·.call.sys))) =
    some (some (0, 0, false, true), [.getsockopt, .getsockname, .getsockopt, .fcntl, .fcntl]) := by decide

/-- non-vacuity: SO_TYPE answers with option length 2 → NULL, INVALID_ARGUMENT, one native call; and a full success -/
example : (runM (newFromFd 6) [{ sys := .getsockopt, ret := .ok 0, val := 1, len := 2 }] 0).toOption.map
    (fun x => (x.1.1.isSome, x.1.2.map (·.code), x.2.2.length)) = some (false, some P_ERROR_IO_INVALID_ARGUMENT, 1) := by decide
example : (runM (newFromFd 6) newFromFdAnswers 0).toOption.map (fun x => (x.1.1.map (·.fd), x.1.2.isSome)) = some (some 6, false) := by decide

/-! ## 7. `p_socket_shutdown`: how the two `pboolean` arguments are read

Full strength: for **every** pair of C ints the direction shut down and the `connected` getter afterwards are those of the
truth values (non-zero = TRUE).  The code normalises both arguments with `!!` before it compares them; the translator pins
that text (`shutdown_source_as_modelled`).

History (known_findings.json, `fixed`, C10): the function used to compare the arguments with `== TRUE` as they came, so
`p_socket_shutdown (s, 2, FALSE)` shut the WRITE direction down and `(2, 2)` shut only WRITE down and left `connected` set.
`shutdownArgsHistorical` below is that reading; `shutdown_args_historical_witness` records where it left the specification
(it is a statement about the old text, not about the code the other theorems are about). -/

/-- the source text of `p_socket_shutdown` is the one `shutdown` / `shutdownArgs` transliterate -/
theorem shutdown_source_as_modelled : shutdownAsModelled = true := by decide

/-- every pair of C ints is read as the caller means it -/
theorem shutdown_args_full (rd wr : Int) : shutdownArgs rd wr = Spec.shutdownArgs rd wr := rfl

/-- `p_socket_shutdown (s, rd, wr)` on an open socket, for every pair of C ints and every script:
    both zero → TRUE at once, no native call, object untouched; otherwise exactly one `shutdown (fd, how)` with
    `how` = SHUT_RDWR / SHUT_RD / SHUT_WR according to the **truth values** of `rd`, `wr`; when it succeeds the object is
    unchanged except that `connected` is cleared iff both are non-zero; when it fails the object is unchanged and an error is set -/
theorem shutdown_reads_truth_values (s : Sock) (hc : s.closed = false) (rd wr : Int) (script : Script) (e : Int) (r : CallResult)
    (h : call s (.shutdown (shutdownArgs rd wr).1 (shutdownArgs rd wr).2) script e = .ok r) :
    (rd = 0 ∧ wr = 0 → r.tr = [] ∧ r.out = { ret := 1 } ∧ r.sock = s) ∧
    (¬ (rd = 0 ∧ wr = 0) →
      r.tr.map (·.call) = [.shutdown s.fd (if rd ≠ 0 ∧ wr ≠ 0 then SHUT_RDWR else if rd ≠ 0 then SHUT_RD else SHUT_WR)] ∧
      (r.out.ret = 1 → r.sock = (if rd ≠ 0 ∧ wr ≠ 0 then { s with connected := false } else s) ∧ r.out.err = none) ∧
      (r.out.ret ≠ 1 → r.sock = s ∧ r.out.err.isSome)) := by
  by_cases h0 : rd = 0 <;> by_cases h1 : wr = 0
  all_goals simp only [shutdownArgs, h0, h1, ne_eq, not_true_eq_false, not_false_eq_true, decide_true, decide_false] at h
  · simp [call, callM, shutdown, check, hc, M.pure, pure] at h
    subst h; simp [h0, h1]
  all_goals
    cases script with
    | nil => simp [call, callM, shutdown, check, hc, sys, M.bind] at h
    | cons a t =>
      by_cases hs : a.sys = Sys.shutdown
      · by_cases hr : a.ret = .ok 0
        · simp [call, callM, shutdown, check, hc, sys, M.bind, hs, Issued.sys, hr, M.pure, pure] at h
          subst h; simp [h0, h1, hc]
        · simp [call, callM, shutdown, check, hc, sys, M.bind, hs, Issued.sys, hr, M.pure, pure, errnoErr, failOut] at h
          subst h; simp [h0, h1, hc]
      · simp [call, callM, shutdown, check, hc, sys, M.bind, hs, Issued.sys] at h

/-- non-vacuity: (2, 2) on a connected socket issues SHUT_RDWR and clears `connected`; (2, 0) issues SHUT_RD; (−1, 0) too;
    (0, 256) issues SHUT_WR; (0, 0) issues nothing -/
example :
    ([(2, 2), (2, 0), (-1, 0), (0, 256), (0, 0)].map fun (p : Int × Int) =>
      (call demoSockC10 (.shutdown (shutdownArgs p.1 p.2).1 (shutdownArgs p.1 p.2).2) [{ sys := .shutdown, ret := .ok 0 }]).toOption.map
        (fun r => (r.tr.map (·.call), r.sock.connected))) =
    [some ([.shutdown 5 SHUT_RDWR], false), some ([.shutdown 5 SHUT_RD], true), some ([.shutdown 5 SHUT_RD], true),
     some ([.shutdown 5 SHUT_WR], true), some ([], true)] := by decide

/-- the reading of the flags before the repair (`== FALSE` for the early return, `== TRUE` for the direction) -/
def shutdownArgsHistorical (rd wr : Int) : Bool × Bool :=
  if rd = 0 ∧ wr = 0 then (false, false)
  else if rd = 1 ∧ wr = 1 then (true, true)
  else if rd = 1 then (true, false)
  else (false, true)

/-- where the historical reading left the specification (it agreed with it on the values 0 / 1 only) -/
theorem shutdown_args_historical_witness :
    shutdownArgsHistorical 2 0 = (false, true) ∧ Spec.shutdownArgs 2 0 = (true, false) ∧
    shutdownArgsHistorical 2 2 = (false, true) ∧ Spec.shutdownArgs 2 2 = (true, true) ∧
    shutdownArgsHistorical 1 2 = (true, false) ∧ Spec.shutdownArgs 1 2 = (true, true) ∧
    (∀ rd wr : Int, (rd = 0 ∨ rd = 1) → (wr = 0 ∨ wr = 1) → shutdownArgsHistorical rd wr = Spec.shutdownArgs rd wr) := by
  refine ⟨by decide, by decide, by decide, by decide, by decide, by decide, ?_⟩
  intro rd wr hr hw
  rcases hr with rfl | rfl <;> rcases hw with rfl | rfl <;> decide

end PV.Socket
