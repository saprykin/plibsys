import PV.Model.HashX.Dispatch
import PV.Spec.HashX
import PV.Lemmas.HashX.Stream
import PV.Lemmas.HashX.Sha3
import PV.Lemmas.HashX.Gost
import PV.Lemmas.HashX.Dispatch
import PV.Lemmas.HashX.SpecStd
/-!
# C11 (SHA-3 and GOST R 34.11-94 part) — digest = standard digest of the concatenation

Model: `PV.Model.HashX.*` (transliteration of `pcryptohash-sha3.c`, `pcryptohash-gost3411.c` — with
the two GOST repairs applied, see (c) — and of the dispatcher `pcryptohash.c`).
Spec: `PV.Spec.HashX` (FIPS 202 sponge; GOST iteration with length and checksum finalisation).
Constants (rates, digest lengths, padding bytes) are the ones extracted from the current C source
(`PV.Generated.HashX`); every theorem below is re-checked against them on every run.

Hypotheses on chunk sizes, and why they are there:
* SHA-3: each chunk `< 2^63` bytes (no C object is larger; `(psize) ctx->len + len` must not wrap).
  No bound on the total length (SHA-3 keeps no length counter).
* GOST: each chunk `< 2^61` bytes (`len256[1] = (puint32) (len >> 29)` holds the bit count of one
  chunk in two words).  No bound on the total: the bit counter is `mod 2^256` in the code and in the
  standard alike.  Beyond `2^61` the statement is false (`gost_len_words_beyond_2_61` below).
-/
namespace PV.HashX.C11x
open PV.HashX PV.Generated.HashX

/-! ## (a) chunking -/

/-- **SHA3-224**: for every splitting of the input into `update` calls (empty chunks allowed) -/
theorem chunking_sha3_224 (chunks : List Bytes) (hc : ∀ c ∈ chunks, c.length < 2 ^ 63) :
    Sha3.digest (Sha3.finish (chunks.foldl Sha3.update (Sha3.new sha3Rate224))) hashLen_sha3_224
      = Spec.sha3_224 chunks.flatten :=
  Sha3.chunking (R := sha3Rate224) (d := hashLen_sha3_224) (by decide) (by decide) (by decide) (by decide) chunks hc

/-- **SHA3-256** -/
theorem chunking_sha3_256 (chunks : List Bytes) (hc : ∀ c ∈ chunks, c.length < 2 ^ 63) :
    Sha3.digest (Sha3.finish (chunks.foldl Sha3.update (Sha3.new sha3Rate256))) hashLen_sha3_256
      = Spec.sha3_256 chunks.flatten :=
  Sha3.chunking (R := sha3Rate256) (d := hashLen_sha3_256) (by decide) (by decide) (by decide) (by decide) chunks hc

/-- **SHA3-384** -/
theorem chunking_sha3_384 (chunks : List Bytes) (hc : ∀ c ∈ chunks, c.length < 2 ^ 63) :
    Sha3.digest (Sha3.finish (chunks.foldl Sha3.update (Sha3.new sha3Rate384))) hashLen_sha3_384
      = Spec.sha3_384 chunks.flatten :=
  Sha3.chunking (R := sha3Rate384) (d := hashLen_sha3_384) (by decide) (by decide) (by decide) (by decide) chunks hc

/-- **SHA3-512** -/
theorem chunking_sha3_512 (chunks : List Bytes) (hc : ∀ c ∈ chunks, c.length < 2 ^ 63) :
    Sha3.digest (Sha3.finish (chunks.foldl Sha3.update (Sha3.new sha3Rate512))) hashLen_sha3_512
      = Spec.sha3_512 chunks.flatten :=
  Sha3.chunking (R := sha3Rate512) (d := hashLen_sha3_512) (by decide) (by decide) (by decide) (by decide) chunks hc

/-- **GOST R 34.11-94**: for every splitting, every total length; includes the 256-bit bit counter
    and the 256-bit checksum (both proved to be exact additions `mod 2^256`) -/
theorem chunking_gost (chunks : List Bytes) (hc : ∀ c ∈ chunks, c.length < 2 ^ 61) :
    Gost.digest (Gost.finish (chunks.foldl Gost.update Gost.init)) = Spec.gost chunks.flatten :=
  Gost.chunking chunks hc

/-- the generic lemma behind (a): **buffered absorb = absorb of the concatenation**, for any block
    size, block function and buffer -/
theorem buffered_absorb {σ : Type} {B : Nat} (hB : 0 < B) {p : σ → Bytes → σ} {init : σ} {c : Ctx σ} {m : Bytes}
    (inv : Inv B p init c m) (data : Bytes) :
    Inv B p init (feed B p (m.length % B) (decide (m.length % B ≠ 0 ∧ B - m.length % B ≤ data.length)) c data)
      (m ++ data) :=
  feed_inv hB inv data

/-- the 256-bit adder of the GOST code is addition modulo `2^256` (all operands) -/
theorem gost_sum256_exact (a b : Gost.W8) : (Gost.sum256 a b).toNat = (a.toNat + b.toNat) % 2 ^ 256 :=
  Gost.sum256_toNat a b

/-- `updz N` of the driver feeds the model's `update` with `N` zero bytes -/
theorem updateZeros_sha3 (c : Sha3.Ctx) (n : Nat) : Sha3.updateZeros c n = Sha3.update c (List.replicate n 0) :=
  Sha3.updateZeros_eq c n
theorem updateZeros_gost (c : Gost.Ctx) (n : Nat) : Gost.updateZeros c n = Gost.update c (List.replicate n 0) :=
  Gost.updateZeros_eq c n

/-- … and so does `updz` through the dispatcher, for every algorithm of this family -/
theorem updz_is_update {A : Impl} (hA : ∀ c n, A.updateZeros c n = A.update c (List.replicate n 0)) (h : Hash A) (n : Nat) :
    h.updateZeros n = h.update (List.replicate n 0) := by
  simp only [Hash.updateZeros, Hash.update, List.length_replicate, hA]

/-! ## (b) histories through the dispatcher -/

def sha3OK (R d : Nat) : ImplOK (sha3Impl R d) where
  P := fun c => c.blockSize = R.toUInt32
  create := rfl
  update := fun c d h => by show (Sha3.update c d).blockSize = _; simpa [Sha3.update] using h
  finish := fun c h => by show (Sha3.finish c).blockSize = _; simpa [Sha3.finish] using h
  reset := fun c h => Sha3.reset_eq_new h

def gostOK : ImplOK gost where
  P := fun _ => True
  create := trivial
  update := fun _ _ _ => trivial
  finish := fun _ _ => trivial
  reset := fun _ _ => rfl

/-- **history, SHA3-224**: for every sequence of update / reset / get_string / get_digest the visible
    digest is SHA3-224 of the bytes updated since creation or the last reset before the first read;
    reads are repeatable; updates after a read are ignored until reset; a too small `get_digest`
    buffer yields length 0 and changes nothing -/
theorem history_sha3_224 (ops : List Op) (hops : chunksOK (fun d => d.length < 2 ^ 63) ops) :
    (Hash.new sha3_224).run ops = specRun hashLen_sha3_224 (fun cs => Spec.sha3_224 cs.flatten) ⟨[], false⟩ ops :=
  history (A := sha3_224) (sha3OK sha3Rate224 hashLen_sha3_224) Spec.sha3_224 _ (fun cs h => chunking_sha3_224 cs h) ops hops

theorem history_sha3_256 (ops : List Op) (hops : chunksOK (fun d => d.length < 2 ^ 63) ops) :
    (Hash.new sha3_256).run ops = specRun hashLen_sha3_256 (fun cs => Spec.sha3_256 cs.flatten) ⟨[], false⟩ ops :=
  history (A := sha3_256) (sha3OK sha3Rate256 hashLen_sha3_256) Spec.sha3_256 _ (fun cs h => chunking_sha3_256 cs h) ops hops

theorem history_sha3_384 (ops : List Op) (hops : chunksOK (fun d => d.length < 2 ^ 63) ops) :
    (Hash.new sha3_384).run ops = specRun hashLen_sha3_384 (fun cs => Spec.sha3_384 cs.flatten) ⟨[], false⟩ ops :=
  history (A := sha3_384) (sha3OK sha3Rate384 hashLen_sha3_384) Spec.sha3_384 _ (fun cs h => chunking_sha3_384 cs h) ops hops

theorem history_sha3_512 (ops : List Op) (hops : chunksOK (fun d => d.length < 2 ^ 63) ops) :
    (Hash.new sha3_512).run ops = specRun hashLen_sha3_512 (fun cs => Spec.sha3_512 cs.flatten) ⟨[], false⟩ ops :=
  history (A := sha3_512) (sha3OK sha3Rate512 hashLen_sha3_512) Spec.sha3_512 _ (fun cs h => chunking_sha3_512 cs h) ops hops

theorem history_gost (ops : List Op) (hops : chunksOK (fun d => d.length < 2 ^ 61) ops) :
    (Hash.new gost).run ops = specRun hashLen_gost (fun cs => Spec.gost cs.flatten) ⟨[], false⟩ ops :=
  history gostOK Spec.gost _ (fun cs h => by
    show List.take hashLen_gost (Gost.digest (Gost.finish (List.foldl Gost.update Gost.init cs))) = _
    rw [chunking_gost cs h]
    exact List.take_of_length_le (Nat.le_of_eq (Gost.bytesOfW8_length _))) ops hops

/-- the hex string: lower-case digits only, two per digest byte (so `2 * hash_len` for a digest) -/
theorem hex_lower (d : Bytes) :
    (Hash.toHex d).toList.length = 2 * d.length ∧
    ∀ c ∈ (Hash.toHex d).toList, c ∈ ['0', '1', '2', '3', '4', '5', '6', '7', '8', '9', 'a', 'b', 'c', 'd', 'e', 'f'] := by
  rw [toHex_toList]
  exact ⟨hexChars_length d, hexChars_lower d⟩

/-- the digest lengths of the dispatcher `switch` are the standards' (224/256/384/512 bits; 256 bits) -/
theorem digest_lengths (m : Bytes) :
    (Spec.sha3_224 m).length = hashLen_sha3_224 ∧ (Spec.sha3_256 m).length = hashLen_sha3_256 ∧
    (Spec.sha3_384 m).length = hashLen_sha3_384 ∧ (Spec.sha3_512 m).length = hashLen_sha3_512 ∧
    (Spec.gost m).length = hashLen_gost ∧
    hashLen_sha3_224 = 224 / 8 ∧ hashLen_sha3_256 = 256 / 8 ∧ hashLen_sha3_384 = 384 / 8 ∧
    hashLen_sha3_512 = 512 / 8 ∧ hashLen_gost = 256 / 8 :=
  ⟨Sha3.squeeze_length _ _ _, Sha3.squeeze_length _ _ _, Sha3.squeeze_length _ _ _, Sha3.squeeze_length _ _ _,
    Gost.bytesOfW8_length _, by decide, by decide, by decide, by decide, by decide⟩

/-! ## (c) what the two repairs of `pcryptohash-gost3411.c` are about (findings F9-GOST and the
lost checksum carry).  The model above is the *repaired* code; the translator refuses any other shape.

**F9 (single update of ≥ 2^32 bytes).**  The historical phase-1 test was
`if (left && (puint32) len >= to_fill)`.  With it the full-strength statement
```
theorem chunking_gost_historical (chunks) (hc : ∀ c ∈ chunks, c.length < 2 ^ 61) :
    digest (finish (chunks.foldl update_historical init)) = Spec.gost chunks.flatten
```
is false: after a 1-byte update, a chunk of `2^32 + 5` bytes is not used to complete the buffered
block (`(puint32) len = 5 < 31`), the buffered byte is then overwritten by phase 2.  The witness on
the test sub-model: -/

/-- the historical, truncating phase-1 test -/
def topupHistorical (left : UInt32) (n : Nat) : Bool :=
  left != 0 && (n.toUInt64).toUInt32 >= (32 : UInt32) - left
/-- the repaired test (as in the model) -/
def topupFixed (left : UInt32) (n : Nat) : Bool :=
  left != 0 && n.toUInt64 >= ((32 : UInt32) - left).toUInt64

theorem f9_gost_topup_truncation :
    topupHistorical 1 (2 ^ 32 + 5) = false ∧ topupFixed 1 (2 ^ 32 + 5) = true := by decide

/-- the repaired test is the mathematical one for every chunk a C program can pass -/
theorem topupFixed_exact (left : UInt32) (hl : left.toNat < 32) (n : Nat) (hn : n < 2 ^ 64) :
    topupFixed left n = decide (left.toNat ≠ 0 ∧ 32 - left.toNat ≤ n) :=
  topup_test (UInt32.le_iff_toNat_le.mpr (Nat.le_of_lt hl)) hn

/-- **checksum carry.**  The historical loop of `sum_256` computed the carry as
    `a[i] < old || a[i] < b[i]`, which loses the carry when `old = b[i] = 0xFFFFFFFF` and a carry
    comes in.  With it `gost_sum256_exact` — and therefore `chunking_gost` against the standard's
    checksum — is false; witness (words 0 and 1 of the 64-byte message
    `ff ff ff ff ff ff ff ff 00…00 | 01 00 00 00 ff ff ff ff 00…00`): -/
def addcHistorical (a b : UInt32) (carry : Bool) : UInt32 × Bool :=
  let r := a + b + (if carry then 1 else 0)
  (r, r < a || r < b)

theorem gost_historical_carry_lost :
    let s0 := addcHistorical 0xFFFFFFFF 0x00000001 false
    let s1 := addcHistorical 0xFFFFFFFF 0xFFFFFFFF s0.2
    let t1 := Gost.addc 0xFFFFFFFF 0xFFFFFFFF (Gost.addc 0xFFFFFFFF 0x00000001 false).2
    s0.2 = true ∧ s1 = (0xFFFFFFFF, false) ∧ t1 = (0xFFFFFFFF, true) := by decide

/-- beyond `2^61` bytes in ONE update the two length words cannot hold the bit count
    (`len >> 29` no longer fits 32 bits): the hypothesis of `chunking_gost` is needed -/
theorem gost_len_words_beyond_2_61 :
    (Gost.W8.mk ((2 ^ 61 : Nat).toUInt64 <<< 3).toUInt32 ((2 ^ 61 : Nat).toUInt64 >>> 29).toUInt32 0 0 0 0 0 0).toNat
      ≠ 8 * 2 ^ 61 := by decide

/-! ## (d) the compression functions are the standards'

Until here the one-shot specs shared `keccakF` and the GOST step function with the models.  This
section removes that: the permutation of `pcryptohash-sha3.c` is proved equal to Keccak-f[1600]
written from FIPS 202 (`PV.Spec.KeccakStd`: θ ρ π χ ι on `A[x, y]`, ρ offsets from the
`(t+1)(t+2)/2` walk, ι constants from the LFSR `rc`), the step function of
`pcryptohash-gost3411.c` equal to χ written from GOST R 34.11-94 (`PV.Spec.GostStd`: A, P, C2…C4,
GOST 28147-89 with the source's S-boxes, ψ^12 / ψ / ψ^61), and the chunking and history theorems are
restated against `PV.Spec.HashXStd`, which contains nothing that was derived from the C code. -/

/-- the permutation in the C code (tables as extracted from the current source) is Keccak-f[1600] of FIPS 202 -/
theorem keccakF_is_fips202 (A : Array UInt64) (hA : A.size = 25) : Keccak.keccakF A = KeccakStd.keccakF A :=
  KeccakProof.keccakF_eq A hA

/-- the round-constant table of the C source is what the LFSR `rc` of FIPS 202 (Algorithm 5) produces -/
theorem keccak_round_constants : (List.range 24).map KeccakStd.RC = keccakK := KeccakProof.rc_table

/-- the ρ offsets produced by the walk of FIPS 202 (Algorithm 2), reduced mod 64, in lane order `x + 5 y` -/
theorem keccak_rho_offsets : (List.range 25).map (fun i => KeccakStd.offset (i % 5) (i / 5) % 64) =
    [0, 1, 62, 28, 27, 36, 44, 6, 55, 20, 3, 10, 43, 25, 39, 41, 45, 15, 21, 8, 18, 2, 61, 56, 14] :=
  KeccakProof.offset_table

/-- the step function of the C code is χ of GOST R 34.11-94 -/
theorem gost_step_is_standard (h m : Gost.W8) : Gost.step h m = GostStd.chi h m := GostProof.step_eq_chi h m

/-- its parts (`GostProof.lfsr12` … are the source-order pieces of `Gost.step`, tied to it by `GostProof.step_parts`):
    the three blocks of unrolled XOR formulas are `M ⊕ ψ^12 (S)`, `H ⊕ ψ (U)`, `ψ^61 (V)`;
    `P_GOST_3411_P` is the byte permutation φ; the unrolled rounds are `E`; the in-place key generation is A / C2…C4 -/
theorem gost_step_parts (x y : Gost.W8) (d0 d1 : UInt32) :
    GostProof.lfsr12 x y = GostStd.xor8 y (GostStd.psiPow 12 x) ∧ GostProof.lfsr1 x y = GostStd.xor8 y (GostStd.psiPow 1 x) ∧
    GostProof.lfsr61 x = GostStd.psiPow 61 x ∧ Gost.transP x = GostStd.P x ∧
    Gost.encrypt d0 d1 x = GostStd.E x d0 d1 ∧ GostProof.keyGenW x y = GostStd.keyW x y :=
  ⟨GostProof.lfsr12_eq x y, GostProof.lfsr1_eq x y, GostProof.lfsr61_eq x, GostProof.transP_eq x,
   GostProof.encrypt_eq d0 d1 x, GostProof.keyGenW_eq x y⟩

theorem chunking_sha3_224_std (chunks : List Bytes) (hc : ∀ c ∈ chunks, c.length < 2 ^ 63) :
    Sha3.digest (Sha3.finish (chunks.foldl Sha3.update (Sha3.new sha3Rate224))) hashLen_sha3_224
      = SpecStd.sha3_224 chunks.flatten := by
  rw [chunking_sha3_224 chunks hc]; exact SpecStdProof.sha3_eq 224 _

theorem chunking_sha3_256_std (chunks : List Bytes) (hc : ∀ c ∈ chunks, c.length < 2 ^ 63) :
    Sha3.digest (Sha3.finish (chunks.foldl Sha3.update (Sha3.new sha3Rate256))) hashLen_sha3_256
      = SpecStd.sha3_256 chunks.flatten := by
  rw [chunking_sha3_256 chunks hc]; exact SpecStdProof.sha3_eq 256 _

theorem chunking_sha3_384_std (chunks : List Bytes) (hc : ∀ c ∈ chunks, c.length < 2 ^ 63) :
    Sha3.digest (Sha3.finish (chunks.foldl Sha3.update (Sha3.new sha3Rate384))) hashLen_sha3_384
      = SpecStd.sha3_384 chunks.flatten := by
  rw [chunking_sha3_384 chunks hc]; exact SpecStdProof.sha3_eq 384 _

theorem chunking_sha3_512_std (chunks : List Bytes) (hc : ∀ c ∈ chunks, c.length < 2 ^ 63) :
    Sha3.digest (Sha3.finish (chunks.foldl Sha3.update (Sha3.new sha3Rate512))) hashLen_sha3_512
      = SpecStd.sha3_512 chunks.flatten := by
  rw [chunking_sha3_512 chunks hc]; exact SpecStdProof.sha3_eq 512 _

/-- **GOST, against the fully standard-structured one-shot hash** -/
theorem chunking_gost_std (chunks : List Bytes) (hc : ∀ c ∈ chunks, c.length < 2 ^ 61) :
    Gost.digest (Gost.finish (chunks.foldl Gost.update Gost.init)) = SpecStd.gost chunks.flatten := by
  rw [chunking_gost chunks hc]; exact SpecStdProof.gost_eq _

theorem history_sha3_224_std (ops : List Op) (hops : chunksOK (fun d => d.length < 2 ^ 63) ops) :
    (Hash.new sha3_224).run ops = specRun hashLen_sha3_224 (fun cs => SpecStd.sha3_224 cs.flatten) ⟨[], false⟩ ops := by
  rw [history_sha3_224 ops hops]; simp only [Spec.sha3_224, SpecStd.sha3_224, SpecStdProof.sha3_eq]

theorem history_sha3_256_std (ops : List Op) (hops : chunksOK (fun d => d.length < 2 ^ 63) ops) :
    (Hash.new sha3_256).run ops = specRun hashLen_sha3_256 (fun cs => SpecStd.sha3_256 cs.flatten) ⟨[], false⟩ ops := by
  rw [history_sha3_256 ops hops]; simp only [Spec.sha3_256, SpecStd.sha3_256, SpecStdProof.sha3_eq]

theorem history_sha3_384_std (ops : List Op) (hops : chunksOK (fun d => d.length < 2 ^ 63) ops) :
    (Hash.new sha3_384).run ops = specRun hashLen_sha3_384 (fun cs => SpecStd.sha3_384 cs.flatten) ⟨[], false⟩ ops := by
  rw [history_sha3_384 ops hops]; simp only [Spec.sha3_384, SpecStd.sha3_384, SpecStdProof.sha3_eq]

theorem history_sha3_512_std (ops : List Op) (hops : chunksOK (fun d => d.length < 2 ^ 63) ops) :
    (Hash.new sha3_512).run ops = specRun hashLen_sha3_512 (fun cs => SpecStd.sha3_512 cs.flatten) ⟨[], false⟩ ops := by
  rw [history_sha3_512 ops hops]; simp only [Spec.sha3_512, SpecStd.sha3_512, SpecStdProof.sha3_eq]

theorem history_gost_std (ops : List Op) (hops : chunksOK (fun d => d.length < 2 ^ 61) ops) :
    (Hash.new gost).run ops = specRun hashLen_gost (fun cs => SpecStd.gost cs.flatten) ⟨[], false⟩ ops := by
  rw [history_gost ops hops]; simp only [SpecStdProof.gost_eq]

/-! ## the rest of the entry points: accepted type integers, NULL arguments (see `PV.Props.C11md` (d)) -/

/-- the five enumerator values of this family pass the range test and select their own table row's digest length -/
theorem new_by_code_x :
    (codeTable.map fun p => (typeAccepted p.1, (implOfCode p.1).map (·.hashLen))) =
      [(true, some hashLen_sha3_224), (true, some hashLen_sha3_256), (true, some hashLen_sha3_384),
       (true, some hashLen_sha3_512), (true, some hashLen_gost)] := by decide

/-- any integer outside the enumeration is refused -/
theorem new_refuses_outside_x (c : Int) (h : c < 0 ∨ 10 < c) : typeAccepted c = false := by
  have h1 : PV.Generated.HashX.typeCodeMin = 0 := rfl
  have h2 : PV.Generated.HashX.typeCodeMax = 10 := rfl
  unfold typeAccepted
  rw [h1, h2]
  rcases h with h | h
  · have : ¬ (0 ≤ c) := by omega
    simp [this]
  · have : ¬ (c ≤ 10) := by omega
    simp [this]

/-- NULL data, a NULL output buffer and a NULL length pointer leave the object as it was -/
theorem null_arguments_ignored_x {A : Impl} (h : Hash A) (n cap : Nat) :
    h.updateNull n = h ∧ h.getDigestNullBuf cap = (h, 0) ∧ h.getDigestNullLen = h := ⟨rfl, rfl, rfl⟩

/-! ## non-vacuity -/
example : ∀ c ∈ ([[1, 2, 3], [], [4]] : List Bytes), c.length < 2 ^ 61 := by decide
example : chunksOK (fun d => d.length < 2 ^ 61) [.upd [1], .str, .upd [2], .dig 5, .reset, .upd [], .dig 32] := by
  intro d hd; simp at hd; rcases hd with rfl | rfl | rfl <;> decide
example : (specRun 32 (fun _ => [0xAB]) ⟨[], false⟩ [.upd [1], .dig 5, .dig 32, .upd [2], .str]).length = 5 := by decide

example : typeAccepted 10 = true ∧ typeAccepted 11 = false ∧ typeAccepted (-1) = false := by decide

end PV.HashX.C11x
