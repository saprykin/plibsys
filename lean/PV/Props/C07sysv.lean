import PV.Lemmas.IPCSysV
import PV.Lemmas.IPCSysVSeg
import PV.Lemmas.IPCSysVAtt
/-!
# C07, System V variant — shared memory (`pshm-sysv.c` + `psemaphore-sysv.c` + key files over `PV.SysV.OS`)
-/
namespace PV.SysV.C07
open PV.SysV PV.Generated.IPCSysV

/-! ## 0. extracted facts -/

theorem source_as_modelled :
    hasFlag (shmgetExclFlags ||| shmPermRW) IPC_CREAT = true ∧ hasFlag (shmgetExclFlags ||| shmPermRW) IPC_EXCL = true ∧
    hasFlag (shmgetExclFlags ||| shmPermRO) IPC_CREAT = true ∧ hasFlag (shmgetExclFlags ||| shmPermRO) IPC_EXCL = true ∧
    hasFlag (shmgetPlainFlags ||| shmPermRW) IPC_CREAT = false ∧ hasFlag (shmgetPlainFlags ||| shmPermRO) IPC_CREAT = false ∧
    shmgetPlainSize = 0 ∧ shmgetExistsErrno = EEXIST ∧ shmStatCmd = IPC_STAT ∧ shmCleanStatCmd = IPC_STAT ∧ shmRmidCmd = IPC_RMID ∧
    IPC_STAT ≠ IPC_RMID ∧ shmatFlagsRO = SHM_RDONLY ∧ shmatFlagsRW = 0 ∧ shmLockInit = 1 ∧
    sites_pp_shm_create_handle = ["p_ipc_unix_create_key_file", "pp_shm_clean_handle", "p_ipc_unix_get_ftok_key", "pp_shm_clean_handle",
      "shmget", "shmget", "pp_shm_clean_handle", "shmctl", "pp_shm_clean_handle", "shmat", "pp_shm_clean_handle", "p_semaphore_new", "pp_shm_clean_handle"] ∧
    sites_pp_shm_clean_handle = ["shmdt", "shmctl", "shmctl", "unlink", "p_semaphore_free"] ∧
    sites_p_shm_new = ["p_shm_free", "pp_shm_create_handle", "p_shm_free"] ∧
    sites_p_shm_take_ownership = ["p_semaphore_take_ownership"] := by decide +kernel

/-! ## 1. same bytes through all attachments; sizes -/

/-- a store through one attachment of a segment is what a load through ANY attachment of the same segment (any
    process) returns at that offset -/
theorem same_segment_same_bytes (os os' : OS) (p q : Pid) (a a' off : Nat) (b : UInt8) (x y : Att)
    (hx : findAtt (os.procs p) a = some x) (hy : findAtt (os.procs q) a' = some y) (hs : x.seg = y.seg)
    (hst : os.store p a off b = some os') : os'.load q a' off = .val b := by
  simp only [OS.store, hx] at hst
  split at hst
  · rename_i hc
    simp only [Option.some.injEq] at hst
    subst hst
    simp [OS.load, OS.setSeg, hy, hs.symm, hc.1]
  · cases hst

/-- the size `p_shm_get_size` reports is never larger than the segment (`shm_segsz` from IPC_STAT): every offset below
    it is inside the segment; it is the request when that is non-zero and smaller, else the segment's size -/
theorem reported_size (req sz : Nat) :
    clampSize req sz ≤ sz ∧ (req ≠ 0 → req < sz → clampSize req sz = req) ∧ (req = 0 ∨ sz ≤ req → clampSize req sz = sz) := by
  unfold clampSize
  refine ⟨?_, ?_, ?_⟩
  · split <;> rename_i h <;> simp at h <;> omega
  · intro h1 h2; simp [h1, h2]
  · intro h; split <;> rename_i h' <;> simp at h' <;> omega

/-! ## 1b. one segment per name -/

/-- All PShm handles of one name opened since the name's last creation refer to the same live segment — for EVERY schedule
    (any interleaving of the system calls of any calls of any threads of any processes, SIGKILLs, EINTR) — under the explicit
    hypotheses (a) inode numbers are not reused (`SegInv.bound.noreuse : g.os.reuse = false`, the oracle of finding F15) and
    (b) no clean-up of the name reaches its IPC_RMID or its unlink in between (`SegQuietRun n g as`: under System V the LAST
    detach of any handle removes the segment, and an owner's free unlinks the key file).  `SegInv n i sid`: key file `.shm n`
    has inode `i`, whose key names the live, unmarked segment `sid`, nothing else refers to `i` / `sid`; every live PShm struct
    of name `n` has `shm_hdl = sid`, every struct of another name a different id; every machine in flight (a `p_shm_new` /
    `p_shm_free` between two of its system calls, its lock-semaphore sub-machine included) is consistent with that. -/
theorem one_segment_per_name (n : Nat) (i : Ino) (sid : SegId) (g : G) (as : List Action)
    (h0 : SegInv n i sid g) (hq : SegQuietRun n g as) : SegInv n i sid (execAll g as) :=
  seginv_execAll n i sid as g h0 hq

/-- … hence any two live handles of the name (in any processes) carry the id of one live segment, which the key file still names -/
theorem same_segment (n : Nat) (i : Ino) (sid : SegId) (g : G) (h1 h2 : Hid) (p1 p2 : Pid) (m1 m2 : PShm)
    (hi : SegInv n i sid g) (e1 : g.hs h1 = some (p1, .shm m1)) (e2 : g.hs h2 = some (p2, .shm m2)) (n1 : m1.name = n) (n2 : m2.name = n) :
    m1.hdl = some sid ∧ m2.hdl = some sid ∧ (g.os.segs sid).alive = true ∧
    (g.os.files (.shm n)).bind (fun j => g.os.shmKeys (ftokOf j)) = some sid := by
  have a1 := (hi.hs h1 p1 _ e1).1
  have a2 := (hi.hs h2 p2 _ e2).1
  simp only [n1, n2, if_true] at a1 a2
  exact ⟨a1, a2, hi.bound.alive, by simp [hi.bound.file, hi.bound.key]⟩

/-- the address of a handle is an attachment of its process to the segment its `shm_hdl` names (what `shmat (shm_hdl)` returned).
    NOTE: established by the `shmat` step of `p_shm_new`; its preservation over arbitrary action lists (address freshness and
    distinctness per process) is NOT proved here — it is an explicit hypothesis of `same_name_same_bytes_sysv`. -/
def Attached (g : G) (p : Pid) (m : PShm) : Prop :=
  ∃ a att, m.addr = .at a ∧ findAtt (g.os.procs p) a = some att ∧ m.hdl = some att.seg

/-- the only way `Attached` is lost: a step of ANY thread of ANY process keeps the struct `m` of process `p` attached — unless it
    is a `shmdt` issued by `p` itself with exactly `m`'s address (`hfresh`: attachment addresses of `p` are below its next
    address, which `shmat` preserves) -/
theorem attached_until_own_shmdt (g : G) (t : Tid) (intr : Bool) (c : Call) (p : Pid) (m : PShm)
    (hc : g.calls t = some c) (ha : Attached g p m)
    (hfresh : ∀ att, att ∈ (g.os.procs p).atts → att.addr < (g.os.procs p).nextAddr)
    (hdt : g.pidOf t = p → ∀ a, c.next = .shmdt (some a) → m.addr ≠ .at a) : Attached (g.step t intr) p m := by
  have ha' : attached (g.os.procs p) m := ha
  have := attached_sysStep p (g.pidOf t) intr c.next g.os c.name m ha' hfresh hdt
  rw [← step_os g t intr c hc] at this
  exact this

/-- … and the library issues `shmdt` only as the first step of a clean-up (`p_shm_free`, or a failing `p_shm_new`), with the
    address stored in that call's own struct -/
theorem shmdt_only_in_cleanup (c : Call) (b : Option Nat) (h : c.next = .shmdt b) :
    ∃ s, (c = .shmFree s ∨ ∃ hid, c = .shmNew hid s) ∧ s.pc = .kDt ∧ b = addrOpt s.h.addr := by
  have semno : ∀ st : SemSt, st.next ≠ .shmdt b := by
    intro st e
    obtain ⟨api, sh, spc, _, _, _⟩ := st
    cases spc <;> simp [SemSt.next] at e
  have shm : ∀ s : ShmSt, s.next = .shmdt b → s.pc = .kDt ∧ b = addrOpt s.h.addr := by
    intro s e
    obtain ⟨isNew, hh, req, pc, built, isExists, failing⟩ := s
    cases pc with
    | kDt => simp only [ShmSt.next, Sys.shmdt.injEq] at e; exact ⟨rfl, e.symm⟩
    | cSem st => exact absurd (by simpa [ShmSt.next] using e) (semno st)
    | kSem st => exact absurd (by simpa [ShmSt.next] using e) (semno st)
    | _ => simp [ShmSt.next] at e
  cases c with
  | semNew hid s => exact absurd h (semno s)
  | semFree s => exact absurd h (semno s)
  | semOp hid s => exact absurd h (semno s)
  | lockOp hid m s => exact absurd h (semno s)
  | shmNew hid s => exact ⟨s, Or.inr ⟨hid, rfl⟩, shm s h⟩
  | shmFree s => exact ⟨s, Or.inl rfl, shm s h⟩

/-- same bytes through all handles of the name: under the invariant, a store through any live handle of the name that does not
    fault is what a load through any other live handle of the name (any process) returns at that offset — provided both
    handles' addresses are attachments to the segment their `shm_hdl` names (`Attached`, see the note there) -/
theorem same_name_same_bytes_sysv (n : Nat) (i : Ino) (sid : SegId) (g : G) (h1 h2 : Hid) (p1 p2 : Pid) (m1 m2 : PShm)
    (a1 a2 off : Nat) (b : UInt8) (os' : OS)
    (hi : SegInv n i sid g) (e1 : g.hs h1 = some (p1, .shm m1)) (e2 : g.hs h2 = some (p2, .shm m2)) (n1 : m1.name = n) (n2 : m2.name = n)
    (t1 : Attached g p1 m1) (t2 : Attached g p2 m2) (ha1 : m1.addr = .at a1) (ha2 : m2.addr = .at a2)
    (hst : g.os.store p1 a1 off b = some os') : os'.load p2 a2 off = .val b := by
  obtain ⟨s1, s2, _, _⟩ := same_segment n i sid g h1 h2 p1 p2 m1 m2 hi e1 e2 n1 n2
  obtain ⟨b1, x, hb1, hx, hxs⟩ := t1
  obtain ⟨b2, y, hb2, hy, hys⟩ := t2
  rw [ha1] at hb1; rw [ha2] at hb2
  cases hb1; cases hb2
  rw [s1] at hxs; rw [s2] at hys
  exact same_segment_same_bytes g.os os' p1 p2 a1 a2 off b x y hx hy
    ((Option.some.inj hxs).symm.trans (Option.some.inj hys)) hst

/-! ## 2. the lock -/

/- FULL STATEMENT (false of the code, finding F16 — see `lock_is_mutex_false`):
   theorem lock_is_mutex : lock / unlock through all live handles of one segment behave as one mutex: `p_shm_lock`
   returns only by taking the single unit of the segment's lock set.
   Excluded region of the partial theorem: the lock set of the handle was removed (an owner's free ran IPC_RMID on it)
   since the handle was opened: `(g.os.sems i).alive = false`. -/

/-- `p_shm_lock` through a handle whose lock set is alive returns exactly at a `semop` that found the unit and takes
    it; a step that does not return changes nothing: with value ≤ 1 at most one holder -/
theorem lock_is_mutex_partial (g : G) (t : Tid) (hid : Hid) (m : PShm) (h : PSem) (rc : Bool) (i : SemId)
    (hc : g.calls t = some (.lockOp hid m { api := .acquire, h := h, pc := .op, recreated := rc }))
    (hi : h.hdl = some i) (hl : (g.os.sems i).alive = true) :
    ((g.step t false).calls t = none ↔ 0 < (g.os.sems i).value) ∧
    ((g.step t false).calls t = none → (g.os.sems i).value = ((g.step t false).os.sems i).value + 1 ∧ (g.step t false).ret t = some .unit) ∧
    ((g.step t false).calls t ≠ none → (g.step t false).os = g.os) := by
  by_cases hv : (g.os.sems i).value = 0 <;>
    simp [G.step, hc, Call.next, Call.after, Call.name, SemSt.next, SemSt.after, SemSt.buf, hi, semop_acquire _ _ _ _ hl, hv,
      G.setCall, G.setRet, G.setHandle, OS.setSem, retOf]
  omega

/-- the recorded history of F16 up to the second lock -/
def f16Before : G :=
  ((((((G.init id).call 0 (.newShm 0 0 100 false)).call 1 (.newShm 1 0 0 false)).call 2 (.newShm 2 0 0 false)).call 0 (.own 0)).call 1 (.lock 1)).call 0 (.free 0)

def lockHdl (g : G) (h : Hid) : Option SemId :=
  match g.hs h with
  | some (_, .shm x) => x.sem.bind (·.hdl)
  | _ => none

/-- negation of `lock_is_mutex` on the recorded witness `0 new-shm 0 m0 100; 1 new-shm 1 m0 0; 2 new-shm 2 m0 0;
    0 own 0; 1 lock 1; 0 free 0; 2 lock 2`: handles 1 and 2 were opened on one lock set (id 0); handle 1 holds the
    lock (value 0) when the owner's free removes the set; `p_shm_lock` through handle 2 then returns TRUE on a NEW set
    (id 1): two holders -/
theorem lock_is_mutex_false :
    lockHdl ((((G.init id).call 0 (.newShm 0 0 100 false)).call 1 (.newShm 1 0 0 false)).call 2 (.newShm 2 0 0 false)) 1 = some 0 ∧
    lockHdl ((((G.init id).call 0 (.newShm 0 0 100 false)).call 1 (.newShm 1 0 0 false)).call 2 (.newShm 2 0 0 false)) 2 = some 0 ∧
    f16Before.ret 1 = some .unit ∧ (f16Before.os.sems 0).alive = false ∧ (f16Before.os.sems 0).value = 0 ∧
    (f16Before.call 2 (.lock 2)).ret 2 = some .unit ∧ lockHdl (f16Before.call 2 (.lock 2)) 2 = some 1 ∧
    lockHdl (f16Before.call 2 (.lock 2)) 1 = some 0 := by decide +kernel

/-! ## 3. owner free, then a fresh segment -/

/- FULL STATEMENT (false of the code when inode numbers are reused, finding F15 — see `owner_free_fresh_false`):
   theorem owner_free_fresh : after `take_ownership; free` of a handle the next `p_shm_new (name, size)` creates a
   fresh, zeroed segment of exactly `size` bytes.
   Excluded region of the partial theorem: another handle is still attached at the owner's free AND the file system
   hands the freed inode number to the next key file (`OS.reuse = true`). -/

/-- the recorded history of F15, parameterised by the inode policy -/
def f15 (reuse : Bool) : G :=
  ((((((G.init id reuse).call 0 (.newShm 0 0 100 false)).call 0 (.wr 0 0 7)).call 1 (.newShm 1 0 0 false)).call 1 (.own 1)).call 1 (.free 1)).call 2
    (.newShm 2 0 200 false)

def sizeOf (g : G) (h : Hid) : Option Nat :=
  match g.hs h with
  | some (_, .shm x) => some x.size
  | _ => none

def segOf (g : G) (h : Hid) : Option SegId :=
  match g.hs h with
  | some (p, .shm x) => ((addrOpt x.addr).bind fun a => findAtt (g.os.procs p) a).map (·.seg)
  | _ => none

/-- without inode reuse (the excluded region's second half absent) the recorded history DOES give a fresh zeroed segment
    of the requested size, although handle 0 is still attached to the old one -/
theorem owner_free_fresh_partial :
    sizeOf (f15 false) 2 = some 200 ∧ segOf (f15 false) 2 = some 1 ∧ segOf (f15 false) 0 = some 0 ∧
    ((f15 false).call 2 (.rd 2 0)).ret 2 = some (.byte 0) := by decide +kernel

/-- negation on the recorded witness `0 new-shm 0 m0 100; 0 wr 0 0 7; 1 new-shm 1 m0 0; 1 own 1; 1 free 1;
    2 new-shm 2 m0 200; 2 rd 2 0` with inode reuse: the new handle reports the OLD size 100, is attached to the OLD
    segment (id 0, the one handle 0 still maps) and reads the old byte 7 -/
theorem owner_free_fresh_false :
    sizeOf (f15 true) 2 = some 100 ∧ segOf (f15 true) 2 = some 0 ∧ segOf (f15 true) 0 = some 0 ∧
    ((f15 true).call 2 (.rd 2 0)).ret 2 = some (.byte 7) := by decide +kernel

/-! ## 4. sizes, clean-up and crash recovery — ENUMERATED FINITE SCOPE (evaluation of the executable model) -/

def shmOf (g : G) (n : Nat) : Option SegId := (g.os.files (.shm n)).bind fun i => g.os.shmKeys (ftokOf i)

def aliveSegs (g : G) : List SegId := (List.range g.os.nextSeg).filter fun i => (g.os.segs i).alive
def aliveSems (g : G) : List SemId := (List.range g.os.nextSem).filter fun i => (g.os.sems i).alive

/-- (scope: creator sizes 1, 64, 100; follower requests 0, 1, 50, 100, 200; readonly or not) the creator reports exactly
    its size, a follower the request when non-zero and smaller, else the creator's; both are attached to one segment,
    share one lock set; a store of the creator is read by the follower; after both are freed (last one as owner)
    nothing is left: no segment, no set, no key file of the segment -/
theorem sizes_and_cleanup_scope :
    (List.all [false, true] fun r => List.all [1, 64, 100] fun c => List.all [0, 1, 50, 100, 200] fun q => List.all [false, true] fun ro =>
      let g1 := (G.init id r).call 0 (.newShm 0 0 c false)
      let g2 := g1.call 1 (.newShm 1 0 q ro)
      let g3 := g2.call 0 (.wr 0 0 9)
      let g4 := ((g3.call 1 (.free 1)).call 0 (.own 0)).call 0 (.free 0)
      decide (sizeOf g1 0 = some c) && decide (sizeOf g2 1 = some (if q = 0 ∨ c ≤ q then c else q)) &&
      decide (segOf g2 0 = segOf g2 1) && decide ((segOf g2 0).isSome) && decide (lockHdl g2 0 = lockHdl g2 1) && decide ((lockHdl g2 0).isSome) &&
      decide ((g3.call 1 (.rd 1 0)).ret 1 = some (.byte 9)) &&
      decide (aliveSegs g4 = []) && decide (aliveSems g4 = []) && decide (g4.os.files (.shm 0) = none)) = true := by
  decide +kernel

def crashAt (g : G) (tc : Tid) (op : Op) (j : Nat) : G :=
  ((List.replicate j (Action.step tc false)).foldl exec (g.start tc op)).kill (g.pidOf tc)

/-- the documented recovery: open (size 0), take ownership, free, create (thread / process 2) -/
def recover (g : G) (size : Nat) : G :=
  (((g.call 2 (.newShm 8 0 0 false)).call 2 (.own 8)).call 2 (.free 8)).call 2 (.newShm 9 0 size false)

/-- clean: the name is bound to a live zeroed segment of exactly `size` bytes with a lock of value 1 which a later opener
    joins; no other segment or set is alive -/
def cleanAfter (g : G) (size : Nat) : Bool :=
  decide (sizeOf g 9 = some size) && decide ((shmOf g 0).isSome) && decide (shmOf g 0 = segOf g 9) &&
  decide ((shmOf g 0).map (fun s => (g.os.segs s).bytes) = some (List.replicate size 0)) &&
  (let g' := g.call 3 (.newShm 10 0 0 false)
   decide (segOf g' 10 = segOf g 9) && decide (lockHdl g' 10 = lockHdl g 9) && decide ((g'.call 3 (.lock 10)).ret 3 = some .unit)) &&
  decide ((aliveSegs g).length = 1) && decide ((aliveSems g).length = 1)

/-- (scope: crash at EVERY step index j ≤ 16 of `p_shm_new` on a fresh name and of the free of the last handle / of an owner
    whose segment nobody else maps; no inode reuse) the documented recovery ends in a clean state.  With another process
    still attached the old segment lives on until that process detaches (System V contract) — and with inode reuse the
    recovery's create joins it: finding F15. -/
theorem crash_recoverable_scope :
    (List.all (List.range 17) fun j =>
      let fresh := G.init id
      let one := (G.init id).call 0 (.newShm 0 0 64 false)
      cleanAfter (recover (crashAt fresh 0 (.newShm 0 0 64 false) j) 32) 32 &&
      cleanAfter (recover (crashAt one 0 (.free 0) j) 32) 32 &&
      cleanAfter (recover (crashAt (one.call 0 (.own 0)) 0 (.free 0) j) 32) 32 &&
      cleanAfter (recover (crashAt (one.call 0 (.lock 0)) 0 (.unlock 0) j) 32) 32) = true := by
  decide +kernel

/-! ## non-vacuity -/

/-- a state with name m0 bound (inode 1, key 1 = segment 0 of 4 bytes) and two attached handles in two processes, written out -/
def segDemo : G :=
  { os := { OS.init with files := fun g => if g = .shm 0 then some 1 else none, nextIno := 2,
                         shmKeys := fun k => if k = 1 then some 0 else none,
                         segs := fun j => if j = 0 then { bytes := [0, 0, 0, 0], nattch := 2, alive := true } else {}, nextSeg := 1,
                         procs := fun _ => { atts := [⟨1, 0, false⟩], nextAddr := 2 } },
    pidOf := id,
    hs := fun h => if h = 0 then some (0, .shm { name := 0, hdl := some 0, addr := .at 1, size := 4, ro := false })
                   else if h = 1 then some (1, .shm { name := 0, hdl := some 0, addr := .at 1, size := 4, ro := false }) else none,
    calls := fun _ => none, ret := fun _ => none, log := [] }

/-- the hypotheses of `one_segment_per_name` / `same_segment` / `same_name_same_bytes_sysv` are satisfiable -/
example : SegInv 0 1 0 segDemo ∧ SegQuietRun 0 segDemo [.kill 2] ∧
    Attached segDemo 0 { name := 0, hdl := some 0, addr := .at 1, size := 4, ro := false } ∧ (segDemo.os.store 0 1 2 9).isSome = true := by
  refine ⟨⟨⟨rfl, rfl, rfl, rfl, by decide, ?_, ?_, by decide, rfl⟩, ?_, ?_⟩, ⟨?_, trivial⟩, ⟨1, ⟨1, 0, false⟩, rfl, rfl, rfl⟩, by decide⟩
  · intro k hk
    simp only [segDemo] at hk
    split at hk
    · assumption
    · cases hk
  · intro g hg
    simp only [segDemo] at hg
    split at hg
    · assumption
    · cases hg
  · intro h p x hx
    simp only [segDemo] at hx
    split at hx
    · simp only [Option.some.injEq, Prod.mk.injEq] at hx; rw [← hx.2]; exact ⟨by simp, by intro ps e; cases e⟩
    · split at hx
      · simp only [Option.some.injEq, Prod.mk.injEq] at hx; rw [← hx.2]; exact ⟨by simp, by intro ps e; cases e⟩
      · cases hx
  · intro t c hc; cases hc
  · intro t c hc; cases hc


set_option maxRecDepth 100000 in
/-- the hypotheses of `lock_is_mutex_partial` / `same_segment_same_bytes` are met by the model's own states -/
example :
    let g0 := ((G.init id).call 0 (.newShm 0 0 100 false)).call 1 (.newShm 1 0 0 false)
    let g := g0.start 1 (.lock 1)
    (∃ m h, g.calls 1 = some (.lockOp 1 m { api := .acquire, h := h, pc := .op }) ∧ h.hdl = some 0) ∧ (g.os.sems 0).alive = true ∧
    (∃ x y, findAtt (g0.os.procs 0) 1 = some x ∧ findAtt (g0.os.procs 1) 1 = some y ∧ x.seg = y.seg) ∧
    (g0.os.store 0 1 5 9).isSome = true := by
  refine ⟨⟨_, _, rfl, rfl⟩, by decide, ⟨_, _, rfl, rfl, rfl⟩, by decide⟩

end PV.SysV.C07
