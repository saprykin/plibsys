import PV.Lemmas.Tree.Morris
import PV.Lemmas.Tree.BST
import PV.Generated.TreeLoops
/-!
# C12 (heap level) — `p_tree_foreach` visits the in-order prefix and restores every link

`p_tree_foreach` (`/repo/src/ptree.c`) is a threaded in-order traversal: it writes into the tree
while walking it.  `PV/Model/Tree/Morris.lean` transliterates its loop over a heap of nodes; here:
for every tree, laid out anywhere in a heap at pairwise distinct addresses (`Repr`), and every stop
point `j` of the callback (`j = 0`: never stops), the loop terminates within `2 * size + 1`
iterations, never follows a pointer to a missing node, the callback sees exactly
`BT.foreachStop t j`, and the final heap is *literally* the initial heap (`h' = h`, equality of the
whole cell list, not only of the reachable part), `mod_counter` is back to 0.
`PV.Generated.TreeLoops` is imported for the tie only: the check reads the imports, so a refusal of the translator on
ptree.c blocks this property; the fact itself is `tree_source_as_modelled` (C12).
-/
namespace PV.Tree.Morris
open PV.Tree

variable {κ ν : Type}

/-- final local state: heap restored, no thread outstanding, the callback saw `foreachStop t j`,
    and it was called `min j size` times (`size` times if it never stops). -/
theorem morrisRun_spec {h : Heap κ ν} {root : Option Nat} {t : BT κ ν} (hr : Repr h root t)
    (j fuel : Nat) (hf : 2 * t.size + 1 ≤ fuel) :
    ∃ c lg, morrisRun h root j fuel = .done ⟨h, c, 0, lg⟩ ∧ lg.visited = t.foreachStop j ∧
      lg.calls = (if j = 0 then t.size else min j t.size) := by
  obtain ⟨pt, rfl, hrp, hnd⟩ := hr
  have hvis : ∀ xs : List (κ × ν), xs = pt.erase.toList →
      (visitL j ⟨false, [], 0⟩ xs).visited = pt.erase.foreachStop j ∧
      (visitL j ⟨false, [], 0⟩ xs).calls = (if j = 0 then pt.erase.size else min j pt.erase.size) := by
    rintro xs rfl
    refine ⟨visitL_init j _, ?_⟩
    rw [(visitL_visited j (⟨false, [], 0⟩ : Log κ ν) _ rfl (by simp; omega)).2, BT.length_toList]
    simp
  cases pt with
  | nil =>
    simp only [ReprP] at hrp
    subst hrp
    refine ⟨none, ⟨false, [], 0⟩, rfl, ?_, ?_⟩
    · simp [BT.foreachStop, PT.erase, BT.toList]
    · simp [PT.erase, BT.size]
  | node a l k v r =>
    have hroot : root = some a := hrp.1
    subst hroot
    have hsz := PT.erase_size (PT.node a l k v r)
    have hit := PT.iters_le (PT.node a l k v r)
    obtain ⟨f, hfuel⟩ : ∃ f, fuel = (PT.node a l k v r).iters + (f + 1) :=
      ⟨fuel - (PT.node a l k v r).iters - 1, by omega⟩
    simp only [morrisRun]
    rcases trav j fuel (PT.node a l k v r) h (some a) none 0 ⟨false, [], 0⟩ hrp hnd (by omega)
      (Int.le_refl 0) with h1 | ⟨_, _, c, h1⟩
    · refine ⟨none, _, ?_, hvis _ rfl⟩
      conv => lhs; arg 3; rw [hfuel]
      rw [h1, loop_succ]
      rfl
    · refine ⟨c, _, ?_, hvis _ rfl⟩
      conv => lhs; arg 3; rw [hfuel]
      rw [h1]

/-- **`p_tree_foreach` restores the tree and visits the in-order prefix.**
    From any heap in which `root` points to a well-formed tree `t`, for every stop point `j`, with any
    fuel `≥ 2 * size + 1` the run finishes (no fault, no timeout), the heap afterwards is equal to the
    heap before — `h' = h` literally — and the callback saw exactly `t.foreachStop j`. -/
theorem foreach_restores {h : Heap κ ν} {root : Option Nat} {t : BT κ ν} (hr : Repr h root t)
    (j : Nat) :
    ∃ fuel h' visited, morrisForeach h root j fuel = .done (h', visited) ∧ h' = h ∧
      visited = t.foreachStop j := by
  obtain ⟨c, lg, hrun, hv, _⟩ := morrisRun_spec hr j (2 * t.size + 1) (Nat.le_refl _)
  exact ⟨2 * t.size + 1, h, lg.visited, by simp [morrisForeach, hrun, Res.map], rfl, hv⟩

/-- the same with the explicit fuel bound -/
theorem foreach_restores_bound {h : Heap κ ν} {root : Option Nat} {t : BT κ ν}
    (hr : Repr h root t) (j fuel : Nat) (hf : 2 * t.size + 1 ≤ fuel) :
    morrisForeach h root j fuel = .done (h, t.foreachStop j) := by
  obtain ⟨c, lg, hrun, hv, _⟩ := morrisRun_spec hr j fuel hf
  simp [morrisForeach, hrun, Res.map, hv]

/-- **no NULL / dangling dereference**, whatever the fuel: the run never reaches `fault`
    (with too little fuel it is `timeout`, otherwise `done`). -/
theorem foreach_no_fault {h : Heap κ ν} {root : Option Nat} {t : BT κ ν} (hr : Repr h root t)
    (j fuel : Nat) : morrisForeach h root j fuel ≠ .fault := by
  intro hfault
  have hrunf : morrisRun h root j fuel = .fault := by
    cases hrun : morrisRun h root j fuel <;> simp [morrisForeach, hrun, Res.map] at hfault
    rfl
  obtain ⟨c, lg, hrun, _⟩ :=
    morrisRun_spec hr j (max fuel (2 * t.size + 1)) (Nat.le_max_right _ _)
  cases (morrisRun_mono hrunf nofun (Nat.le_max_left ..)).symm.trans hrun

/-- termination + absence of faults in one statement: every fuel gives `timeout` or the final result,
    and `2 * size + 1` is enough -/
theorem foreach_total {h : Heap κ ν} {root : Option Nat} {t : BT κ ν} (hr : Repr h root t)
    (j fuel : Nat) :
    morrisForeach h root j fuel = .timeout ∨
    morrisForeach h root j fuel = .done (h, t.foreachStop j) := by
  have hbig := foreach_restores_bound hr j (max fuel (2 * t.size + 1)) (Nat.le_max_right _ _)
  cases hrun : morrisRun h root j fuel with
  | timeout => left; simp [morrisForeach, hrun, Res.map]
  | fault => exact absurd (by simp [morrisForeach, hrun, Res.map]) (foreach_no_fault hr j fuel)
  | done s =>
    right
    simp only [morrisForeach, morrisRun_mono hrun nofun (Nat.le_max_left ..)] at hbig
    simpa only [morrisForeach, hrun] using hbig

/-! ### a concrete 5-node heap

```
            3 @0
           /    \
        1 @1    4 @2
       /    \
    0 @3    2 @4          cell 5 is empty
```
keys 0…4, values key+10. -/

def h5 : Heap Nat Nat := ⟨[
  some ⟨some 1, some 2, 3, 13⟩,
  some ⟨some 3, some 4, 1, 11⟩,
  some ⟨none, none, 4, 14⟩,
  some ⟨none, none, 0, 10⟩,
  some ⟨none, none, 2, 12⟩,
  none]⟩

def t5 : BT Nat Nat :=
  .node (.node (.node .nil 0 10 .nil) 1 11 (.node .nil 2 12 .nil)) 3 13 (.node .nil 4 14 .nil)

example : Repr h5 (some 0) t5 :=
  ⟨.node 0 (.node 1 (.node 3 .nil 0 10 .nil) 1 11 (.node 4 .nil 2 12 .nil)) 3 13 (.node 2 .nil 4 14 .nil),
   by decide, by simp [ReprP, h5, Heap.get], by decide⟩

example : morrisForeach h5 (some 0) 0 11 = .done (h5, [(0, 10), (1, 11), (2, 12), (3, 13), (4, 14)]) := by
  decide
example : morrisForeach h5 (some 0) 2 11 = .done (h5, [(0, 10), (1, 11)]) := by decide
example : morrisForeach h5 (some 0) 5 11 = .done (h5, [(0, 10), (1, 11), (2, 12), (3, 13), (4, 14)]) := by
  decide
/-- stop at the 4th call: that is at the root, on the right spine, with no thread outstanding —
    the `return` in the loop body fires and `cur_node` is still non-`NULL` -/
example : (morrisRun h5 (some 0) 4 11).map (fun s => (s.heap == h5, s.cur, s.modCounter, s.log.visited))
    = .done (true, some 2, 0, [(0, 10), (1, 11), (2, 12), (3, 13)]) := by decide
/-- too little fuel is a timeout, not a fault; a dangling root is a fault -/
example : morrisForeach h5 (some 0) 0 7 = .timeout := by decide
example : morrisForeach h5 (some 5) 0 11 = .fault := by decide
/-- the heap really is modified on the way: the first iteration threads node 4 (key 2) to the root -/
example : body 0 11 ⟨h5, some 0, 0, ⟨false, [], 0⟩⟩ =
    .done (.next ⟨h5.set 4 ⟨none, some 0, 2, 12⟩, some 1, 1, ⟨false, [], 0⟩⟩) := by decide

end PV.Tree.Morris
