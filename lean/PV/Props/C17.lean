import PV.Lemmas.SockAddr
/-! # C17 — socket address conversions

"For every IPv4 and IPv6 address, port, flow info and scope id, converting a PSocketAddress to the
native structure and back, or to text and back, reproduces the same address, and the text form,
family, native size and the any/loopback classification agree with the platform's
inet_pton/inet_ntop view of that address.  Creation from text succeeds exactly for the numeric
address strings the platform accepts, and conversions given a buffer that is too small fail without
reading or writing beyond it."

The theorems are about `PV.SockAddr` (the transliteration of `psocketaddress.c`, over the facts in
`PV.Generated.SA` that `tools/extract.py` regenerates from the working tree) and relate it to
`PV.SockAddr.Spec` (explicit byte layout, byte-wise classification).  Buffers are byte lists of
exactly the caller's extent; an access outside is the result `Res.fault`.  `NULL` pointer arguments: the
`…P` functions of the model (`Option` = pointer that may be NULL) and `null_arguments`, `nonnull_arguments`,
`to_native_false_writes_nothing`.

F7 (DESIGN §5): before the repair `p_socket_address_new_from_native` only rejected `len == 0` before
reading the two-byte `sa_family` (`SA.fromNativeMinLen = 1`); with a one-byte buffer that read is
`rdU16 [b] 0 = fault` (see the example after `no_oob_read`).  The model follows the source through
`SA.fromNativeMinLen`; `source_facts` pins the repaired value, so on an unrepaired tree this file no
longer checks and the campaign reports the concrete one-byte input. -/
namespace PV.Props.C17
open PV.SockAddr PV.Generated

/-- the facts of the current source / platform that the proofs below are about -/
theorem source_facts :
    SA.fromNativeMinLen = SA.saFamilyOff + SA.sizeofSaFamily ∧ SA.fromNativeMinLen = 2 ∧
    SA.sizeofSockaddrIn = 16 ∧ SA.sizeofSockaddrIn6 = 28 ∧ SA.afInet = 2 ∧ SA.afInet6 = 10 ∧
    SA.sinPortOff = 2 ∧ SA.sinAddrOff = 4 ∧ SA.sin6FlowOff = 4 ∧ SA.sin6AddrOff = 8 ∧ SA.sin6ScopeOff = 24 ∧
    SA.hasFlowinfo = true ∧ SA.hasScopeId = true ∧ SA.hasGetaddrinfo = true ∧ SA.littleEndian = true ∧
    SA.loopMask = 0xff000000 ∧ SA.loopValue = 0x7f000000 ∧ SA.inaddrAny = 0 := by decide

/-- both conversions, for every buffer and every stated length within it, are the explicit layout of
    `Spec` (16-byte `sockaddr_in`, 28-byte `sockaddr_in6`; family host order, port network order) -/
theorem model_is_layout :
    (∀ (bytes : Buf) (len : Nat), len ≤ bytes.length → newFromNative bytes len = .ok (Spec.decode bytes len)) ∧
    (∀ (a : Addr) (dest : Buf) (n : Nat), nativeSize a ≤ n → n ≤ dest.length →
      toNative a dest n = .ok (true, Spec.encode a ++ dest.drop (nativeSize a))) :=
  ⟨fun bytes len h => newFromNative_eq_decode bytes len h rfl, toNative_eq_encode⟩

example : newFromNative [2, 0, 0, 80, 127, 0, 0, 1, 0, 0, 0, 0, 0, 0, 0, 0] 16 = .ok (some (.v4 #v[127, 0, 0, 1] 80)) := by
  decide

/-- to native and back gives the same object — address, port, flow info and scope id — for every
    address and every destination buffer that is large enough -/
theorem native_roundtrip (a : Addr) (dest : Buf) (n : Nat) (h1 : nativeSize a ≤ n) (h2 : n ≤ dest.length) :
    ∃ d, toNative a dest n = .ok (true, d) ∧ d.length = dest.length ∧ newFromNative d n = .ok (some a) := by
  have hlen : (Spec.encode a ++ dest.drop (nativeSize a)).length = dest.length := by
    simp [encode_length]; omega
  refine ⟨_, toNative_eq_encode a dest n h1 h2, hlen, ?_⟩
  rw [newFromNative_eq_decode _ _ (by omega) rfl, decode_encode a _ n h1]

example : ∃ d, toNative (.v6 SA.in6addrLoopback 443 7 3) (List.replicate 30 0xA5) 30 = .ok (true, d) ∧
    newFromNative d 30 = .ok (some (.v6 SA.in6addrLoopback 443 7 3)) := by
  obtain ⟨d, h, _, h'⟩ := native_roundtrip (.v6 SA.in6addrLoopback 443 7 3) (List.replicate 30 0xA5) 30 (by decide) (by decide)
  exact ⟨d, h, h'⟩

/-- from native and back reproduces the bytes of the structure: all 28 for IPv6 (family, port, flow
    info, address, scope id), family/port/address for IPv4 with `sin_zero` cleared; nothing behind the
    structure is written -/
theorem native_roundtrip_bytes (bytes : Buf) (len : Nat) (a : Addr) (hl : len ≤ bytes.length)
    (h : newFromNative bytes len = .ok (some a)) (dest : Buf) (n : Nat) (h1 : nativeSize a ≤ n) (h2 : n ≤ dest.length) :
    ∃ d, toNative a dest n = .ok (true, d) ∧ d.drop (nativeSize a) = dest.drop (nativeSize a) ∧
      ((∃ x p, a = .v4 x p ∧ d.take 8 = bytes.take 8 ∧ (d.drop 8).take 8 = [0, 0, 0, 0, 0, 0, 0, 0]) ∨
       (∃ x p f s, a = .v6 x p f s ∧ d.take 28 = bytes.take 28)) := by
  rw [newFromNative_eq_decode _ _ hl rfl] at h
  injection h with h
  refine ⟨_, toNative_eq_encode a dest n h1 h2, List.drop_left' (encode_length a), ?_⟩
  rcases (decode_eq_some h).2 with ⟨x, p, z, r, rfl, -, rfl⟩ | ⟨x, p, f, s, r, rfl, rfl⟩
  · obtain ⟨x0, x1, x2, x3, rfl⟩ := vec4_cases x
    exact Or.inl ⟨_, p, rfl, by simp [Spec.encode], by simp [Spec.encode]⟩
  · refine Or.inr ⟨x, p, f, s, rfl, ?_⟩
    have he : (Spec.encode (.v6 x p f s)).length = 28 := encode_length _
    rw [List.take_left' he, List.take_left' he]

-- a 30-byte IPv6 buffer: all 28 structure bytes come back, the two bytes behind them stay as they were
example : ∃ a d, newFromNative ([10, 0, 1, 187, 4, 3, 2, 1, 0xfe, 0x80, 0, 0, 0, 0, 0, 0, 0, 0, 0, 0, 0, 0, 0, 1, 9, 0, 0, 0] ++ [7, 7]) 30 = .ok (some a) ∧
    toNative a (List.replicate 30 0xA5) 30 = .ok (true, d) ∧
    d = [10, 0, 1, 187, 4, 3, 2, 1, 0xfe, 0x80, 0, 0, 0, 0, 0, 0, 0, 0, 0, 0, 0, 0, 0, 1, 9, 0, 0, 0] ++ [0xA5, 0xA5] :=
  ⟨.v6 #v[0xfe, 0x80, 0, 0, 0, 0, 0, 0, 0, 0, 0, 0, 0, 0, 0, 1] 443 16909060 9,
   [10, 0, 1, 187, 4, 3, 2, 1, 0xfe, 0x80, 0, 0, 0, 0, 0, 0, 0, 0, 0, 0, 0, 0, 0, 1, 9, 0, 0, 0] ++ [0xA5, 0xA5],
   by decide +kernel, by decide +kernel, rfl⟩

/-- the port is stored in network byte order at bytes 2..3, whatever the host order of the other fields -/
theorem port_byte_order :
    (∀ (a : Addr) (dest : Buf) (n : Nat), nativeSize a ≤ n → n ≤ dest.length →
      ∃ d, toNative a dest n = .ok (true, d) ∧
        d[2]? = some (UInt8.ofNat ((port a).toNat / 256)) ∧ d[3]? = some (UInt8.ofNat ((port a).toNat % 256))) ∧
    (∀ (bytes : Buf) (len : Nat) (a : Addr), len ≤ bytes.length → newFromNative bytes len = .ok (some a) →
      ∃ ph pl, bytes[2]? = some ph ∧ bytes[3]? = some pl ∧ (port a).toNat = ph.toNat * 256 + pl.toNat) := by
  constructor
  · intro a dest n h1 h2
    refine ⟨_, toNative_eq_encode a dest n h1 h2, ?_⟩
    cases a <;> simp [Spec.encode, Spec.hi, Spec.lo, port]
  · intro bytes len a hl h
    rw [newFromNative_eq_decode _ _ hl rfl] at h
    injection h with h
    have hp : ∀ p : UInt16, p.toNat = (Spec.hi p).toNat * 256 + (Spec.lo p).toNat := fun p => by
      rw [← ofBe16_toNat, ofBe16_hi_lo]
    rcases (decode_eq_some h).2 with ⟨x, p, z, r, rfl, -, rfl⟩ | ⟨x, p, f, s, r, rfl, rfl⟩
    · exact ⟨Spec.hi p, Spec.lo p, rfl, rfl, hp p⟩
    · exact ⟨Spec.hi p, Spec.lo p, rfl, rfl, hp p⟩

example : ∃ d, toNative (.v4 #v[1, 2, 3, 4] 0x1234) (List.replicate 16 0) 16 = .ok (true, d) ∧ d[2]? = some 0x12 ∧ d[3]? = some 0x34 := by
  exact ⟨_, rfl, by decide, by decide⟩

/-- native size and family go together: 16 bytes / AF_INET (2) for IPv4, 28 bytes / AF_INET6 (10) for IPv6;
    an object made from a native structure has the family found in its first two bytes and never needs
    more bytes than were supplied -/
theorem size_family :
    (∀ x p, nativeSize (.v4 x p) = 16 ∧ family (.v4 x p) = 2) ∧
    (∀ x p f s, nativeSize (.v6 x p f s) = 28 ∧ family (.v6 x p f s) = 10) ∧
    (∀ (bytes : Buf) (len : Nat) (a : Addr), len ≤ bytes.length → newFromNative bytes len = .ok (some a) →
      bytes.take 2 = [UInt8.ofNat (family a), 0] ∧ nativeSize a ≤ len) := by
  refine ⟨fun _ _ => ⟨rfl, rfl⟩, fun _ _ _ _ => ⟨rfl, rfl⟩, ?_⟩
  intro bytes len a hl h
  rw [newFromNative_eq_decode _ _ hl rfl] at h
  injection h with h
  refine ⟨?_, (decode_eq_some h).1⟩
  rcases (decode_eq_some h).2 with ⟨x, p, z, r, rfl, -, rfl⟩ | ⟨x, p, f, s, r, rfl, rfl⟩ <;> rfl

example : nativeSize (.v6 SA.in6addrAny 0 0 0) = 28 ∧ family (.v6 SA.in6addrAny 0 0 0) = 10 := ⟨rfl, rfl⟩

/-- "any" exactly when every address byte is zero; IPv4 loopback exactly when the first octet is 127
    (the C mask `0xff000000` against `0x7f000000`, i.e. all of 127/8); IPv6 loopback exactly `::1` -/
theorem classification :
    (∀ a, isAny a = true ↔ ∀ b ∈ Spec.addrBytes a, b = 0) ∧
    (∀ x p, isLoopback (.v4 x p) = true ↔ x[0] = 127) ∧
    (∀ x p f s, isLoopback (.v6 x p f s) = true ↔ x = #v[0, 0, 0, 0, 0, 0, 0, 0, 0, 0, 0, 0, 0, 0, 0, 1]) ∧
    (∀ a, isAny a = Spec.isAny a ∧ isLoopback a = Spec.isLoopback a) := by
  refine ⟨?_, ?_, ?_, fun a => ⟨isAny_eq_spec a, isLoopback_eq_spec a⟩⟩
  · intro a
    rw [isAny_eq_spec]
    simp [Spec.isAny]
  · intro x p
    rw [isLoopback_eq_spec]
    simp [Spec.isLoopback]
  · intro x p f s
    rw [isLoopback_eq_spec, ← Vector.toList_inj]
    simp [Spec.isLoopback]

example : isLoopback (.v4 #v[127, 255, 0, 9] 0) = true ∧ isLoopback (.v4 #v[128, 0, 0, 1] 0) = false ∧
    isAny (.v6 SA.in6addrAny 1 2 3) = true ∧ isLoopback (.v6 SA.in6addrLoopback 1 2 3) = true := by decide

/-- the constructors: `new_any` is "any", `new_loopback` is "loopback".  (Today the IPv4 loopback constant in
    the source is 127.0.0.0 — `SA.newLoopback4` — which is inside 127/8 and classified loopback by library and
    platform alike; not a finding: the property promises the classification, not 127.0.0.1.  The statement
    holds for whatever constant inside 127/8 the translator finds.) -/
theorem any_loopback_constructors (p : UInt16) :
    (∀ a, newAny 2 p = some a ∨ newAny 10 p = some a → isAny a = true ∧ port a = p) ∧
    (∀ a, newLoopback 2 p = some a ∨ newLoopback 10 p = some a → isLoopback a = true ∧ isAny a = false ∧ port a = p) ∧
    (∀ f, f ≠ 2 → f ≠ 10 → newAny f p = none ∧ newLoopback f p = none) := by
  -- the port plays no part in the classification: the four constants are evaluated with port 0
  have any4 : isAny (.v4 SA.newAny4 0) = true := by decide
  have any6 : isAny (.v6 SA.in6addrAny 0 0 0) = true := by decide
  have loop4 : isLoopback (.v4 SA.newLoopback4 0) = true ∧ isAny (.v4 SA.newLoopback4 0) = false := by decide
  have loop6 : isLoopback (.v6 SA.in6addrLoopback 0 0 0) = true ∧ isAny (.v6 SA.in6addrLoopback 0 0 0) = false := by
    decide
  refine ⟨?_, ?_, ?_⟩
  · intro a h
    rcases h with h | h <;> (injection h with h; subst h)
    · exact ⟨any4, rfl⟩
    · exact ⟨any6, rfl⟩
  · intro a h
    rcases h with h | h <;> (injection h with h; subst h)
    · exact ⟨loop4.1, loop4.2, rfl⟩
    · exact ⟨loop6.1, loop6.2, rfl⟩
  · intro f h2 h10
    simp [newAny, newLoopback, SA.afInet, SA.afInet6, h2, h10]

example : (∃ a, newLoopback 2 80 = some a ∧ isLoopback a = true) ∧ newAny 10 0 = some (.v6 SA.in6addrAny 0 0 0) ∧ newAny 0 1 = none :=
  ⟨⟨_, rfl, by decide⟩, by decide, by decide⟩

/-- a destination that is too small: FALSE and not a byte written; a source that is too small: NULL -/
theorem too_small_fails :
    (∀ (a : Addr) (dest : Buf) (n : Nat), n < nativeSize a → toNative a dest n = .ok (false, dest)) ∧
    (∀ (bytes : Buf) (len : Nat), len ≤ bytes.length → len < 16 → newFromNative bytes len = .ok none) ∧
    (∀ (bytes : Buf) (len : Nat), len ≤ bytes.length → len < 28 → bytes.take 2 = [10, 0] →
      newFromNative bytes len = .ok none) := by
  refine ⟨toNative_small, ?_, ?_⟩
  · intro bytes len hl h
    rw [newFromNative_eq_decode _ _ hl rfl, decode_none_of_lt _ _ h]
  · intro bytes len hl h hf
    rw [newFromNative_eq_decode _ _ hl rfl, decode_inet6 _ _ hf, if_neg (by omega)]

example : toNative (.v4 #v[1, 2, 3, 4] 80) (List.replicate 15 0xA5) 15 = .ok (false, List.replicate 15 0xA5) := by decide
example : newFromNative [10, 0, 0, 80, 0, 0, 0, 0, 0, 0, 0, 0, 0, 0, 0, 0, 0, 0, 0, 0, 0, 0, 0, 1, 0, 0, 0] 27 = .ok none := by decide

/-- `p_socket_address_new_from_native` never reads outside the buffer, for every buffer and every stated
    length up to its size (full strength: with the length guard in front of the `sa_family` read, F7) -/
theorem no_oob_read (bytes : Buf) (len : Nat) (h : len ≤ bytes.length) : newFromNative bytes len ≠ .fault := by
  rw [newFromNative_eq_decode _ _ h rfl]; intro h; cases h

/-- what the unguarded code did with a one-byte buffer: the two-byte family read is out of bounds -/
example : rdU16 [2] SA.saFamilyOff = .fault := by decide
example : newFromNative [2] 1 = .ok none ∧ newFromNative [] 0 = .ok none ∧ newFromNative [10, 0] 2 = .ok none := by decide

/-- `p_socket_address_to_native` never writes (or reads) outside the destination -/
theorem no_oob_write (a : Addr) (dest : Buf) (n : Nat) (h : n ≤ dest.length) : toNative a dest n ≠ .fault := by
  by_cases hs : n < nativeSize a
  · rw [toNative_small a dest n hs]; intro h; cases h
  · rw [toNative_eq_encode a dest n (by omega) h]; intro h; cases h

example : toNative (.v6 SA.in6addrAny 0 0 0) [] 0 ≠ .fault := no_oob_write _ _ _ (Nat.le_refl _)

/-! ## lengths beyond the structure

A caller may state any length that its buffer really has (`sizeof (struct sockaddr_storage)`, a page, 2^31, 2^33, …).
The lengths are `Nat` here: nothing below depends on their size.  These two theorems are what the ops `tonativebig` /
`fromnativebig` of the line protocol rest on: the driver answers for a length of up to 2^33 from the first 64 bytes. -/

/-- `p_socket_address_to_native`: for every stated length from the native size of the address upwards (within the
    destination) the answer is the one for exactly the native size — TRUE, the structure written, everything behind it
    untouched; and cut at any `k` between the two, it is the conversion into the first `k` bytes -/
theorem to_native_length_monotone (a : Addr) (dest : Buf) (k n : Nat) (hk : nativeSize a ≤ k) (hkn : k ≤ n)
    (hn : n ≤ dest.length) :
    toNative a dest n = toNative a dest (nativeSize a) ∧
    ∃ d, toNative a dest n = .ok (true, d) ∧ d = Spec.encode a ++ dest.drop (nativeSize a) ∧ d.length = dest.length ∧
      toNative a (dest.take k) k = .ok (true, d.take k) ∧ d.drop k = dest.drop k := by
  have h0 := toNative_eq_encode a dest n (by omega) hn
  have h1 := toNative_eq_encode a dest (nativeSize a) (Nat.le_refl _) (by omega)
  have h2 := toNative_eq_encode a (dest.take k) k hk (by simp; omega)
  obtain ⟨e1, e2⟩ := encode_append_take_drop (Spec.encode a) dest (nativeSize a) k (encode_length a) hk
  refine ⟨h0.trans h1.symm, _, h0, rfl, ?_, ?_, e2⟩
  · simp [encode_length]; omega
  · rw [h2, e1]

example : ∃ d, toNative (.v4 #v[1, 2, 3, 4] 80) (List.replicate 100 0xA5) 100 = .ok (true, d) ∧
    toNative (.v4 #v[1, 2, 3, 4] 80) (List.replicate 64 0xA5) 64 = .ok (true, d.take 64) ∧ d.drop 64 = List.replicate 36 0xA5 := by
  obtain ⟨_, d, h, _, _, h', h''⟩ := to_native_length_monotone (.v4 #v[1, 2, 3, 4] 80) (List.replicate 100 0xA5) 64 100 (by decide) (by decide) (by decide)
  exact ⟨d, h, by simpa using h', by simpa using h''⟩

/-- `p_socket_address_new_from_native`: for every stated length from the structure size of the family upwards (within
    the buffer) the answer is the one for exactly that size — 16 for AF_INET, 28 for AF_INET6 —, and from 28 upwards it
    is the answer for the first `k` bytes alone, `28 ≤ k ≤ len` -/
theorem from_native_length_monotone (bytes : Buf) (len : Nat) (hl : len ≤ bytes.length) :
    (bytes.take 2 = [2, 0] → 16 ≤ len → newFromNative bytes len = newFromNative bytes 16) ∧
    (bytes.take 2 = [10, 0] → 28 ≤ len → newFromNative bytes len = newFromNative bytes 28) ∧
    (∀ k, 28 ≤ k → k ≤ len → newFromNative bytes len = newFromNative (bytes.take k) k) := by
  refine ⟨?_, ?_, ?_⟩
  · intro hf h16
    rw [newFromNative_eq_decode _ _ hl rfl, newFromNative_eq_decode _ _ (by omega) rfl, decode_inet _ _ hf, if_pos h16]
  · intro hf h28
    rw [newFromNative_eq_decode _ _ hl rfl, newFromNative_eq_decode _ _ (by omega) rfl, decode_inet6 _ _ hf, if_pos h28]
  · intro k hk hkl
    rw [newFromNative_eq_decode _ _ hl rfl, newFromNative_eq_decode _ _ (by simp; omega) rfl,
      decode_take bytes len k hk hkl hl]

-- an AF_INET structure in a 100-byte buffer: the same object for the stated lengths 16, 64 and 100
example : newFromNative ([2, 0, 0, 80, 127, 0, 0, 1] ++ List.replicate 92 0) 100 = .ok (some (.v4 #v[127, 0, 0, 1] 80)) ∧
    newFromNative ([2, 0, 0, 80, 127, 0, 0, 1] ++ List.replicate 92 0) 16 = .ok (some (.v4 #v[127, 0, 0, 1] 80)) ∧
    newFromNative ((([2, 0, 0, 80, 127, 0, 0, 1] ++ List.replicate 92 0 : Buf)).take 64) 64 = .ok (some (.v4 #v[127, 0, 0, 1] 80)) := by
  decide +kernel

/-- every entry point handed a `NULL` pointer answers its failure value (NULL / FALSE / 0 / `P_SOCKET_FAMILY_UNKNOWN`);
    `p_socket_address_to_native` with `addr == NULL` or `dest == NULL` leaves the destination as it was, whatever
    the other arguments; the setters do nothing -/
theorem null_arguments (P : Platform) (len : Nat) (port : UInt16) (a : Option Addr) (dest : Option Buf) (x : UInt32) :
    newFromNativeP none len = .ok none ∧ newP P none port = .ok none ∧
    toNativeP none dest len = .ok (false, dest) ∧ toNativeP a none len = .ok (false, none) ∧
    nativeSizeP none = 0 ∧ familyP none = 0 ∧ getAddressP P none = none ∧ portP none = 0 ∧
    flowInfoP none = 0 ∧ scopeIdP none = 0 ∧ setFlowInfoP none x = none ∧ setScopeIdP none x = none ∧
    isAnyP none = false ∧ isLoopbackP none = false := by
  refine ⟨rfl, rfl, ?_, ?_, rfl, rfl, rfl, rfl, rfl, rfl, rfl, rfl, rfl, rfl⟩
  · cases dest <;> rfl
  · cases a <;> rfl

/-- on non-`NULL` arguments the entry points are the functions the theorems above are about -/
theorem nonnull_arguments (P : Platform) (a : Addr) (b : Buf) (s : List UInt8) (n : Nat) (port : UInt16) :
    newFromNativeP (some b) n = newFromNative b n ∧ newP P (some s) port = new P s port ∧
    nativeSizeP (some a) = nativeSize a ∧ familyP (some a) = family a ∧ getAddressP P (some a) = some (getAddress P a) ∧
    isAnyP (some a) = isAny a ∧ isLoopbackP (some a) = isLoopback a ∧
    toNativeP (some a) (some b) n = (toNative a b n >>= fun r => pure (r.1, some r.2)) :=
  ⟨rfl, rfl, rfl, rfl, rfl, rfl, rfl, rfl⟩

/-- `p_socket_address_to_native` at pointer level: whenever it answers FALSE — `NULL` address, `NULL` destination,
    length 0, or a destination that is too small — not a byte of the destination has changed -/
theorem to_native_false_writes_nothing (a : Option Addr) (dest : Option Buf) (n : Nat)
    (hn : ∀ d, dest = some d → n ≤ d.length) (d' : Option Buf) (h : toNativeP a dest n = .ok (false, d')) : d' = dest := by
  cases a with
  | none => cases dest <;> (simp [toNativeP] at h; exact h.symm)
  | some a =>
    cases dest with
    | none => simp [toNativeP] at h; exact h.symm
    | some d =>
      by_cases hs : n < nativeSize a
      · simp [toNativeP, toNative_small a d n hs] at h; exact h.symm
      · have := toNative_eq_encode a d n (by omega) (hn d rfl)
        simp [toNativeP, this] at h

example : toNativeP none (some [1, 2, 3]) 3 = .ok (false, some [1, 2, 3]) ∧
    toNativeP (some (.v4 #v[1, 2, 3, 4] 80)) (some (List.replicate 15 0xA5)) 15 = .ok (false, some (List.replicate 15 0xA5)) ∧
    toNativeP (some (.v4 #v[1, 2, 3, 4] 80)) (some (List.replicate 16 0xA5)) 16 =
      .ok (true, some [2, 0, 0, 80, 1, 2, 3, 4, 0, 0, 0, 0, 0, 0, 0, 0]) := by
  refine ⟨rfl, by decide, by decide⟩

/-- IPv4 text round trip with the concrete glibc functions, for all 2^32 addresses -/
theorem text_roundtrip_v4 (a : Vector UInt8 4) : pton4 (ntop4 a) = some a := pton4_ntop4 a

-- "192.168.0.1" both ways; "192.168.00.1", "192.168.0" and "256.1.1.1" are rejected
example : ntop4 #v[192, 168, 0, 1] = [49, 57, 50, 46, 49, 54, 56, 46, 48, 46, 49] ∧
    pton4 [49, 57, 50, 46, 49, 54, 56, 46, 48, 46, 49] = some #v[192, 168, 0, 1] ∧
    pton4 [49, 57, 50, 46, 49, 54, 56, 46, 48, 48, 46, 49] = none ∧ pton4 [49, 57, 50, 46, 49, 54, 56, 46, 48] = none ∧
    pton4 [50, 53, 54, 46, 49, 46, 49, 46, 49] = none := by
  decide +kernel

/-- creation from text: a string with ':' goes to `getaddrinfo` and succeeds exactly when that returns an
    AF_INET6 result of 28 bytes that is an IPv6 structure (the port is then stored over bytes 2..3); any other
    string is tried with `inet_pton (AF_INET)` and then `inet_pton (AF_INET6)`.  Never a fault. -/
theorem new_dispatch (P : Platform) (s : List UInt8) (port : UInt16) :
    new P s port = .ok (
      if s.contains 58 then
        match P.getaddrinfo s with
        | some (fam, sa) =>
          if fam = 10 ∧ sa.length = 28 then Spec.decode (sa.take 2 ++ [Spec.hi port, Spec.lo port] ++ sa.drop 4) 28 else none
        | none => none
      else
        match P.pton4 s with
        | some a => some (.v4 a port)
        | none =>
          match P.pton6 s with
          | some a => some (.v6 a port 0 0)
          | none => none) := by
  by_cases hc : s.contains 58 = true
  · simp only [new, SA.hasGetaddrinfo, hc, Bool.and_self, if_true]
    cases hg : P.getaddrinfo s with
    | none => rfl
    | some r =>
      obtain ⟨fam, sa⟩ := r
      by_cases hf : fam = 10 ∧ sa.length = 28
      · have hw : wrU16 sa 2 (htons port) = .ok (sa.take 2 ++ [Spec.hi port, Spec.lo port] ++ sa.drop 4) := by
          simp [wrU16, wr, bytes_htons, hf.2]
        have hlen : (sa.take 2 ++ [Spec.hi port, Spec.lo port] ++ sa.drop 4).length = 28 := by
          simp [hf.2]
        simp only [SA.afInet6, SA.sizeofSockaddrIn6, SA.sin6PortOff, hf, and_self, if_true, hw, Res.ok_bind, hlen]
        rw [newFromNative_eq_decode _ _ (Nat.le_of_eq hlen.symm) rfl]
      · simp [SA.afInet6, SA.sizeofSockaddrIn6, hf]
  · have hc' : s.contains 58 = false := by simpa using hc
    simp only [new, hc', Bool.and_false, Bool.false_eq_true, if_false]
    cases P.pton4 s with
    | some a => rfl
    | none => cases P.pton6 s <;> rfl

/-- through the library: on a platform whose IPv4 functions are the concrete ones, the text of an IPv4
    address creates the same address again (same port) -/
theorem text_roundtrip_v4_lib (P : Platform) (hn : P.ntop4 = ntop4) (hp : P.pton4 = pton4) (a : Vector UInt8 4) (p : UInt16) :
    new P (getAddress P (.v4 a p)) p = .ok (some (.v4 a p)) := by
  have hm : (58 : UInt8) ∉ ntop4 a := by simpa using ntop4_no_colon a
  simp [getAddress, hn, new, hm, hp, pton4_ntop4]

/-- IPv6, relative to the platform contract `pton6 (ntop6 a) = some a` (trusted): the text of an IPv6
    address creates the same address and port again (flow info and scope id are not part of the text).
    The C code sends a text with ':' to `getaddrinfo`; `hgai` says that `getaddrinfo (AI_NUMERICHOST)` and
    `inet_pton` are the same parser on it. -/
theorem text_roundtrip_v6 (P : Platform) (a : Vector UInt8 16) (p : UInt16) (f s : UInt32)
    (h6 : P.pton6 (P.ntop6 a) = some a) (h4 : P.pton4 (P.ntop6 a) = none)
    (hgai : ∀ x, P.pton6 (P.ntop6 a) = some x → (P.ntop6 a).contains 58 = true →
      ∃ q, P.getaddrinfo (P.ntop6 a) = some (10, Spec.encode (.v6 x q 0 0))) :
    new P (getAddress P (.v6 a p f s)) p = .ok (some (.v6 a p 0 0)) := by
  rw [new_dispatch]
  by_cases hc : (P.ntop6 a).contains 58 = true
  · obtain ⟨q, hq⟩ := hgai a h6 hc
    have he : (Spec.encode (.v6 a q 0 0)).take 2 ++ [Spec.hi p, Spec.lo p] ++ (Spec.encode (.v6 a q 0 0)).drop 4 =
        Spec.encode (.v6 a p 0 0) ++ [] := by simp [Spec.encode]
    simp only [getAddress, hc, if_true, hq, encode_length, nativeSize, SA.sizeofSockaddrIn6, and_self, he]
    rw [decode_encode (.v6 a p 0 0) [] 28 (Nat.le_refl 28)]
  · have hm : (58 : UInt8) ∉ P.ntop6 a := by simpa using hc
    simp [getAddress, hm, h4, h6]

-- a platform that prints ::1 as "::1" and whose getaddrinfo / inet_pton read it back
example : new { pton4 := fun _ => none, pton6 := fun s => if s = [58, 58, 49] then some SA.in6addrLoopback else none,
                ntop4 := ntop4, ntop6 := fun _ => [58, 58, 49],
                getaddrinfo := fun _ => some (10, Spec.encode (.v6 SA.in6addrLoopback 0 0 0)) }
    [58, 58, 49] 443 = .ok (some (.v6 SA.in6addrLoopback 443 0 0)) := by decide +kernel

/-- without ':' creation succeeds exactly for the strings one of the two platform parsers accepts -/
theorem new_succeeds_iff (P : Platform) (s : List UInt8) (port : UInt16) (hc : s.contains 58 = false) :
    (∃ a, new P s port = .ok (some a)) ↔ ((P.pton4 s).isSome ∨ (P.pton6 s).isSome) := by
  rw [new_dispatch]
  simp only [hc, Bool.false_eq_true, if_false]
  cases P.pton4 s <;> cases P.pton6 s <;> simp

/-- with ':' creation succeeds exactly when `getaddrinfo` answers with an AF_INET6 result of 28 bytes whose own
    family field is a family `p_socket_address_new_from_native` knows (a platform that says `ai_family == AF_INET6`
    stores AF_INET6 there; the C code does not look, and would take an AF_INET structure as IPv4) -/
theorem new_succeeds_iff_colon (P : Platform) (s : List UInt8) (port : UInt16) (hc : s.contains 58 = true) :
    (∃ a, new P s port = .ok (some a)) ↔
      ∃ sa, P.getaddrinfo s = some (10, sa) ∧ sa.length = 28 ∧ (sa.take 2 = [10, 0] ∨ sa.take 2 = [2, 0]) := by
  rw [new_dispatch]
  simp only [hc, if_true]
  cases hg : P.getaddrinfo s with
  | none => simp
  | some r =>
    obtain ⟨fam, sa⟩ := r
    by_cases hf : fam = 10 ∧ sa.length = 28
    · obtain ⟨rfl, hl⟩ := hf
      have ht : (sa.take 2 ++ [Spec.hi port, Spec.lo port] ++ sa.drop 4).take 2 = sa.take 2 := by
        rw [List.append_assoc, List.take_left' (by simp [hl])]
      have hd := decode_isSome_iff (sa.take 2 ++ [Spec.hi port, Spec.lo port] ++ sa.drop 4) 28 (by simp [hl])
        (Nat.le_refl 28)
      rw [ht, Option.isSome_iff_exists] at hd
      simpa [hl] using hd
    · simp [hf]
      intro h1 h2
      exact absurd ⟨h1, h2⟩ hf

-- "::1" through a getaddrinfo that knows it; "1.2.3.4" through the concrete IPv4 parser
example : ∃ P : Platform, new P [58, 58, 49] 80 = .ok (some (.v6 SA.in6addrLoopback 80 0 0)) :=
  ⟨{ pton4 := fun _ => none, pton6 := fun _ => none, ntop4 := fun _ => [], ntop6 := fun _ => [],
     getaddrinfo := fun _ => some (10, Spec.encode (.v6 SA.in6addrLoopback 0 0 0)) }, by decide +kernel⟩

example : ∃ P : Platform, new P [49, 46, 50, 46, 51, 46, 52] 80 = .ok (some (.v4 #v[1, 2, 3, 4] 80)) :=
  ⟨{ pton4 := pton4, pton6 := fun _ => none, ntop4 := ntop4, ntop6 := fun _ => [], getaddrinfo := fun _ => none }, by decide +kernel⟩

example : (∃ a, new { pton4 := pton4, pton6 := fun _ => none, ntop4 := ntop4, ntop6 := fun _ => [], getaddrinfo := fun _ => none }
    [49, 46, 50, 46, 51] 80 = .ok (some a)) ↔ False := by
  rw [new_succeeds_iff _ _ _ (by decide)]; decide +kernel

/-- flow info / scope id exist for IPv6 only; setting one leaves everything else alone; both are supported
    in this configuration -/
theorem flow_scope (x : Vector UInt8 16) (p : UInt16) (f s v : UInt32) (y : Vector UInt8 4) :
    flowInfo (setFlowInfo (.v6 x p f s) v) = v ∧ scopeId (setFlowInfo (.v6 x p f s) v) = s ∧
    scopeId (setScopeId (.v6 x p f s) v) = v ∧ flowInfo (setScopeId (.v6 x p f s) v) = f ∧
    setFlowInfo (.v4 y p) v = .v4 y p ∧ setScopeId (.v4 y p) v = .v4 y p ∧
    flowInfo (.v4 y p) = 0 ∧ scopeId (.v4 y p) = 0 ∧ isFlowInfoSupported = true ∧ isScopeIdSupported = true := by
  simp [flowInfo, scopeId, setFlowInfo, setScopeId, SA.hasFlowinfo, SA.hasScopeId, isFlowInfoSupported, isScopeIdSupported]

example : flowInfo (setFlowInfo (.v6 SA.in6addrAny 1 2 3) 9) = 9 ∧ scopeId (setScopeId (.v4 #v[1, 2, 3, 4] 1) 9) = 0 := by decide

end PV.Props.C17
