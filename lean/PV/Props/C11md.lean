import PV.Model.Hash.Dispatch
import PV.Spec.Hash
import PV.Lemmas.Hash.History
/-!
# C11 (Merkle–Damgård group) — MD5, SHA-1, SHA-2-224/256/384/512

*For each algorithm the digest of a `PCryptoHash` equals the standard digest of the concatenation
of all bytes passed to `update` since creation or the last reset, for every way of splitting that
input into `update` calls; the hex string is the lower-case encoding of `hash_len` digest bytes;
reading is repeatable; updates after a read are ignored until reset.*

Model: `PV.Model.Hash.*` — transliteration of `pcryptohash-{md5,sha1,sha2-256,sha2-512}.c` and
`pcryptohash.c` **with finding F9 repaired** (the top-up test uses the full `psize`, the high half of
`len` is added to `len_high`); the translator refuses any other shape of `update`.
Spec: `PV.Spec.Hash` — `H msg = out (foldl compress iv (blocks (pad msg)))` from RFC 1321 / FIPS 180-4.
The compression functions and initial values are shared between model and spec here; `PV.Props.C11std`
proves them equal to the standards' own (`md5_block_is_standard` … `spec_is_standard`, `chunking_std`).
What stays data there: the 64 MD5 constants (the RFC's printed sine table) and the MD5 / SHA-1 initial values.

Everything below is full strength: no bound on the number or the sizes of the chunks other than
what the C types and the standards themselves impose — a chunk length is a `psize` (`< 2^64`, and
for the 32-bit algorithms that follows from the total), the message is shorter than `2^61` bytes
(`2^125` for SHA-384/512) so that its bit length fits the length field.  In particular single
updates of `2^32` bytes or more are covered (the case that fails on the unrepaired code, see
`unrepaired_counter_loses_high_half`).
-/
namespace PV.Hash
open Spec

/-! ## (a) every chunking gives the one-shot digest -/

/-- the digest bytes `get_digest` / `get_string` would read after the given `update` calls -/
def streamed (t : HashType) (chunks : List Src) : List UInt8 :=
  (t.alg.digest (t.alg.finish (chunks.foldl t.alg.update t.alg.init))).take t.hashLen

theorem chunking (t : HashType) (chunks : List Src) (hc : ∀ d ∈ chunks, d.size < 2 ^ 64)
    (hb : (Src.concat chunks).size < t.maxBytes) : streamed t chunks = H t (Src.concat chunks) := by
  have := chunking_generic (lawsOf t) chunks hc (by rw [lawsOf_M]; omega)
  rw [lawsOf_spec, lawsOf_hashLen] at this
  exact this

/-- for the algorithms with 32-bit counters the `psize` bound follows from the total -/
theorem chunking32 (t : HashType) (ht : t.maxBytes = 2 ^ 61) (chunks : List Src)
    (hb : (Src.concat chunks).size < 2 ^ 61) : streamed t chunks = H t (Src.concat chunks) :=
  chunking t chunks (fun d hd => by have := size_le_concat chunks d hd; omega) (by omega)

theorem chunking_md5 (chunks : List Src) (hb : (Src.concat chunks).size < 2 ^ 61) :
    streamed .md5 chunks = Spec.md5.H (Src.concat chunks) := chunking32 .md5 rfl chunks hb
theorem chunking_sha1 (chunks : List Src) (hb : (Src.concat chunks).size < 2 ^ 61) :
    streamed .sha1 chunks = Spec.sha1.H (Src.concat chunks) := chunking32 .sha1 rfl chunks hb
theorem chunking_sha224 (chunks : List Src) (hb : (Src.concat chunks).size < 2 ^ 61) :
    streamed .sha224 chunks = Spec.sha224.H (Src.concat chunks) := chunking32 .sha224 rfl chunks hb
theorem chunking_sha256 (chunks : List Src) (hb : (Src.concat chunks).size < 2 ^ 61) :
    streamed .sha256 chunks = Spec.sha256.H (Src.concat chunks) := chunking32 .sha256 rfl chunks hb
theorem chunking_sha384 (chunks : List Src) (hc : ∀ d ∈ chunks, d.size < 2 ^ 64)
    (hb : (Src.concat chunks).size < 2 ^ 125) :
    streamed .sha384 chunks = Spec.sha384.H (Src.concat chunks) := chunking .sha384 chunks hc hb
theorem chunking_sha512 (chunks : List Src) (hc : ∀ d ∈ chunks, d.size < 2 ^ 64)
    (hb : (Src.concat chunks).size < 2 ^ 125) :
    streamed .sha512 chunks = Spec.sha512.H (Src.concat chunks) := chunking .sha512 chunks hc hb

/-! ## (b) every sequence of update / reset / get_string / get_digest

`run` executes the dispatcher model, `View.run` is the statement of the property: the view keeps
the bytes updated since creation / the last reset before the first read (`msg`) and whether the
digest was read; `get_string` answers `hexOf (H msg)`, `get_digest` answers `H msg` (or length 0
when the caller's buffer is too small, which is not a read); updates after a read do not change
`msg`; reset empties it.  `Admissible`: update lengths are `psize`s and `msg` stays shorter than
`maxBytes`. -/

theorem history (t : HashType) (ops : List Op) (ha : Admissible t { msg := ByteArray.empty, read := false } ops) :
    run (PHash.new t) ops = View.run t { msg := ByteArray.empty, read := false } ops :=
  run_rel ops _ _ (rel_new t) ha

/-- reading is repeatable: a second `get_string` returns the same string and leaves the state as it is -/
theorem read_repeatable {t : HashType} (h : PHash t) :
    (h.getString.1).getString = (h.getString.1, h.getString.2) ∧
    (h.getString.1).getDigest t.hashLen = (h.getString.1, some (h.getString.1).digestBytes) := by
  simp [PHash.getString, PHash.getDigest, h.close.close_of_closed h.closed_close]

/-- an update after a read is ignored -/
theorem update_after_read_ignored {t : HashType} (h : PHash t) (d : Src) :
    (h.getString.1).update d = h.getString.1 := h.close.update_of_closed d h.closed_close

/-- … until `reset`, which gives a hash indistinguishable from a new one -/
theorem reset_is_new {t : HashType} (h : PHash t) : h.reset = PHash.new t := rfl

/-- the string is lower-case hexadecimal … -/
theorem hex_lower (d : List UInt8) : ∀ c ∈ (hexOf d).toList, c ∈ "0123456789abcdef".toList := by
  intro c hc
  simp only [hexOf, String.toList_ofList, List.mem_flatMap] at hc
  obtain ⟨b, _, hb⟩ := hc
  have key : ∀ i, i < 16 → (PV.Generated.HashMD.hexDigits.toList.toArray)[i]! ∈ "0123456789abcdef".toList := by decide
  have h1 : ((b >>> 4) &&& 0x0F).toNat < 16 := by
    rw [UInt8.toNat_and]; exact Nat.lt_of_le_of_lt Nat.and_le_right (by decide)
  have h2 : (b &&& 0x0F).toNat < 16 := by
    rw [UInt8.toNat_and]; exact Nat.lt_of_le_of_lt Nat.and_le_right (by decide)
  simp only [List.mem_cons, List.not_mem_nil, or_false] at hb
  rcases hb with rfl | rfl
  · exact key _ h1
  · exact key _ h2

/-- … of twice the digest length, which is the standard length of the type -/
theorem hex_length (t : HashType) (msg : ByteArray) : (hexOf (H t msg)).length = 2 * t.hashLen := by
  rw [hexOf_length, H_length]

theorem digest_length (t : HashType) (msg : ByteArray) : (H t msg).length = t.hashLen := H_length t msg

/-- `hash_len` of the dispatcher is the standard digest length of each type -/
theorem hashLen_standard :
    HashType.md5.hashLen = 16 ∧ HashType.sha1.hashLen = 20 ∧ HashType.sha224.hashLen = 28 ∧
    HashType.sha256.hashLen = 32 ∧ HashType.sha384.hashLen = 48 ∧ HashType.sha512.hashLen = 64 := by decide

/-! ## (d) the rest of the entry points: which integers `p_crypto_hash_new` accepts, `get_type`, NULL arguments

The enumerator values, the range test `MD5 ≤ type ≤ GOST`, one `switch` case per enumerator, `get_type`, `free`,
the constructors and the absence of mutable `static` objects in the seven files are translator facts
(`hash_api_facts`): several live objects cannot influence each other because the code has no state outside them —
in the model an object *is* its `PHash` value. -/

/-- every type of this family is accepted by the range test and selected by its own enumerator value -/
theorem new_by_code (t : HashType) : typeAccepted t.code = true ∧ HashType.ofCode t.code = some t := by
  cases t <;> decide

/-- any integer outside the enumeration is refused (`p_crypto_hash_new` returns NULL before the switch) -/
theorem new_refuses_outside (c : Int) (h : c < 0 ∨ 10 < c) : typeAccepted c = false := by
  have h1 : PV.Generated.HashMD.typeCodeMin = 0 := rfl
  have h2 : PV.Generated.HashMD.typeCodeMax = 10 := rfl
  unfold typeAccepted
  rw [h1, h2]
  rcases h with h | h
  · have : ¬ (0 ≤ c) := by omega
    simp [this]
  · have : ¬ (c ≤ 10) := by omega
    simp [this]

/-- an accepted integer that selects a type of this family selects exactly one -/
theorem ofCode_code (c : Int) (t : HashType) (h : HashType.ofCode c = some t) : t.code = c := by
  unfold HashType.ofCode at h
  have := List.find?_some h
  simpa using this

/-- `get_type` answers the type given to `new`, whatever happened to the object since -/
theorem get_type_constant {t : HashType} (h : PHash t) (ops : List Op) :
    (ops.foldl (fun h op => (step h op).1) h).getType = t.code ∧ h.getType = t.code := ⟨rfl, rfl⟩

/-- NULL data, a NULL output buffer and a NULL length pointer leave the object as it was: none of them is a
    read, even when the capacity would have sufficed -/
theorem null_arguments_ignored {t : HashType} (h : PHash t) (n cap : Nat) :
    h.updateNull n = h ∧ (h.getDigestNullBuf cap) = (h, 0) ∧ h.getDigestNullLen = h := ⟨rfl, rfl, rfl⟩

/-! ## (c) finding F9: what the unrepaired counter did

Before the repair the three files with 32-bit counters computed

```c
ctx->len_low += (puint32) len;
if (ctx->len_low < (puint32) len) ++ctx->len_high;
if (left && (puint32) len >= to_fill) { … }
```

so a single `update` of `2^32` bytes or more lost the high half of its length (and chose the
top-up branch by the truncated length).  For that code `chunking` is false without the
extra hypothesis "every chunk is shorter than `2^32` bytes"; on the counter sub-model: -/

/-- the counter statements of the unrepaired `update` -/
def kAdd32_unrepaired (k : UInt32 × UInt32) (len : Nat) : UInt32 × UInt32 :=
  let l : UInt32 := UInt32.ofNat len
  let lo := k.2 + l
  (if lo < l then k.1 + 1 else k.1, lo)

/-- one update of `2^32 + 5` bytes counted 5 bytes; the same bytes in two updates of `2^32 - 1`
    and 6 bytes counted all of them -/
theorem unrepaired_counter_loses_high_half :
    kAdd32_unrepaired (0, 0) (2 ^ 32 + 5) = (0, 5) ∧
    kAdd32_unrepaired (kAdd32_unrepaired (0, 0) (2 ^ 32 - 1)) 6 = (1, 5) := by decide

/-- the repaired counter agrees on the two splittings (and with the byte count) -/
theorem repaired_counter_witness :
    kAdd32 (0, 0) (2 ^ 32 + 5) = (1, 5) ∧ kAdd32 (kAdd32 (0, 0) (2 ^ 32 - 1)) 6 = (1, 5) := by decide

/-! ## non-vacuity -/

/-- an admissible history that exercises every clause: two updates, a failed and a successful
    read, an ignored update, reset -/
example : Admissible .sha256 { msg := ByteArray.empty, read := false }
    [.update [1, 2, 3].toByteArray, .update ByteArray.empty, .getDigest 5, .getDigest 32, .getString,
     .update [4].toByteArray, .getString, .reset, .getString] := by
  simp [Admissible, View.step, HashType.maxBytes, HashType.hashLen, Src.size, Src.toBytes, zeroBytes,
    PV.Generated.HashMD.hashLen_sha2_256, ByteArray.size_append]
  decide

example : typeAccepted 5 = true ∧ typeAccepted 11 = false ∧ typeAccepted (-1) = false ∧ HashType.ofCode 3 = some .sha256 := by decide

example : (Src.concat [([1, 2, 3].toByteArray : Src), { bytes := ByteArray.empty, zeros := 2 }]).size = 5 := by
  simp [Src.concat, Src.toBytes, zeroBytes, ByteArray.size]

end PV.Hash
