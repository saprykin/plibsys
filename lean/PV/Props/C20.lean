import PV.Lemmas.Res.Balance
import PV.Generated.ResSites
/-! # C20 — resource neutrality

"After any sequence of library calls in which every object obtained is eventually freed (and named IPC objects
are freed by an owner), the process holds no library allocation, no additional open file descriptor and no
additional memory mapping compared with before the sequence, and no IPC name created by the sequence remains in
the system; this holds equally when calls in the sequence fail.  Each descriptor the library opens is closed
exactly once."

The statements are about the model `PV.Model.Res` (every public constructor / destructor / failing path of the
library as a resource program, the code with the repairs of findings F5 / F10 / F12 applied) and range over
**every** sequence of call lines and **every** failure predicate.  The tie to the C code is the differential run
of `tools/props/c20.py` (resource counts after every call of random cross-module sequences) and the fault
enumeration of C18. -/
namespace PV.Props.C20
open PV.Res List

/-- what the process holds: heap blocks, descriptors, mappings, native TLS keys -/
abbrev resources (s : St) : List R := s.held

/-- the union of the footprints of the live objects: the library's own state and the objects in the slots -/
abbrev footprints (env : Env) : List R := env.lib.foot ++ footL env.slots

/-- **footprint_inv**, one call: every call of the call language — constructor, destructor, any other call, on any
    slots, succeeding, failing, or skipped because its arguments do not fit — keeps
    `resources = ⋃ footprint (live objects)` and "every existing IPC name has a live owner"; it never faults. -/
theorem footprint_inv_call (c : Call) (env : Env) (s : St) (f : Nat → Bool)
    (h : resources s ~ footprints env ∧ ∀ n ∈ s.names.map (·.1), n ∈ ownL env.slots) :
    ∃ r env' s', (step c env).run f s = .ok (r, env') s' ∧
      resources s' ~ footprints env' ∧ ∀ n ∈ s'.names.map (·.1), n ∈ ownL env'.slots := by
  obtain ⟨a, s', hr, h'⟩ := (step_inv c (env := env) (s := s) h f).run
  exact ⟨a.1, a.2, s', hr, h'⟩

/-- **footprint_inv**: for every sequence of successful and failing calls (given as call lines, the language of
    the harness), from the empty state -/
theorem footprint_inv (lines : List String) (f : Nat → Bool) :
    ∃ rs env' s', (runLines lines {}).run f {} = .ok (rs, env') s' ∧
      resources s' ~ footprints env' ∧ ∀ n ∈ s'.names.map (·.1), n ∈ ownL env'.slots := by
  obtain ⟨a, s', hr, h'⟩ := (runLines_inv lines Inv_init f).run
  exact ⟨a.1, a.2, s', hr, h'⟩

/-- the same for sequences of parsed calls, from any state in which the invariant holds -/
theorem footprint_inv_calls (cs : List Call) (env : Env) (s : St) (f : Nat → Bool) (h : Inv env s) :
    ∃ rs env' s', (runCalls cs env).run f s = .ok (rs, env') s' ∧ Inv env' s' := by
  obtain ⟨a, s', hr, h'⟩ := (runCalls_inv cs h f).run
  exact ⟨a.1, a.2, s', hr, h'⟩

/-- **neutral**: when every object obtained has been freed (every slot is empty, the library is shut down; a named
    IPC object that was freed by non-owners only would still be counted as existing), the resource state equals
    the initial one: nothing held, no IPC name — whichever calls of the sequence failed -/
theorem neutral (lines : List String) (f : Nat → Bool) (rs : List Char) (env' : Env) (s' : St)
    (hr : (runLines lines {}).run f {} = .ok (rs, env') s') (hfreed : env'.neutral) :
    resources s' = [] ∧ s'.names = [] ∧ s'.live = [] ∧ s'.fds = [] ∧ s'.maps = [] ∧ s'.tlsKeys = [] := by
  obtain ⟨rs2, env2, s2, h2, hinv⟩ := footprint_inv lines f
  rw [hr] at h2
  cases h2
  obtain ⟨h1, h3⟩ := neutral_of_inv hinv hfreed
  refine ⟨h1, h3, ?_, ?_, ?_, ?_⟩ <;> simp [St.live, St.fds, St.maps, St.tlsKeys, h1]

/-- **fd_closed_once**: for *every* resource program (by induction on programs, so for every library function,
    call and sequence): the descriptors open now and the descriptors closed so far are together exactly the
    descriptors issued so far, each once.  Hence no descriptor is ever closed twice … -/
theorem fd_closed_once (m : ResM α) (f : Nat → Bool) (a : α) (s' : St) (hr : m.run f {} = .ok a s') :
    (s'.fds ++ s'.closed) ~ List.range' 1 s'.nextFd ∧ s'.closed.Nodup := by
  have h := run_fdwf m f {} FdWF_init a s' hr
  refine ⟨h, ?_⟩
  have hn : (s'.fds ++ s'.closed).Nodup := (List.Perm.nodup_iff h).2 (List.nodup_range' (n := s'.nextFd) (s := 1) (step := 1) (by omega))
  exact (List.nodup_append.1 hn).2.1

/-- … and when none is open any more, every descriptor the sequence opened has been closed exactly once -/
theorem fd_closed_exactly_once (lines : List String) (f : Nat → Bool) (rs : List Char) (env' : Env) (s' : St)
    (hr : (runLines lines {}).run f {} = .ok (rs, env') s') (hfreed : env'.neutral) :
    s'.closed ~ List.range' 1 s'.nextFd := by
  have h := (fd_closed_once _ f _ s' hr).1
  have := (neutral lines f rs env' s' hr hfreed).2.2.2.1
  rw [this] at h
  simpa using h

/-- the model predicts a clean run for every line sequence: no call ever faults -/
theorem never_faults (lines : List String) (f : Nat → Bool) : ∃ r s', (runLines lines {}).run f {} = .ok r s' :=
  let ⟨rs, env', s', h, _⟩ := footprint_inv lines f
  ⟨(rs, env'), s', h⟩

/-- **The model's acquisitions and releases are those of the source.**  Per function of the in-scope files, the number of
    call sites that acquire a system resource (socket, accept, open, fopen, opendir, shm_open, mmap, sem_open, dlopen,
    pthread_key_create, pthread_create) and of call sites that release one, in the sources as compiled for this platform
    (`tools/extract.py`), equal the snapshot the resource programs were transliterated from.  A release removed from an error
    exit that no sampled sequence reaches is a broken obligation here. -/
theorem sys_sites_as_modelled : PV.Generated.resSysSites = modelSysSites := by decide +kernel

/-! ## non-vacuity -/

/-- a sequence across modules with a failing allocation in the middle: it ends neutral -/
example : (match (runCalls [.glob .libInit none, .ctor .htNew 0 none, .mut (.htInsert 1 2) .ht 0 none,
      .ctor (.semNew 0 false) 1 (some 9), .ctor (.dirNew false) 2 (some 9), .dtor .dir 2, .dtor .sem 1, .dtor .ht 0,
      .dtor .err 9, .glob .libShutdown none] {}).run (fun i => i == 6) {} with
    | .ok (rs, env') s => decide (rs = ['S', 'S', 'S', 'F', 'S', 'S', '-', 'S', 'S', 'S'] ∧ s.held = [] ∧ s.names = [] ∧ s.closed = [1])
    | .fault _ => false) = true := by decide

/-- error exits in one sequence — a refused `p_realloc`, an invalid-argument call, `fstat` failing on an existing
    segment, `getsockopt` failing in `p_socket_new_from_fd`, `pthread_attr_setdetachstate` failing in
    `p_uthread_create`, a thread with a long name, `munmap` failing in `p_mem_munmap`: it ends neutral, every
    descriptor closed once -/
example : (match (runCalls [.glob .libInit none, .ctor .strdup 0 none, .mut .strRealloc .str 0 none, .glob .fileRemoveMissing (some 9),
      .ctor (.shmNew 0 0) 1 (some 9), .glob (.sysfail "fstat") none, .ctor (.shmNew 0 0) 2 (some 9),
      .glob (.sysfail "getsockopt") none, .ctor .sockFromFd 3 (some 9),
      .glob (.sysfail "pthread_attr_setdetachstate") none, .threadRun 4 ⟨false, false⟩ none, .threadRun 4 ⟨false, true⟩ none,
      .ctor (.mmapNew 4096) 5 (some 9), .glob (.sysfail "munmap") none, .mut .mmapFree .mmap 5 (some 9), .mut .mmapFree .mmap 5 (some 9),
      .dtor .thread 4, .dtor .shm 1, .dtor .str 0, .dtor .err 9, .glob .libShutdown none] {}).run (fun i => i == 4) {} with
    | .ok (rs, env') s => decide (rs = ['S', 'S', 'F', 'F', 'S', 'S', 'F', 'S', 'F', 'S', 'F', 'S', 'S', 'S', 'F', 'S', 'S', 'S', 'S', 'S', 'S']
        ∧ env'.slots.all (·.isNone) ∧ s.held = [] ∧ s.names = [] ∧ s.closed.length = s.nextFd)
    | .fault _ => false) = true := by decide

/-- … and while objects are live the process does hold their footprints -/
example : (match (runCalls [.glob .libInit none, .ctor (.shmNew 0 0) 1 none] {}).run (fun _ => false) {} with
    | .ok (_, _) s => decide (s.live.length = 2 + 4 ∧ s.maps.length = 2 ∧ s.names.length = 2 ∧ s.closed = [1])
    | .fault _ => false) = true := by decide

/-- behaviour before the F5 repair: unmapping only the clamped size of a handle opened with a smaller size leaves
    the tail mapped; harness: `shm_two_smaller none 0`, `maps=1` -/
example : (match (do let m ← mmap 12288; munmap m 12288 1024 : ResM Unit).run (fun _ => false) {} with
    | .ok _ s => decide (s.held = [.map 1 8192])
    | .fault _ => false) = true := by decide

end PV.Props.C20
