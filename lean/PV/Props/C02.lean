import PV.Lemmas.RWLock
/-!
# C02 — Read-write lock

"At every instant a PRWLock is held either by exactly one writer or by any number of readers,
never both; reader/writer trylock return TRUE only when that mode is grantable and never block.
Several readers can hold the lock at the same time, and whenever every thread that acquires the
lock later releases it, every lock call returns: a finite set of lock/unlock rounds always runs to
completion (no lost wake-up, no deadlock)."

General model (`prwlock-general.c`): `PV.RWLock.stepThread cfg` where `cfg` and the masks of the
packing macros are generated from the current source (`PV/Generated/RWLock.lean`).  All theorems
hold for ANY number of threads (< 2^15, the width of the counter fields), any interleaving, any
choice of the waiter a `signal` wakes, and with spurious wake-ups (`Reach`).

Assumptions (recorded in the evidence): pthread mutex / condition variable behave as POSIX says
(Mesa semantics, spurious wake-ups allowed) and never fail on valid objects; fewer than 2^15
threads; programs are disciplined (`Disc`: rounds `acquire ; matching release`, a failed acquire
skips its release).

Section g drops "never fail" for the SAFETY half: `ReachF` adds `failStep` (any `p_mutex_lock`,
`p_mutex_unlock`, `p_cond_variable_wait`, signal or broadcast call may return FALSE, any number of
times; a failed call has no effect).  Exclusion and the counter refinement still hold in every
reachable state (`rw_safety_failing`), an acquire call that fails at its `p_mutex_lock` or at a
`p_cond_variable_wait` returns FALSE having acquired nothing and leaves a consistent state
(`failed_lock_acquires_nothing`, `failed_wait_acquires_nothing`, `false_return_holds_nothing`).
The full statement "FALSE ⇒ the counters do not count the caller" is FALSE of the code on one path:
a granted acquire whose final `p_mutex_unlock` fails returns FALSE with `active_threads` bumped
(`failed_unlock_after_grant_keeps_count`, witness `false_return_may_keep_count`); the liveness half
does not survive failures either (a failed unlock wedges the internal mutex, a failed signal loses
the wake-up: `liveness_needs_working_primitives`).
-/
namespace PV.Props.C02
open PV.RWLock

/-- (tie) the wait / wake-up structure extracted from the current `prwlock-general.c` is the one
    the proofs below are about, and the translator recognised every shape -/
theorem cfg_is_reference : cfg = Cfg.reference ∧ PV.Generated.RWLock.extractionComplete = true := by decide

/-! ## a. the packing macros -/

/-- for counts < 2^15 the SET/COUNT macros are inverse to each other and do not disturb the
    other field — on an arbitrary 32-bit word (masks and shift: generated from the source) -/
theorem pack_unpack (x : Word) (n : Nat) (hn : n < 2^15) :
    READER_COUNT (SET_READERS x (BitVec.ofNat 32 n)) = BitVec.ofNat 32 n ∧
    WRITER_COUNT (SET_READERS x (BitVec.ofNat 32 n)) = WRITER_COUNT x ∧
    WRITER_COUNT (SET_WRITERS x (BitVec.ofNat 32 n)) = BitVec.ofNat 32 n ∧
    READER_COUNT (SET_WRITERS x (BitVec.ofNat 32 n)) = READER_COUNT x :=
  ⟨READER_COUNT_SET_READERS x n hn, WRITER_COUNT_SET_READERS x n hn, WRITER_COUNT_SET_WRITERS x n hn,
   READER_COUNT_SET_WRITERS x _⟩

/-- the word `pack r w = r + w·2^15` is what the counters look like: reading the fields gives the
    counts back, and it is zero iff both are -/
theorem pack_fields (r w : Nat) (hr : r < 2^15) (hw : w < 2^15) :
    READER_COUNT (pack r w) = BitVec.ofNat 32 r ∧ WRITER_COUNT (pack r w) = BitVec.ofNat 32 w ∧
    (pack r w = 0 ↔ r = 0 ∧ w = 0) :=
  ⟨READER_COUNT_pack r w hr, WRITER_COUNT_pack r w hr hw, pack_eq_zero r w hr hw⟩

/-- soundness of the step granularity: the two counter words change only in a step that begins by
    acquiring the internal mutex (it was free) and after which the stepping thread owns it;
    spurious wake-ups do not touch them -/
theorem counters_only_under_mutex {s s' : State} (l : Label) (h : Step cfg s l s')
    (hne : s'.active ≠ s.active ∨ s'.waiting ≠ s.waiting) :
    ∃ t pick, l = .run t pick ∧ s.mutex = none ∧ s'.mutex = some t := by
  cases l with
  | run t pick => exact ⟨t, pick, rfl, counters_change h hne⟩
  | spur t =>
    obtain ⟨_, _, -, -, rfl⟩ := spurious_eq h
    rcases hne with hne | hne <;> exact absurd rfl hne

/-! ## b. safety -/

/-- in every reachable state: at most one writer holds; if a writer holds no reader does; and the
    four bit fields are exactly the numbers of holders / of threads inside the wait blocks -/
theorem rw_safety {s : State} (h : Reach cfg s) :
    writers s ≤ 1 ∧ (1 ≤ writers s → readers s = 0) ∧
    s.active = pack (readers s) (writers s) ∧ s.waiting = pack (waitingReaders s) (waitingWriters s) ∧
    READER_COUNT s.active = BitVec.ofNat 32 (readers s) ∧ WRITER_COUNT s.active = BitVec.ofNat 32 (writers s) ∧
    READER_COUNT s.waiting = BitVec.ofNat 32 (waitingReaders s) ∧ WRITER_COUNT s.waiting = BitVec.ofNat 32 (waitingWriters s) := by
  rw [cfg_is_reference.1] at h
  have inv := (reach_inv h).toS
  exact ⟨inv.safe.1, inv.safe.2, inv.act, inv.wai, inv.fields⟩

/-- the ghost `held` is the API-level notion of holding: a thread that is between the TRUE return of
    an acquire call and its unlock call (it is suspended at the entry of the unlock function), or
    about to return TRUE from an acquire call, is counted as a holder of that mode; every other
    thread that is at the entry of an acquire call holds nothing -/
theorem holders_are_api_holders {s : State} {t : Tid} {th : Thread} (h : Reach cfg s) (hth : s.threads[t]? = some th) :
    (th.pc = .lock .runlock → th.held = .r) ∧ (th.pc = .lock .wunlock → th.held = .w) ∧
    (∀ op, op.isAcq = true → th.pc = .atUnlock op true → th.held = op.heldBy) ∧
    (∀ op, op.isAcq = true → th.pc = .lock op → th.held = .none) := by
  rw [cfg_is_reference.1] at h
  obtain ⟨h1, h2, h3, h4, -⟩ := toks_holder (TOK_imp_TOKS ((reach_inv h).tok th (List.mem_of_getElem? hth)))
  exact ⟨h1, h2, fun op ha hpc => by simpa using h3 op true ha hpc, h4⟩

/-! ## c. trylock -/

/-- `p_rwlock_reader_trylock` decides in its first step (when it gets the internal mutex): the value
    it will return is TRUE iff no writer holds at that moment -/
theorem try_grantable_reader {s s' : State} {t : Tid} {pick : Option Tid} {th : Thread} (h : Reach cfg s)
    (hth : s.threads[t]? = some th) (hpc : th.pc = .lock .rtry) (hs : stepThread cfg s t pick = some s') :
    ∃ th', s'.threads[t]? = some th' ∧ th'.pc = .atUnlock .rtry (decide (writers s = 0)) := by
  rw [cfg_is_reference.1] at h hs
  exact rtry_step (reach_inv h) hth hpc hs

/-- `p_rwlock_writer_trylock`: TRUE iff nobody holds at its decision step -/
theorem try_grantable_writer {s s' : State} {t : Tid} {pick : Option Tid} {th : Thread} (h : Reach cfg s)
    (hth : s.threads[t]? = some th) (hpc : th.pc = .lock .wtry) (hs : stepThread cfg s t pick = some s') :
    ∃ th', s'.threads[t]? = some th' ∧ th'.pc = .atUnlock .wtry (decide (readers s = 0 ∧ writers s = 0)) := by
  rw [cfg_is_reference.1] at h hs
  exact wtry_step (reach_inv h) hth hpc hs

/-- … and the second (last) own step of the call is always enabled and returns that value: a
    trylock takes exactly two own steps and never reaches a condition-variable wait.  (The same
    holds for the last step of every API function.) -/
theorem call_returns {s : State} {t : Tid} {th : Thread} {op : Op} {ret : Bool} (h : Reach cfg s)
    (hth : s.threads[t]? = some th) (hpc : th.pc = .atUnlock op ret) :
    ∃ s', stepThread cfg s t none = some s' ∧
      ∃ th', s'.threads[t]? = some th' ∧ th'.last = some (op, ret) ∧ (th'.pc = .done ∨ ∃ o, th'.pc = .lock o) := by
  rw [cfg_is_reference.1] at h ⊢
  exact return_step (reach_inv h) hth hpc

/-- **trylock never blocks**: in no reachable state is any thread at, inside, or returning from a
    `p_cond_variable_wait` on behalf of a trylock (or unlock) call — only `p_rwlock_reader_lock` waits
    (on `read_cv`) and `p_rwlock_writer_lock` (on `write_cv`).  (The harness's `!TRYBLOCK` oracle
    observes exactly this on the C side.) -/
theorem try_never_waits {s : State} {t : Tid} {th : Thread} {op : Op} {cv : Cv} (h : Reach cfg s)
    (hth : s.threads[t]? = some th)
    (hpc : th.pc = .atWait op cv ∨ th.pc = .blocked op cv ∨ th.pc = .woken op cv) :
    (op = .rlock ∧ cv = .read) ∨ (op = .wlock ∧ cv = .write) := by
  rw [cfg_is_reference.1] at h
  exact tok_wait ((reach_inv h).tok th (List.mem_of_getElem? hth)) hpc

/-! ## d. readers share -/

/-- from any reachable state with k reader holders and no writer holding, another
    `p_rwlock_reader_lock` is granted in its first step (as soon as it gets the internal mutex):
    k+1 readers hold, and the call never blocks on a condition variable (its remaining step is
    `call_returns`, returning TRUE) -/
theorem readers_share {s : State} {t : Tid} {th : Thread} (h : Reach cfg s)
    (hth : s.threads[t]? = some th) (hpc : th.pc = .lock .rlock) (hm : s.mutex = none) (hw : writers s = 0) :
    ∃ s', stepThread cfg s t none = some s' ∧ readers s' = readers s + 1 ∧ writers s' = 0 ∧
      ∃ th', s'.threads[t]? = some th' ∧ th'.pc = .atUnlock .rlock true := by
  rw [cfg_is_reference.1] at h ⊢
  exact rlock_step_shared (reach_inv h) hth hpc hm hw

/-! ## e. liveness (no fairness assumption) -/

/-- no deadlock / no lost wake-up: in every reachable state in which some program is unfinished,
    some thread can make a non-spurious step -/
theorem no_deadlock {s : State} (h : Reach cfg s) (hnd : allDone s = false) : ∃ t, Enabled cfg s t := by
  rw [cfg_is_reference.1] at h ⊢
  obtain ⟨t, s', hs'⟩ := no_deadlock_inv (reach_inv h) hnd
  exact ⟨t, none, s', hs'⟩

/-- the lexicographic measure (calls still to be made, steps still possible inside the current
    calls) strictly decreases on every non-spurious step, from any state (`step_measure`: for any
    configuration, not only the extracted one) -/
theorem measure_decreases {s s' : State} {t : Tid} {pick : Option Tid} (h : stepThread cfg s t pick = some s') :
    Prod.Lex (· < ·) (· < ·) (measure s') (measure s) :=
  step_measure h

/-- every infinite execution contains infinitely many spurious wake-ups; i.e. every execution
    with finitely many spurious wake-ups is finite … -/
theorem terminates (f : Nat → State) (l : Nat → Label) (hstep : ∀ i, Step cfg (f i) (l i) (f (i+1))) :
    ∀ n, ∃ m, n ≤ m ∧ (l m).isSpur = true := by
  intro n
  apply Classical.byContradiction
  intro hno
  have hall : ∀ m, n ≤ m → (l m).isSpur = false := by
    intro m hm
    cases hsp : (l m).isSpur
    · rfl
    · exact absurd ⟨m, hm, hsp⟩ hno
  apply no_infinite_descent (nsstep_wf cfg) (fun i => f (n + i))
  intro i
  have hs := hstep (n + i)
  have hl := hall (n + i) (Nat.le_add_right _ _)
  cases hli : l (n + i) with
  | run t pick => rw [hli] at hs; exact ⟨t, pick, hs⟩
  | spur t => rw [hli] at hl; simp [Label.isSpur] at hl

/-- … and a finite execution that cannot be extended by a non-spurious step has finished all
    programs: "a finite set of lock/unlock rounds always runs to completion" -/
theorem runs_to_completion {s : State} (h : Reach cfg s) (hstuck : ∀ t, ¬ Enabled cfg s t) : allDone s = true := by
  cases hd : allDone s
  · obtain ⟨t, ht⟩ := no_deadlock h hd
    exact absurd ht (hstuck t)
  · rfl

/-! ## f. posix implementation (`prwlock-posix.c`): mapping onto the trusted pthread rwlock -/

open PV.RWLock.Posix in
/-- every `p_rwlock_*` function returns TRUE iff its pthread call returned 0 -/
theorem posix_result (op : Op) (code : Int) : result op code = true ↔ code = 0 := by
  simp [result]

open PV.RWLock.Posix in
/-- a call that returns FALSE has not changed the lock; an acquire that returns TRUE has made the
    caller a holder in the requested mode, and this was grantable: no writer held (read), nobody
    held (write) -/
theorem posix_mapping {s s' : PState} {t : Tid} {op : Op} {ret : Bool} (h : ApiStep s t op ret s') :
    (ret = false → s' = s) ∧
    (ret = true → (op = .rlock ∨ op = .rtry) → s.writer = none ∧ s' = { s with readers := t :: s.readers }) ∧
    (ret = true → (op = .wlock ∨ op = .wtry) → s.writer = none ∧ s.readers = [] ∧ s' = { s with writer := some t }) := by
  obtain ⟨code, hp, hr⟩ := h
  subst hr
  generalize hc : callOf op = c at hp
  refine ⟨?_, ?_, ?_⟩
  · intro hf
    cases hp <;> simp [result] at hf
    rfl
  · intro _ ho
    rcases ho with rfl | rfl <;> simp [callOf] at hc <;> subst hc <;> cases hp <;> simp_all [result]
  · intro _ ho
    rcases ho with rfl | rfl <;> simp [callOf] at hc <;> subst hc <;> cases hp <;> simp_all [result]

open PV.RWLock.Posix in
/-- hence, over the trusted machine, writer exclusion holds for the wrapper in every reachable state -/
theorem posix_safety {s : PState} (h : PReach s) : s.writer.isSome = true → s.readers = [] := by
  induction h with
  | init => intro h; simp at h
  | step _ hs ih =>
    obtain ⟨code, hp, _⟩ := hs
    generalize callOf _ = c at hp
    cases hp <;> simp_all

/-! ## g. failing primitives (safety half) -/

/-- exclusion and the counter refinement hold in every state reachable WITH failing primitive calls:
    at most one writer holds, then no reader; the bit fields are exactly the numbers of (ghost)
    holders / of threads inside the wait blocks -/
theorem rw_safety_failing {s : State} (h : ReachF cfg s) :
    writers s ≤ 1 ∧ (1 ≤ writers s → readers s = 0) ∧
    s.active = pack (readers s) (writers s) ∧ s.waiting = pack (waitingReaders s) (waitingWriters s) ∧
    READER_COUNT s.active = BitVec.ofNat 32 (readers s) ∧ WRITER_COUNT s.active = BitVec.ofNat 32 (writers s) := by
  rw [cfg_is_reference.1] at h
  have inv := reachF_invS h
  exact ⟨inv.safe.1, inv.safe.2, inv.act, inv.wai, inv.fields.1, inv.fields.2.1⟩

/-- who is counted, with failing calls: a thread between the TRUE return of an acquire and its unlock
    call is counted in its mode; a thread about to return `ret` from an acquire call through a working
    `p_mutex_unlock` is counted iff `ret` is TRUE; a thread at the entry of an acquire call, or at /
    inside / returning from a wait, is not counted -/
theorem holders_are_api_holders_failing {s : State} {t : Tid} {th : Thread} (h : ReachF cfg s) (hth : s.threads[t]? = some th) :
    (th.pc = .lock .runlock → th.held = .r) ∧ (th.pc = .lock .wunlock → th.held = .w) ∧
    (∀ op ret, op.isAcq = true → th.pc = .atUnlock op ret → th.held = if ret then op.heldBy else .none) ∧
    (∀ op, op.isAcq = true → th.pc = .lock op → th.held = .none) ∧
    (∀ op cv, th.pc = .atWait op cv ∨ th.pc = .blocked op cv ∨ th.pc = .woken op cv → th.held = .none) := by
  rw [cfg_is_reference.1] at h
  exact toks_holder ((reachF_invS h).tok th (List.mem_of_getElem? hth))

/-- **a lock call that fails does not count as holding (1)**: `p_mutex_lock` fails in a lock / trylock
    call: FALSE is returned and nothing at all has changed — both counter words, the internal mutex,
    every other thread, the numbers of holders; the caller holds nothing and goes on with its program -/
theorem failed_lock_acquires_nothing {s s' : State} {t : Tid} {zero : Bool} {th : Thread} {op : Op} (h : ReachF cfg s)
    (hth : s.threads[t]? = some th) (hpc : th.pc = .lock op) (ha : op.isAcq = true) (hf : failStep s t zero = some s') :
    s'.active = s.active ∧ s'.waiting = s.waiting ∧ s'.mutex = s.mutex ∧
    readers s' = readers s ∧ writers s' = writers s ∧ (∀ u, u ≠ t → s'.threads[u]? = s.threads[u]?) ∧
    ∃ th', s'.threads[t]? = some th' ∧ th'.last = some (op, false) ∧ th'.held = .none ∧
      (th'.pc = .done ∨ ∃ o, th'.pc = .lock o) := by
  exact fail_lock_acquire ((holders_are_api_holders_failing h hth).2.2.2.1 op ha hpc) hth hpc ha hf

/-- **(2)** `p_cond_variable_wait` fails in `p_rwlock_reader_lock` / `p_rwlock_writer_lock`: the caller
    leaves the wait block without being granted — `active_threads` and the numbers of holders are
    unchanged, it holds nothing, the value FALSE is decided (and `waiting_threads` is again the number
    of threads inside the wait blocks: `rw_safety_failing` on `s'`) -/
theorem failed_wait_acquires_nothing {s s' : State} {t : Tid} {zero : Bool} {th : Thread} {op : Op} {cv : Cv} (h : ReachF cfg s)
    (hth : s.threads[t]? = some th) (hpc : th.pc = .atWait op cv) (hf : failStep s t zero = some s') :
    s'.active = s.active ∧ s'.mutex = s.mutex ∧ readers s' = readers s ∧ writers s' = writers s ∧
    ∃ th', s'.threads[t]? = some th' ∧ th'.pc = .atUnlock op false ∧ th'.held = .none := by
  exact fail_wait ((holders_are_api_holders_failing h hth).2.2.2.2 op cv (.inl hpc)) hth hpc hf

/-- **(3)** … and the return itself: a lock / trylock call that is about to return FALSE through a
    working `p_mutex_unlock` (trylock not grantable, or after a failed wait) returns FALSE, has not
    touched `active_threads`, releases the internal mutex and holds nothing -/
theorem false_return_holds_nothing {s : State} {t : Tid} {th : Thread} {op : Op} (h : ReachF cfg s)
    (hth : s.threads[t]? = some th) (hpc : th.pc = .atUnlock op false) (ha : op.isAcq = true) :
    ∃ s', stepThread cfg s t none = some s' ∧ s'.active = s.active ∧ s'.waiting = s.waiting ∧ s'.mutex = none ∧
      readers s' = readers s ∧ writers s' = writers s ∧
      ∃ th', s'.threads[t]? = some th' ∧ th'.last = some (op, false) ∧ th'.held = .none := by
  rw [cfg_is_reference.1]
  exact return_false_step (by simpa using (holders_are_api_holders_failing h hth).2.2.1 op false ha hpc) hth hpc

/- The full statement would be: "whenever a lock / trylock call returns FALSE, `active_threads` does not
   count the caller".  It is FALSE of the code on one path — the final `p_mutex_unlock` of a GRANTED
   acquire fails: all four functions `return FALSE` there, after `active_threads` was bumped.  What the
   code does on that path: -/

/-- a failed final `p_mutex_unlock`: the call returns FALSE (TRUE only on the zero-reader-count path
    of `p_rwlock_reader_unlock`), both counter words and the ghost `held` stay as the call left them,
    the internal mutex stays owned -/
theorem failed_unlock_after_grant_keeps_count {s s' : State} {t : Tid} {zero : Bool} {th : Thread} {op : Op} {ret : Bool}
    (hth : s.threads[t]? = some th) (hpc : th.pc = .atUnlock op ret) (hf : failStep s t zero = some s') :
    s'.active = s.active ∧ s'.waiting = s.waiting ∧ s'.mutex = s.mutex ∧
    ∃ th', s'.threads[t]? = some th' ∧ th'.last = some (op, zero && op == .runlock) ∧ th'.held = th.held ∧ th'.pc = .done := by
  unfold failStep at hf
  simp only [hth, hpc] at hf
  obtain rfl := Option.some.inj hf
  exact ⟨rfl, rfl, rfl, _, getElem?_set_self' hth, rfl, rfl, rfl⟩

/-- the negation of the full statement on a concrete run: one thread, `p_rwlock_reader_lock` is granted,
    its final `p_mutex_unlock` fails: the call has returned FALSE, yet `READER_COUNT (active_threads) = 1`
    (and the internal mutex is owned for ever) -/
theorem false_return_may_keep_count :
    ∃ s th, ReachF cfg s ∧ s.threads[0]? = some th ∧ th.last = some (.rlock, false) ∧ th.pc = .done ∧
      READER_COUNT s.active = 1 ∧ s.mutex = some 0 := by
  obtain ⟨s, hr, hq⟩ := reachF_witness (c := cfg) [[.rlock, .runlock]] [.run 0 none, .fail 0 false]
    (fun s => s.threads[0]? == some { pc := .done, prog := [], held := .r, last := some (.rlock, false) } &&
      READER_COUNT s.active == 1 && s.mutex == some 0) (by decide) (by decide) (by decide)
  simp only [Bool.and_eq_true, beq_iff_eq] at hq
  exact ⟨s, _, hr, hq.1.1, rfl, rfl, hq.1.2, hq.2⟩

/-- the liveness half needs primitives that work: with ONE failing call a disciplined run deadlocks
    (reader 0 holds; writer 1 waits; the reader's signal fails: the writer sleeps for ever) -/
theorem liveness_needs_working_primitives :
    ∃ s, ReachF cfg s ∧ allDone s = false ∧ ∀ t, ¬ Enabled cfg s t := by
  obtain ⟨s, hr, hq⟩ := reachF_witness (c := cfg) [[.rlock, .runlock], [.wlock, .wunlock]]
    [.run 0 none, .run 0 none, .run 1 none, .run 1 none, .run 0 none, .fail 0 false, .run 0 none]
    (fun s => !allDone s && s.mutex == none && s.threads == [{ pc := .done, prog := [], last := some (.runlock, false) },
      { pc := .blocked .wlock .write, prog := [.wunlock] }]) (by decide) (by decide) (by decide)
  simp only [Bool.and_eq_true, Bool.not_eq_true', beq_iff_eq] at hq
  obtain ⟨⟨h1, _⟩, h3⟩ := hq
  refine ⟨s, hr, h1, ?_⟩
  rintro t ⟨pick, s', hs'⟩
  unfold stepThread at hs'
  rw [h3] at hs'
  match t with
  | 0 => simp [localStep] at hs'
  | 1 => simp [localStep] at hs'
  | (n+2) => simp at hs'

/-! ### non-vacuity of section g -/

/-- `failed_lock_acquires_nothing`: a failing `p_mutex_lock` of a writer trylock while a reader holds -/
example : ∃ s s' th, ReachF cfg s ∧ s.threads[1]? = some th ∧ th.pc = .lock .wtry ∧ failStep s 1 false = some s' ∧ readers s' = 1 := by
  obtain ⟨s, hr, hq⟩ := reachF_witness (c := cfg) [[.rlock, .runlock], [.wtry, .wunlock]] [.run 0 none, .run 0 none]
    (fun s => s.threads[1]? == some { pc := .lock .wtry, prog := [.wunlock] } && (failStep s 1 false).any (fun s' => readers s' == 1))
    (by decide) (by decide) (by decide)
  simp only [Bool.and_eq_true, beq_iff_eq] at hq
  cases hf : failStep s 1 false with
  | none => simp [hf] at hq
  | some s' => rw [hf] at hq; exact ⟨s, s', _, hr, hq.1, rfl, hf, by simpa using hq.2⟩

/-- `failed_wait_acquires_nothing` / `false_return_holds_nothing`: a writer behind a reader whose wait
    fails; it then returns FALSE while the reader still holds: no writer counted, `waiting_threads` back to 0,
    the internal mutex free -/
example : ∃ s th, ReachF cfg s ∧ s.threads[1]? = some th ∧ th.last = some (.wlock, false) ∧ readers s = 1 ∧ writers s = 0 ∧
    s.waiting = 0 ∧ s.mutex = none := by
  obtain ⟨s, hr, hq⟩ := reachF_witness (c := cfg) [[.rlock, .runlock], [.wlock, .wunlock]]
    [.run 0 none, .run 0 none, .run 1 none, .fail 1 false, .run 1 none]
    (fun s => s.threads[1]? == some { pc := .done, prog := [], last := some (.wlock, false) } && readers s == 1 && writers s == 0 &&
      s.waiting == 0 && s.mutex == none) (by decide) (by decide) (by decide)
  simp only [Bool.and_eq_true, beq_iff_eq] at hq
  exact ⟨s, _, hr, hq.1.1.1.1, rfl, hq.1.1.1.2, hq.1.1.2, hq.1.2, hq.2⟩

/-- `rw_safety_failing` covers states no failure-free run reaches: a thread that has stopped still
    holding (its unlock call failed at `p_mutex_lock`) -/
example : ∃ s th, ReachF cfg s ∧ s.threads[0]? = some th ∧ th.pc = .done ∧ th.held = .w ∧ writers s = 1 := by
  obtain ⟨s, hr, hq⟩ := reachF_witness (c := cfg) [[.wlock, .wunlock]] [.run 0 none, .run 0 none, .fail 0 false]
    (fun s => s.threads[0]? == some { pc := .done, prog := [], held := .w, last := some (.wunlock, false) } && writers s == 1)
    (by decide) (by decide) (by decide)
  simp only [Bool.and_eq_true, beq_iff_eq] at hq
  exact ⟨s, _, hr, hq.1, rfl, rfl, hq.2⟩

/-! ## non-vacuity -/

/-- two readers hold at the same time (a concrete reachable state) -/
example : ∃ s, Reach cfg s ∧ readers s = 2 ∧ writers s = 0 := by
  obtain ⟨s, hr, hq⟩ := reach_witness (c := cfg) [[.rlock, .runlock], [.rlock, .runlock]]
    [.run 0 none, .run 0 none, .run 1 none, .run 1 none] (fun s => readers s == 2 && writers s == 0)
    (by decide) (by decide) (by decide)
  exact ⟨s, hr, by simpa using hq⟩

/-- a concrete run with a waiting writer: reader 0 holds, writer 1 is blocked on `write_cv`
    (`waitingWriters = 1`) -/
example : ∃ s, Reach cfg s ∧ waitingWriters s = 1 ∧ readers s = 1 ∧ s.threads.any (isBlockedOn .write) = true := by
  obtain ⟨s, hr, hq⟩ := reach_witness (c := cfg) [[.rlock, .runlock], [.wlock, .wunlock]]
    [.run 0 none, .run 0 none, .run 1 none, .run 1 none]
    (fun s => waitingWriters s == 1 && readers s == 1 && s.threads.any (isBlockedOn .write))
    (by decide) (by decide) (by decide)
  exact ⟨s, hr, by simpa [and_assoc] using hq⟩

/-- … and that run completes: all programs finish (with a spurious wake-up on the way) -/
example : ∃ s, Reach cfg s ∧ allDone s = true ∧ s.threads.length = 2 := by
  obtain ⟨s, hr, hq⟩ := reach_witness (c := cfg) [[.rlock, .runlock], [.wlock, .wunlock]]
    [.run 0 none, .run 0 none, .run 1 none, .run 1 none, .spur 1, .run 1 none, .run 1 none,
     .run 0 none, .run 0 none, .run 0 none, .run 1 none, .run 1 none, .run 1 none, .run 1 none]
    (fun s => allDone s && s.threads.length == 2) (by decide) (by decide) (by decide)
  exact ⟨s, hr, by simpa using hq⟩

/-- trylock both ways: a reader trylock fails while a writer holds, succeeds otherwise -/
example : (runLabels cfg (init [[.wlock, .wunlock], [.rtry, .runlock]]) [.run 0 none, .run 0 none, .run 1 none, .run 1 none]).any
    (fun s => s.threads.any (fun th => th.last == some (.rtry, false))) = true := by decide

/-- `try_never_waits` is not vacuous: a thread blocked in a wait exists in a reachable state (a writer
    behind a reader), and it is the blocking `wlock` on `write_cv` -/
example : ∃ s th, Reach cfg s ∧ s.threads[1]? = some th ∧ th.pc = .blocked .wlock .write := by
  obtain ⟨s, hr, hq⟩ := reach_witness (c := cfg) [[.rlock, .runlock], [.wlock, .wunlock]]
    [.run 0 none, .run 0 none, .run 1 none, .run 1 none]
    (fun s => s.threads[1]? == some { pc := .blocked .wlock .write, prog := [.wunlock] })
    (by decide) (by decide) (by decide)
  exact ⟨s, _, hr, by simpa using hq, rfl⟩

end PV.Props.C02
