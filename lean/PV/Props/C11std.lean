import PV.Props.C11md
import PV.Lemmas.Hash.StdBlocks
/-!
# C11 (Merkle–Damgård group) against the standards' own compression functions and constants

`PV.Props.C11md` proves "digest = `H` of the concatenation" for a one-shot `H` whose padding,
length field, block parsing and output come from RFC 1321 / FIPS 180-4 but whose compression
function and initial value are shared with the model.  Here that residue is removed:

* `PV.Spec.HashStd` writes the compression functions as the standards do (named boolean functions,
  schedule recurrences, one round per `t` on a tuple of working variables) and the constants by
  their defining formulas (`Std.fracRoot`: bits of the fractional parts of square / cube roots of
  the first primes; SHA-1's `⌊2³⁰·√n⌋`; MD5's shift amounts and message-word order);
* `md5Block_std … sha512Block_std` (re-exported below): the model's block functions — the C
  macros' transliterations over the extracted C tables — equal them on every input;
* `Std.iroot_spec`: the root used by the formulas is the floor of the real root;
* hence `Spec.x = Std.x` for the six algorithms, and the `chunking_*` / `history` theorems hold
  against `Std.x.H`, in which nothing comes from the C code.

**Still data, not formula:** the 64 MD5 constants `T[i] = ⌊2³²·|sin(i+1)|⌋` (the RFC's printed table,
re-derived from the sine in floating point when `HashStd.lean` was written) and the MD5 / SHA-1
initial values (given as byte patterns by the standards).  The standards' *text* itself is of
course read by a human: `PV.Spec.HashStd` is short enough to be compared with RFC 1321 §3.4 and
FIPS 180-4 §4.1, §4.2, §5.3, §6.1.2, §6.2.2, §6.4.2 line by line.
-/
namespace PV.Hash
open Spec

/-! ## the block functions -/

/-- MD5: the C steps (`F` as `z ^ (x & (y ^ z))`, `G` as `F (z, x, y)`, tables of constants, shifts
    and message indices) are RFC 1321's sixty-four operations, for all inputs -/
theorem md5_block_is_standard (h x : Array UInt32) : md5Block h x = Std.md5Compress h x := md5Block_std h x

/-- SHA-1: ring-buffer schedule and `P_SHA1_ROUND_n` macros = FIPS 180-4 §6.1.2, for every block of 16 words -/
theorem sha1_block_is_standard (h x : Array UInt32) (hx : x.size = 16) : sha1Block h x = Std.sha1Compress h x :=
  sha1Block_std h x hx

/-- SHA-224/256: `P_SHA2_256_P` / `P_SHA2_256_R` with the K table = FIPS 180-4 §6.2.2 with `K_t` the cube-root bits -/
theorem sha256_block_is_standard (h x : Array UInt32) (hx : x.size = 16) :
    sha256Block h x = Std.sha256Compress h x := sha256Block_std h x hx

/-- SHA-384/512 = FIPS 180-4 §6.4.2 -/
theorem sha512_block_is_standard (h x : Array UInt64) (hx : x.size = 16) :
    sha512Block h x = Std.sha512Compress h x := sha512Block_std h x hx

/-! ## the constants -/

/-- the 64 + 80 round constants of the C tables are the first 32 / 64 bits of the fractional parts of
    the cube roots of the first 64 / 80 primes; the SHA-1 constants are `⌊2³⁰·√2⌋ …` -/
theorem round_constants_are_standard :
    (∀ t, t < 64 → Generated.HashMD.sha256K[t]! = UInt32.ofNat (Std.fracRoot 3 32 (Std.prime t))) ∧
    (∀ t, t < 80 → Generated.HashMD.sha512K[t]! = UInt64.ofNat (Std.fracRoot 3 64 (Std.prime t))) ∧
    (∀ t, t < 80 → Generated.HashMD.sha1K[t / 20]! = Std.sha1K t) :=
  ⟨sha256K_std, sha512K_std, sha1K_std⟩

/-- the SHA-2 initial values of the C source are the square-root bits of the first 8 / the 9th–16th primes -/
theorem initial_values_are_standard :
    Generated.HashMD.sha256IV = Std.sha256IV ∧ Generated.HashMD.sha224IV = Std.sha224IV ∧
    Generated.HashMD.sha512IV = Std.sha512IV ∧ Generated.HashMD.sha384IV = Std.sha384IV ∧
    Generated.HashMD.sha1IV = Std.sha1IV ∧ Generated.HashMD.md5IV = Std.md5IV :=
  ⟨sha256IV_std, sha224IV_std, sha512IV_std, sha384IV_std, sha1IV_std, md5IV_std⟩

/-- MD5's per-operation tables of the C source follow the RFC's rules: shift amounts cycle through
    four values per round, message words are taken in the order `i, 5i+1, 3i+5, 7i (mod 16)` -/
theorem md5_tables_are_standard :
    Generated.HashMD.md5K = Std.md5T ∧ (∀ i, i < 64 → Generated.HashMD.md5S[i]! = Std.md5Shift i) ∧
    (∀ i, i < 64 → Generated.HashMD.md5X[i]! = Std.md5Index i) :=
  ⟨md5K_std, md5S_std, md5X_std⟩

/-- `Std.iroot r n = ⌊n^(1/r)⌋`: the formulas above compute what they say -/
theorem root_is_floor_root (r n : Nat) (hr : 0 < r) :
    (Std.iroot r n) ^ r ≤ n ∧ n < (Std.iroot r n + 1) ^ r := Std.iroot_spec r n hr

/-! ## the one-shot specifications coincide -/

theorem size_wordsLE32 (b : ByteArray) : (wordsLE32 b).size = 16 := by simp [wordsLE32]
theorem size_wordsBE32 (b : ByteArray) : (wordsBE32 b).size = 16 := by simp [wordsBE32]
theorem size_wordsBE64 (b : ByteArray) : (wordsBE64 b).size = 16 := by simp [wordsBE64]

theorem md5_spec_is_standard : Spec.md5 = Std.md5 := by
  have hc : (fun (h : Array UInt32) (blk : ByteArray) => md5Block h (wordsLE32 blk)) = fun h blk => Std.md5Compress h (wordsLE32 blk) := by
    funext h blk; exact md5Block_std h _
  unfold Spec.md5 Std.md5
  rw [md5IV_std, hc]

theorem sha1_spec_is_standard : Spec.sha1 = Std.sha1 := sha32_spec_std 20 sha1IV_std sha1Block_std
theorem sha224_spec_is_standard : Spec.sha224 = Std.sha224 := sha32_spec_std 28 sha224IV_std sha256Block_std
theorem sha256_spec_is_standard : Spec.sha256 = Std.sha256 := sha32_spec_std 32 sha256IV_std sha256Block_std
theorem sha384_spec_is_standard : Spec.sha384 = Std.sha384 := sha64_spec_std 48 sha384IV_std
theorem sha512_spec_is_standard : Spec.sha512 = Std.sha512 := sha64_spec_std 64 sha512IV_std

theorem spec_is_standard (t : HashType) : Spec.ofType t = Std.ofType t := by
  cases t
  · exact md5_spec_is_standard
  · exact sha1_spec_is_standard
  · exact sha224_spec_is_standard
  · exact sha256_spec_is_standard
  · exact sha384_spec_is_standard
  · exact sha512_spec_is_standard

/-- the digest the property speaks about, with nothing taken from the C source -/
def Hstd (t : HashType) (msg : ByteArray) : List UInt8 := (Std.ofType t).H msg

theorem H_is_standard (t : HashType) (msg : ByteArray) : H t msg = Hstd t msg := by
  unfold H Hstd; rw [spec_is_standard]

/-! ## the property theorems, restated -/

theorem chunking_std (t : HashType) (chunks : List Src) (hc : ∀ d ∈ chunks, d.size < 2 ^ 64)
    (hb : (Src.concat chunks).size < t.maxBytes) : streamed t chunks = Hstd t (Src.concat chunks) := by
  rw [← H_is_standard]; exact chunking t chunks hc hb

theorem chunking_md5_std (chunks : List Src) (hb : (Src.concat chunks).size < 2 ^ 61) :
    streamed .md5 chunks = Std.md5.H (Src.concat chunks) := by
  rw [← md5_spec_is_standard]; exact chunking_md5 chunks hb
theorem chunking_sha1_std (chunks : List Src) (hb : (Src.concat chunks).size < 2 ^ 61) :
    streamed .sha1 chunks = Std.sha1.H (Src.concat chunks) := by
  rw [← sha1_spec_is_standard]; exact chunking_sha1 chunks hb
theorem chunking_sha224_std (chunks : List Src) (hb : (Src.concat chunks).size < 2 ^ 61) :
    streamed .sha224 chunks = Std.sha224.H (Src.concat chunks) := by
  rw [← sha224_spec_is_standard]; exact chunking_sha224 chunks hb
theorem chunking_sha256_std (chunks : List Src) (hb : (Src.concat chunks).size < 2 ^ 61) :
    streamed .sha256 chunks = Std.sha256.H (Src.concat chunks) := by
  rw [← sha256_spec_is_standard]; exact chunking_sha256 chunks hb
theorem chunking_sha384_std (chunks : List Src) (hc : ∀ d ∈ chunks, d.size < 2 ^ 64)
    (hb : (Src.concat chunks).size < 2 ^ 125) :
    streamed .sha384 chunks = Std.sha384.H (Src.concat chunks) := by
  rw [← sha384_spec_is_standard]; exact chunking_sha384 chunks hc hb
theorem chunking_sha512_std (chunks : List Src) (hc : ∀ d ∈ chunks, d.size < 2 ^ 64)
    (hb : (Src.concat chunks).size < 2 ^ 125) :
    streamed .sha512 chunks = Std.sha512.H (Src.concat chunks) := by
  rw [← sha512_spec_is_standard]; exact chunking_sha512 chunks hc hb

/-- the user view of `history` answers with the standards' digest -/
theorem view_answers_standard (t : HashType) (v : View) :
    (v.step t .getString).2 = .str (hexOf (Hstd t v.msg)) ∧
    ∀ cap, t.hashLen ≤ cap → (v.step t (.getDigest cap)).2 = .dig (some (Hstd t v.msg)) := by
  refine ⟨by simp [View.step, H_is_standard], fun cap hcap => ?_⟩
  have : ¬ t.hashLen > cap := by omega
  simp [View.step, this, H_is_standard]

/-! ## non-vacuity: the defining formulas really produce the well-known numbers -/

example : Std.sha256K 0 = 0x428a2f98 ∧ Std.sha256K 63 = 0xc67178f2 := by
  rw [← sha256K_std 0 (by decide), ← sha256K_std 63 (by decide)]; decide +kernel
example : Std.sha512K 79 = 0x6c44198c4a475817 := by rw [← sha512K_std 79 (by decide)]; decide +kernel
example : Std.sha1K 0 = 0x5a827999 ∧ Std.sha1K 79 = 0xca62c1d6 := by decide +kernel
example : Std.sha256IV[0]! = 0x6a09e667 ∧ Std.sha224IV[0]! = 0xc1059ed8 := by decide +kernel
example : Std.prime 0 = 2 ∧ Std.prime 63 = 311 ∧ Std.prime 79 = 409 := by simp only [Std.prime_eq]; decide +kernel
example : (List.range 64).map Std.md5Index = [0, 1, 2, 3, 4, 5, 6, 7, 8, 9, 10, 11, 12, 13, 14, 15,
    1, 6, 11, 0, 5, 10, 15, 4, 9, 14, 3, 8, 13, 2, 7, 12, 5, 8, 11, 14, 1, 4, 7, 10, 13, 0, 3, 6, 9, 12, 15, 2,
    0, 7, 14, 5, 12, 3, 10, 1, 8, 15, 6, 13, 4, 11, 2, 9] := by decide +kernel

end PV.Hash
