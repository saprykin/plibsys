import PV.Lemmas.IPCSysV
import PV.Lemmas.IPCSysVInv
import PV.Lemmas.IPCSysVNew
/-!
# C06, System V variant — named semaphore (`psemaphore-sysv.c` + key files of `pipc.c` over `PV.SysV.OS`)

Statements about the model `PV.Model.IPCSysV` instantiated with the facts of `PV.Generated.IPCSysV`.
-/
namespace PV.SysV.C06
open PV.SysV PV.Generated.IPCSysV

/-! ## 0. the extracted facts are the ones the model (and the trusted contract) is written for -/

theorem source_as_modelled :
    hasFlag keyFileOpenFlags O_CREAT = true ∧ hasFlag keyFileOpenFlags O_EXCL = true ∧ keyFileExistsErrno = EEXIST ∧
    hasFlag semgetExclFlags IPC_CREAT = true ∧ hasFlag semgetExclFlags IPC_EXCL = true ∧
    hasFlag semgetPlainFlags IPC_CREAT = false ∧ semgetExistsErrno = EEXIST ∧ semgetExclNsems = 1 ∧ semgetPlainNsems = 1 ∧
    semSetvalCmd = SETVAL ∧ semRmidCmd = IPC_RMID ∧ SETVAL ≠ IPC_RMID ∧
    acquireBuf = (0, -1, SEM_UNDO) ∧ releaseBuf = (0, 1, SEM_UNDO) ∧
    acquireRetryErrno = EINTR ∧ releaseRetryErrno = EINTR ∧
    acquireRecreateErrnos = [EIDRM, EINVAL] ∧ releaseRecreateErrnos = [EIDRM, EINVAL] ∧
    sites_pp_semaphore_create_handle = ["p_ipc_unix_create_key_file", "pp_semaphore_clean_handle", "p_ipc_unix_get_ftok_key",
      "pp_semaphore_clean_handle", "semget", "semget", "pp_semaphore_clean_handle", "semctl", "pp_semaphore_clean_handle"] ∧
    sites_pp_semaphore_clean_handle = ["semctl", "unlink"] ∧
    sites_p_semaphore_acquire = ["semop", "pp_semaphore_clean_handle", "pp_semaphore_create_handle", "semop"] ∧
    sites_p_semaphore_release = ["semop", "pp_semaphore_clean_handle", "pp_semaphore_create_handle"] ∧
    sites_p_ipc_unix_create_key_file = ["open"] ∧ sites_p_ipc_unix_get_ftok_key = ["stat"] := by decide +kernel

/-! ## 1. one set per name -/

/-- All handles of one name opened since the name's last creation refer to the same live semaphore set — for EVERY
    schedule (any interleaving of the system calls of any calls of any threads of any processes, SIGKILLs, EINTR) —
    under the two explicit hypotheses: (a) inode numbers are not reused (`Inv.bound.noreuse : g.os.reuse = false`, the
    oracle of finding F15), (b) no owner free of the name in between (`QuietRun f g as`: no call is at the IPC_RMID /
    unlink of a clean-up of `f`, nor at the `close` of a key file `f` it has just created — which `open` on a bound name,
    answering EEXIST, never leads to).  `Inv f i id`: key file `f` has inode `i`, whose key names the live set `id`, nothing
    else refers to `i` / `id`; every live struct of `f` (PSemaphore, or the lock inside a PShm) has `sem_hdl = id`, every
    struct of another name has a different id; every machine in flight (a call between two of its system calls) is
    consistent with that.  `f` is a semaphore key file (`.sem n` or `.lock n`). -/
theorem one_set_per_name (f : KeyFile) (i : Ino) (id : SemId) (hfs : ∀ n, f ≠ .shm n) (g : G) (as : List Action)
    (h0 : Inv f i id g) (hq : QuietRun f g as) : Inv f i id (execAll g as) :=
  inv_execAll f i id hfs as g h0 hq

/-- … hence any two live handles of the name (in any processes) work on one live set: their `semop`s are the same
    system call, and the key file still names that set -/
theorem same_set (f : KeyFile) (i : Ino) (id : SemId) (g : G) (h1 h2 : Hid) (p1 p2 : Pid) (x1 x2 : PSem)
    (hi : Inv f i id g) (e1 : g.hs h1 = some (p1, .sem x1)) (e2 : g.hs h2 = some (p2, .sem x2)) (f1 : x1.file = f) (f2 : x2.file = f) :
    x1.hdl = some id ∧ x2.hdl = some id ∧ (g.os.sems id).alive = true ∧
    (g.os.files f).bind (fun j => g.os.semKeys (ftokOf j)) = some id := by
  have a1 := hi.hs h1 p1 _ e1
  have a2 := hi.hs h2 p2 _ e2
  simp only [Handle.inv, PSem.inv, f1, f2, if_true] at a1 a2
  exact ⟨a1, a2, hi.bound.alive, by simp [hi.bound.file, hi.bound.key]⟩

/-- frame: a step of a call working on ANOTHER name (its current key file is not `f`) leaves the set of `f` — value,
    SEM_UNDO adjustments, liveness — untouched, and (by `one_set_per_name`) the binding as well -/
theorem other_names_do_not_touch_the_set (f : KeyFile) (i : Ino) (id : SemId) (hfs : ∀ n, f ≠ .shm n) (g : G) (t : Tid) (intr : Bool)
    (c : Call) (hi : Inv f i id g) (hq : Quiet f g) (hc : g.calls t = some c) (hf : c.file ≠ f) :
    (g.step t intr).os.sems id = g.os.sems id := by
  rw [step_os g t intr c hc]
  exact (call_step_inv (g.pidOf t) intr c g.os f i id hfs hi.bound (hi.calls t c hc) (hq t c hc)).2.2 hf

/-! ## 2. acquire / release on a live set -/

/-- `p_semaphore_acquire` on a handle whose set is alive returns exactly at a `semop` that found a unit: that step
    consumes exactly one unit and records it in the caller's SEM_UNDO adjustment; a step that does not return
    changes nothing -/
theorem acquire_consumes (g : G) (t : Tid) (hid : Hid) (h : PSem) (rc : Bool) (i : SemId)
    (hc : g.calls t = some (.semOp hid { api := .acquire, h := h, pc := .op, recreated := rc }))
    (hi : h.hdl = some i) (hl : (g.os.sems i).alive = true) :
    ((g.step t false).calls t = none ↔ 0 < (g.os.sems i).value) ∧
    ((g.step t false).calls t = none →
        (g.os.sems i).value = ((g.step t false).os.sems i).value + 1 ∧ (g.step t false).ret t = some .unit ∧
        ((g.step t false).os.sems i).adj (g.pidOf t) = (g.os.sems i).adj (g.pidOf t) + 1) ∧
    ((g.step t false).calls t ≠ none → (g.step t false).os = g.os) := by
  by_cases hv : (g.os.sems i).value = 0 <;>
    simp [G.step, hc, Call.next, Call.after, Call.name, SemSt.next, SemSt.after, SemSt.buf, hi, semop_acquire _ _ _ _ hl, hv,
      G.setCall, G.setRet, G.setHandle, OS.setSem, retOf]
  omega

/-- an acquire that is not interrupted returns iff a unit is available -/
theorem acquire_enabled_iff_positive (g : G) (t : Tid) (hid : Hid) (h : PSem) (rc : Bool) (i : SemId)
    (hc : g.calls t = some (.semOp hid { api := .acquire, h := h, pc := .op, recreated := rc }))
    (hi : h.hdl = some i) (hl : (g.os.sems i).alive = true) :
    (g.step t false).calls t = none ↔ 0 < (g.os.sems i).value :=
  (acquire_consumes g t hid h rc i hc hi hl).1

/- FULL STATEMENT (false of the code, finding F17 — see `release_adds_false`):
   theorem release_adds : every `p_semaphore_release` through a handle obtained from `p_semaphore_new` returns TRUE
   at once and adds exactly one unit to the counter of the handle's name.
   Excluded region of the partial theorem: the handle's set was removed (IPC_RMID by an owner's free) since the
   handle was opened, i.e. `(g.os.sems i).alive = false`. -/

/-- `p_semaphore_release` on a handle whose set is alive (and not at SEMVMX) is one `semop`: it returns TRUE at once
    and adds exactly one unit (taken back from the caller's SEM_UNDO adjustment) -/
theorem release_adds_partial (g : G) (t : Tid) (hid : Hid) (h : PSem) (i : SemId)
    (hc : g.calls t = some (.semOp hid { api := .release, h := h, pc := .op }))
    (hi : h.hdl = some i) (hl : (g.os.sems i).alive = true) (hm : (g.os.sems i).value < SEMVMX) :
    (g.step t false).calls t = none ∧ (g.step t false).ret t = some .unit ∧
    ((g.step t false).os.sems i).value = (g.os.sems i).value + 1 ∧
    ((g.step t false).os.sems i).adj (g.pidOf t) = (g.os.sems i).adj (g.pidOf t) - 1 ∧
    (g.step t false).hs hid = some (g.pidOf t, .sem h) := by
  simp [G.step, hc, Call.next, Call.after, Call.name, SemSt.next, SemSt.after, SemSt.buf, hi, semop_release _ _ _ _ hl hm,
    G.setCall, G.setRet, G.setHandle, OS.setSem, retOf]

/-- the recorded history of F17: `0 new-sem 0 s0 2 OPEN; 1 new-sem 1 s0 5 OPEN; 0 free 0; 1 rel 1` -/
def f17Before : G :=
  (((G.init id).call 0 (.newSem 0 0 2 .open)).call 1 (.newSem 1 0 5 .open)).call 0 (.free 0)

def f17 : G := f17Before.call 1 (.rel 1)

/-- negation of `release_adds` on the recorded witness: both handles were opened on one set (id 0, value 2); after
    the creator's free the set is gone but the key file stays; the release through the remaining handle returns
    TRUE, makes a NEW set (id 1) whose value is the handle's own initial value 5 — not 2 + 1 — and the handle now
    owns set and key file -/
theorem release_adds_false :
    ((G.init id).call 0 (.newSem 0 0 2 .open)).hs 0 = some (0, .sem ⟨false, true, some 1, .sem 0, some 0, .open, 2⟩) ∧
    (((G.init id).call 0 (.newSem 0 0 2 .open)).call 1 (.newSem 1 0 5 .open)).hs 1 = some (1, .sem ⟨false, false, some 1, .sem 0, some 0, .open, 5⟩) ∧
    (f17Before.os.sems 0).alive = false ∧ f17Before.os.files (.sem 0) = some 1 ∧ f17Before.os.semKeys 1 = none ∧
    f17.ret 1 = some .unit ∧ f17.os.semKeys 1 = some 1 ∧ (f17.os.sems 1).value = 5 ∧
    f17.hs 1 = some (1, .sem ⟨true, true, some 1, .sem 0, some 1, .open, 5⟩) := by decide +kernel

/-! ## 2b. EINTR scripts of any length are erased -/

/-- any number of EINTR results of `semop` at any of its call sites (first loop, the loop after "trying to recreate")
    is invisible: state, handles and result of an acquire are those of the uninterrupted call -/
theorem acquire_eintr_erased (g : G) (t : Tid) (h : Hid) (script : List Nat) :
    (g.call t (.acq h) script).Same (g.call t (.acq h) []) :=
  eintr_transparent g t (.acq h) script

theorem release_eintr_erased (g : G) (t : Tid) (h : Hid) (script : List Nat) :
    (g.call t (.rel h) script).Same (g.call t (.rel h) []) :=
  eintr_transparent g t (.rel h) script

/-! ## 3. `p_semaphore_new` on a bound name, per system call: OPEN ignores the initial value, CREATE sets exactly the given
   value — for every value and every state satisfying the invariant of §1 -/

/-- what one step of a `p_semaphore_new` in flight leads to -/
def NewOutcome (f : KeyFile) (id : SemId) (m : Mode) (g' : G) (t : Tid) (hid : Hid) (p : Pid) (init : Nat) : Prop :=
  (∃ s', g'.calls t = some (.semNew hid s') ∧ s'.h.file = f ∧ s'.h.init = init ∧
      (s'.opening m ∨ (m = .create ∧ s'.pc = .cSetval ∧ s'.api = .new ∧ s'.h.hdl = some id))) ∨
  (m = .open ∧ ∃ h, g'.calls t = none ∧ g'.hs hid = some (p, .sem h) ∧ g'.ret t = some (.sem h) ∧ h.hdl = some id ∧ h.file = f)

theorem new_step (f : KeyFile) (i : Ino) (id : SemId) (m : Mode) (g : G) (t : Tid) (intr : Bool) (hid : Hid) (s : SemSt)
    (hi : Inv f i id g) (hc : g.calls t = some (.semNew hid s)) (hf : s.h.file = f) (ho : s.opening m) :
    (g.step t intr).os.sems id = g.os.sems id ∧ NewOutcome f id m (g.step t intr) t hid (g.pidOf t) s.h.init := by
  have hs := new_step_value (g.pidOf t) intr 0 s g.os f i id m hi.bound hf (hi.calls t _ hc) ho
  refine ⟨by rw [step_os g t intr _ hc]; exact hs.1, ?_⟩
  have h2 := hs.2
  cases hr : s.after (sysStep (g.pidOf t) intr s.next g.os 0).2 with
  | cont s' =>
    rw [hr] at h2
    left
    refine ⟨s', ?_, h2.1, h2.2.1, h2.2.2.2⟩
    simp [G.step, hc, Call.next, Call.after, Call.name, hr, G.setCall]
  | done x =>
    obtain ⟨h, e⟩ := x
    rw [hr] at h2
    obtain ⟨hm, he, hh, hfile⟩ := h2
    subst he
    right
    refine ⟨hm, h, ?_, ?_, ?_, hh, hfile⟩ <;>
      simp [G.step, hc, Call.next, Call.after, Call.name, hr, G.setCall, G.setRet, G.setHandle]



/-- `p_semaphore_new (name_n, init, mode)` started by an idle thread of a live process on a free slot is a machine in
    its `opening` phase on key file `.sem n` -/
theorem start_new_opening (g : G) (t : Tid) (hid : Hid) (n init : Nat) (m : Mode)
    (hal : (g.os.procs (g.pidOf t)).alive = true) (hidle : g.calls t = none) (hh : g.hs hid = none) :
    ∃ s, (g.start t (.newSem hid n init m)).calls t = some (.semNew hid s) ∧ s.h.file = .sem n ∧ s.h.init = init ∧ s.opening m ∧
      (g.start t (.newSem hid n init m)).os = g.os := by
  refine ⟨{ api := .new, h := { file := .sem n, hdl := some 0, mode := m, init := init }, pc := .cOpen }, ?_, rfl, rfl, ⟨rfl, rfl, Or.inl rfl⟩, ?_⟩ <;>
    simp [G.start, hal, hidle, hh, G.setCall]

/-- OPEN on an existing name ignores the initial value.  In ANY state satisfying the invariant (name bound to
    the live set `id`), every system call of an OPEN-mode `p_semaphore_new` of that name in flight — for any initial value
    `s.h.init`, interrupted or not, whatever the other threads and processes did before — leaves the set (value, SEM_UNDO
    adjustments) exactly as it was; the call either goes on in the same phase or returns a struct with `sem_hdl = id`. -/
theorem open_ignores_init_on_existing (f : KeyFile) (i : Ino) (id : SemId) (g : G) (t : Tid) (intr : Bool) (hid : Hid) (s : SemSt)
    (hi : Inv f i id g) (hc : g.calls t = some (.semNew hid s)) (hf : s.h.file = f) (ho : s.opening .open) :
    (g.step t intr).os.sems id = g.os.sems id ∧ NewOutcome f id .open (g.step t intr) t hid (g.pidOf t) s.h.init :=
  new_step f i id .open g t intr hid s hi hc hf ho

/-- CREATE on an existing name sets exactly the given value.  (a) Before its SETVAL a CREATE-mode
    `p_semaphore_new` of the bound name leaves the set alone and arrives at the SETVAL with `sem_hdl = id` … -/
theorem create_reaches_setval (f : KeyFile) (i : Ino) (id : SemId) (g : G) (t : Tid) (intr : Bool) (hid : Hid) (s : SemSt)
    (hi : Inv f i id g) (hc : g.calls t = some (.semNew hid s)) (hf : s.h.file = f) (ho : s.opening .create) :
    (g.step t intr).os.sems id = g.os.sems id ∧ NewOutcome f id .create (g.step t intr) t hid (g.pidOf t) s.h.init :=
  new_step f i id .create g t intr hid s hi hc hf ho

/-- … (b) and the SETVAL step gives the set EXACTLY the value handed to `p_semaphore_new` (any value up to SEMVMX), on the
    same set `id` that every other handle of the name uses, clears the SEM_UNDO adjustments, and returns the struct. -/
theorem create_sets_value (f : KeyFile) (i : Ino) (id : SemId) (g : G) (t : Tid) (intr : Bool) (hid : Hid) (s : SemSt)
    (hi : Inv f i id g) (hc : g.calls t = some (.semNew hid s)) (hpc : s.pc = .cSetval) (ha : s.api = .new)
    (hh : s.h.hdl = some id) (hv : s.h.init ≤ SEMVMX) :
    ((g.step t intr).os.sems id).value = s.h.init ∧ ((g.step t intr).os.sems id).alive = true ∧
    (∀ q, ((g.step t intr).os.sems id).adj q = 0) ∧
    (g.step t intr).calls t = none ∧ (g.step t intr).hs hid = some (g.pidOf t, .sem s.h) ∧ (g.step t intr).ret t = some (.sem s.h) := by
  have hs := setval_step (g.pidOf t) intr 0 s g.os id hi.bound.alive hpc ha hh hv
  rw [step_os g t intr _ hc]
  refine ⟨hs.1, hs.2.1, hs.2.2.1, ?_, ?_, ?_⟩ <;>
    simp [G.step, hc, Call.next, Call.after, Call.name, hs.2.2.2, G.setCall, G.setRet, G.setHandle]


/-! ## 4. OPEN / CREATE / owner free / crash recovery over an ENUMERATED FINITE SCOPE (evaluation of the executable model,
   `decide`), clearly not ∀-statements: initial values 0..3, fresh machine (with and without inode reuse), one name -/

/-- a process that creates name 0 with value `v` -/
def created (reuse : Bool) (v : Nat) (m : Mode) : G := (G.init id reuse).call 0 (.newSem 0 0 v m)

/-- value of the set the key file of name `n` currently names -/
def valueOf (g : G) (n : Nat) : Option Nat :=
  (g.os.files (.sem n)).bind fun i => (g.os.semKeys (ftokOf i)).map fun id => (g.os.sems id).value

def hdlOf (g : G) (h : Hid) : Option SemId :=
  match g.hs h with
  | some (_, .sem x) => x.hdl
  | _ => none

/-- (scope v, w ≤ 3, both creation modes, both inode policies) OPEN on an existing name ignores its initial value and
    joins the creator's set; the OS state is unchanged -/
theorem open_ignores_init_on_existing_scope :
    (List.all [false, true] fun r => List.all [Mode.open, Mode.create] fun m => List.all (List.range 4) fun v => List.all (List.range 4) fun w =>
      let g1 := created r v m
      let g2 := g1.call 1 (.newSem 1 0 w .open)
      decide (valueOf g2 0 = some v) && decide (hdlOf g2 1 = hdlOf g1 0) && decide ((hdlOf g1 0).isSome) && decide (g2.ret 1 = (g2.hs 1).map fun x => match x.2 with | .sem y => Ret.sem y | .shm y => Ret.shm y)) = true := by
  decide +kernel

/-- (same scope) CREATE on an existing name sets exactly the given value on the SAME set (System V: the set is kept,
    handles opened before see the new value), and a later OPEN joins it without changing the value -/
theorem create_sets_value_scope :
    (List.all [false, true] fun r => List.all (List.range 4) fun v => List.all (List.range 4) fun w =>
      let g1 := created r v .open
      let g2 := g1.call 1 (.newSem 1 0 w .create)
      let g3 := g2.call 2 (.newSem 2 0 (v + w + 1) .open)
      decide (valueOf g2 0 = some w) && decide (hdlOf g2 1 = hdlOf g1 0) && decide (valueOf g3 0 = some w) && decide (hdlOf g3 2 = hdlOf g1 0)) = true := by
  decide +kernel

/-- (same scope) after `take_ownership; free` by the only handle the set is gone (the key file stays when the creator made it
    itself: `file_created = (built == 1)`); the next open (any mode) starts a fresh set with exactly its value -/
theorem owner_free_fresh_scope :
    (List.all [false, true] fun r => List.all [Mode.open, Mode.create] fun m => List.all (List.range 4) fun v => List.all (List.range 4) fun w =>
      let g1 := created r v .open
      let g2 := (g1.call 0 (.own 0)).call 0 (.free 0)
      let g3 := g2.call 1 (.newSem 1 0 w m)
      decide (valueOf g2 0 = none) && decide ((g2.os.sems 0).alive = false) &&
      decide (valueOf g3 0 = some w) && decide (hdlOf g3 1 = some 1)) = true := by
  decide +kernel

/-- the state after thread `tc` has made `j` system calls of `op` and its process is SIGKILLed -/
def crashAt (g : G) (tc : Tid) (op : Op) (j : Nat) : G :=
  ((List.replicate j (Action.step tc false)).foldl exec (g.start tc op)).kill (g.pidOf tc)

/-- the documented recovery: open, take ownership, free, create with value `v` (thread / process 2) -/
def recover (g : G) (v : Nat) : G :=
  (((g.call 2 (.newSem 8 0 0 .open)).call 2 (.own 8)).call 2 (.free 8)).call 2 (.newSem 9 0 v .create)

/-- clean: name 0 is bound to a live set of value `v`, a later OPEN joins it, and no set other than that one is alive
    among the ids ever handed out -/
def cleanAfter (g : G) (v : Nat) : Bool :=
  decide (valueOf g 0 = some v) &&
  (let g' := g.call 3 (.newSem 10 0 7 .open)
   decide (hdlOf g' 10 = hdlOf g 9) && decide (valueOf g' 0 = some v)) &&
  decide (((List.range g.os.nextSem).filter fun i => (g.os.sems i).alive).length = 1)

/-- (scope: crash at EVERY step index j ≤ 9 of `p_semaphore_new` OPEN / CREATE on a fresh and on an existing name, of the
    creator's free, of an owner's free and of a release / acquire that re-creates the set; both inode policies) the
    documented recovery ends in a clean state -/
theorem crash_recoverable_scope :
    (List.all [false, true] fun r => List.all (List.range 10) fun j =>
      let fresh := G.init id r
      let held := ((G.init id r).call 1 (.newSem 1 0 2 .open)).call 1 (.acq 1)
      let two := ((G.init id r).call 0 (.newSem 0 0 1 .open)).call 1 (.newSem 1 0 1 .open)
      let gone := two.call 0 (.free 0)
      cleanAfter (recover (crashAt fresh 0 (.newSem 0 0 3 .open) j) 2) 2 &&
      cleanAfter (recover (crashAt fresh 0 (.newSem 0 0 3 .create) j) 2) 2 &&
      cleanAfter (recover (crashAt held 0 (.newSem 0 0 3 .open) j) 2) 2 &&
      cleanAfter (recover (crashAt held 0 (.newSem 0 0 3 .create) j) 2) 2 &&
      cleanAfter (recover (crashAt two 0 (.free 0) j) 2) 2 &&
      cleanAfter (recover (crashAt (two.call 1 (.own 1)) 1 (.free 1) j) 2) 2 &&
      cleanAfter (recover (crashAt gone 1 (.rel 1) j) 2) 2 &&
      cleanAfter (recover (crashAt gone 1 (.acq 1) j) 2) 2) = true := by
  decide +kernel

/-! ## non-vacuity -/

/-- the state after `0 new-sem 0 s0 2 OPEN; 1 new-sem 1 s0 5 OPEN`, written out: key file s0 = inode 1, key 1 = set 0
    (value 2, alive), the creator's struct and a follower's struct -/
def boundDemo : G :=
  { os := { OS.init with files := fun g => if g = .sem 0 then some 1 else none, nextIno := 2,
                         semKeys := fun k => if k = 1 then some 0 else none,
                         sems := fun j => if j = 0 then { value := 2, alive := true } else {}, nextSem := 1 },
    pidOf := id,
    hs := fun h => if h = 0 then some (0, .sem ⟨false, true, some 1, .sem 0, some 0, .open, 2⟩)
                   else if h = 1 then some (1, .sem ⟨false, false, some 1, .sem 0, some 0, .open, 5⟩) else none,
    calls := fun _ => none, ret := fun _ => none, log := [] }

set_option maxRecDepth 100000 in
/-- … and it is what the model computes (on everything the invariant looks at, at the points that are not `none`) -/
example :
    let g := ((G.init id).call 0 (.newSem 0 0 2 .open)).call 1 (.newSem 1 0 5 .open)
    g.os.files (.sem 0) = boundDemo.os.files (.sem 0) ∧ g.os.semKeys 1 = boundDemo.os.semKeys 1 ∧
    (g.os.sems 0).alive = (boundDemo.os.sems 0).alive ∧ (g.os.sems 0).value = (boundDemo.os.sems 0).value ∧
    g.os.nextSem = boundDemo.os.nextSem ∧ g.os.nextIno = boundDemo.os.nextIno ∧ g.os.reuse = boundDemo.os.reuse ∧
    g.hs 0 = boundDemo.hs 0 ∧ g.hs 1 = boundDemo.hs 1 ∧ g.calls 0 = none ∧ g.calls 1 = none := by decide +kernel

/-- the hypotheses of `one_set_per_name` / `same_set` / `other_names_do_not_touch_the_set` are satisfiable: the invariant
    holds in `boundDemo`, and a schedule in which a third process is SIGKILLed is quiet -/
example : Inv (.sem 0) 1 0 boundDemo ∧ QuietRun (.sem 0) boundDemo [.kill 2] ∧ (∀ n, KeyFile.sem 0 ≠ .shm n) := by
  refine ⟨⟨⟨rfl, rfl, rfl, by decide, ?_, ?_, by decide, rfl⟩, ?_, ?_⟩, ⟨?_, trivial⟩, by intro n e; cases e⟩
  · intro k hk
    simp only [boundDemo] at hk
    split at hk
    · assumption
    · cases hk
  · intro g hg
    simp only [boundDemo] at hg
    split at hg
    · assumption
    · cases hg
  · intro h p x hx
    simp only [boundDemo] at hx
    split at hx
    · simp only [Option.some.injEq, Prod.mk.injEq] at hx; rw [← hx.2]; simp [Handle.inv, PSem.inv]
    · split at hx
      · simp only [Option.some.injEq, Prod.mk.injEq] at hx; rw [← hx.2]; simp [Handle.inv, PSem.inv]
      · cases hx
  · intro t c hc; cases hc
  · intro t c hc; cases hc


set_option maxRecDepth 100000 in
/-- the hypotheses of `acquire_consumes` / `release_adds_partial` are met by the model's own states: a release in flight
    on a live set below SEMVMX -/
example :
    let g := ((G.init id).call 0 (.newSem 0 0 2 .open)).start 0 (.rel 0)
    g.calls 0 = some (.semOp 0 { api := .release, h := ⟨false, true, some 1, .sem 0, some 0, .open, 2⟩, pc := .op }) ∧
    (g.os.sems 0).alive = true ∧ (g.os.sems 0).value < SEMVMX := by decide +kernel

end PV.SysV.C06
