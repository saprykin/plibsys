import PV.Lemmas.Tree.MorrisClear
import PV.Generated.TreeLoops
/-!
# C12 (heap level) — `p_tree_clear` destroys every pair in ascending order and frees every node once

`p_tree_clear` (`/repo/src/ptree.c`) does not recurse: it rotates the tree into a right-leaning
vine while freeing it.  For every tree laid out in a heap at pairwise distinct addresses (`Repr`):
the loop of `PV/Model/Tree/MorrisClear.lean` terminates within `2 * size + 1` iterations, the destroy
notifiers get exactly `t.toList` (in-order = ascending for a search tree), `free_node_func` is called
on the node addresses in in-order — each address of the tree exactly once and nothing else —,
`nnodes` drops by `size`, afterwards precisely the cells of the tree are empty and every other cell
of the heap is untouched, and the run never reads an empty cell: in particular no node is read (or
freed a second time) after it was freed, since `Heap.free` empties the cell.
`PV.Generated.TreeLoops` is imported for the tie only: the check reads the imports, so a refusal of the translator on
ptree.c blocks this property; the fact itself is `tree_source_as_modelled` (C12).
-/
namespace PV.Tree.Morris
open PV.Tree

variable {κ ν : Type}

/-- **`p_tree_clear`: termination, destroy log, free log, final heap** for any fuel `≥ 2*size+1`.
    `pt` is the address layout witnessing `Repr h root t`. -/
theorem clear_frees_each_once {h : Heap κ ν} {root : Option Nat} {t : BT κ ν}
    (hr : Repr h root t) (nn : Int) (fuel : Nat) (hf : 2 * t.size + 1 ≤ fuel) :
    ∃ (pt : PT κ ν) (h' : Heap κ ν),
      pt.erase = t ∧ ReprP h root pt none ∧ pt.addrs.Nodup ∧
      clearRun h root nn fuel = .done ⟨h', none, t.toList, pt.addrs, nn - t.size⟩ ∧
      (∀ a, pt.addrs.count a = if a ∈ pt.addrs then 1 else 0) ∧
      (∀ a, h'.get a = if a ∈ pt.addrs then none else h.get a) := by
  obtain ⟨pt, rfl, hrp, hnd⟩ := hr
  refine ⟨pt, ?_⟩
  cases pt with
  | nil =>
    simp only [ReprP] at hrp
    subst hrp
    exact ⟨h, rfl, rfl, hnd, by simp [clearRun, PT.erase, BT.toList, PT.addrs, BT.size],
      fun a => by simp [PT.addrs], fun a => by simp [PT.addrs]⟩
  | node a l k v r =>
    have hroot : root = some a := hrp.1
    subst hroot
    have hsz := PT.erase_size (PT.node a l k v r)
    have hit := PT.iters_le (PT.node a l k v r)
    obtain ⟨f, hfuel⟩ : ∃ f, fuel = (PT.node a l k v r).iters + (f + 1) :=
      ⟨fuel - (PT.node a l k v r).iters - 1, by omega⟩
    obtain ⟨h', hrun, hheap⟩ := clear_trav fuel _ (PT.node a l k v r) h (some a) [] [] nn rfl hrp hnd
      (by omega)
    refine ⟨h', rfl, hrp, hnd, ?_, fun a => hnd.count, hheap⟩
    simp only [clearRun]
    conv => lhs; arg 2; rw [hfuel]
    rw [hrun, clearLoop_succ]
    simp [clearBody, hsz]

/-- the `∃ fuel` form -/
theorem clear_terminates {h : Heap κ ν} {root : Option Nat} {t : BT κ ν}
    (hr : Repr h root t) (nn : Int) :
    ∃ fuel s, clearRun h root nn fuel = .done s ∧ s.cur = none ∧ s.destroyed = t.toList ∧
      s.nnodes = nn - t.size ∧ s.freed.Nodup ∧ s.freed.length = t.size := by
  obtain ⟨pt, h', hpt, _, hnd, hrun, _, _⟩ :=
    clear_frees_each_once hr nn (2 * t.size + 1) (Nat.le_refl _)
  refine ⟨_, _, hrun, rfl, rfl, rfl, hnd, ?_⟩
  rw [← hpt, PT.erase_size]
  exact PT.length_addrs pt

/-- **no use after free, no NULL dereference**, whatever the fuel -/
theorem clear_no_fault {h : Heap κ ν} {root : Option Nat} {t : BT κ ν} (hr : Repr h root t)
    (nn : Int) (fuel : Nat) : clearRun h root nn fuel ≠ .fault := by
  intro hfault
  obtain ⟨pt, h', _, _, _, hrun, _⟩ :=
    clear_frees_each_once hr nn (max fuel (2 * t.size + 1)) (Nat.le_max_right _ _)
  cases root with
  | none => simp [clearRun] at hfault
  | some a =>
    simp only [clearRun] at hfault hrun
    have := clearLoop_mono hfault (by simp) (Nat.le_max_left fuel (2 * t.size + 1))
      (Nat.le_max_left fuel (2 * t.size + 1))
    rw [this] at hrun
    cases hrun

/-! ### the 5-node heap of `C12morris`, plus a bystander node in cell 5 -/

def h6 : Heap Nat Nat := ⟨[
  some ⟨some 1, some 2, 3, 13⟩,
  some ⟨some 3, some 4, 1, 11⟩,
  some ⟨none, none, 4, 14⟩,
  some ⟨none, none, 0, 10⟩,
  some ⟨none, none, 2, 12⟩,
  some ⟨none, none, 99, 99⟩]⟩

example : clearRun h6 (some 0) 5 11 =
    .done ⟨⟨[none, none, none, none, none, some ⟨none, none, 99, 99⟩]⟩, none,
      [(0, 10), (1, 11), (2, 12), (3, 13), (4, 14)], [3, 1, 4, 0, 2], 0⟩ := by decide

/-- a shared subtree (not a tree: cell 1 is both children of the root) is a double free → fault -/
example : clearRun (⟨[some ⟨some 1, some 1, 1, 1⟩, some ⟨none, none, 0, 0⟩]⟩ : Heap Nat Nat)
    (some 0) 2 9 = .fault := by decide

end PV.Tree.Morris
