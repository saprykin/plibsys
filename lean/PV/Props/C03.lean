import PV.Lemmas.CondVarLive
import PV.Lemmas.CondVarEC
/-!
# C03 — condition variable

"`p_cond_variable_wait` releases the given mutex and blocks as one atomic step and returns only
with that mutex re-acquired by the caller.  A signal issued while threads are waiting wakes at
least one of them and a broadcast wakes all of them, so a consumer that re-checks its predicate in
a loop under the mutex never misses an event and producer/consumer exchanges always complete."

Layers (see `PV.Model.CondVar`): the Mesa monitor `Mon` is the TRUSTED contract of
`pthread_mutex_*` / `pthread_cond_*` (atomic release-and-wait, signal wakes ≥ 1 waiter, spurious
wake-ups allowed).  Proved here: (1) what the contract gives (`wait_atomic_release`,
`wait_returns_holding`, `signal_wakes_one`, `broadcast_wakes_all`); (2) that the wrappers of
`pcondvariable-posix.c` reach exactly that contract on exactly the mutex the caller locked
(`layout_cast_ok` and the mapping theorems, over the facts GENERATED from the working tree);
(3) that clients written with the `while` loop are safe, deadlock-free and terminate for ANY number
of producers, consumers, items, any capacity ≥ 1, `signal` or `broadcast`, every interleaving and
any number of spurious wake-ups (`pc_*`, `never_misses_event`); (4) a negative example: the same
consumer with `if` instead of `while` is broken.
-/
namespace PV.CondVar
open PV.Generated.CondVar (NFn Arg)

/-- **wait is atomic**: the step that starts in a state where `t` owns the mutex ends in a state
    where the mutex is free AND `t` is already in the wait-set — there is no state in between in
    which `t` neither holds the mutex nor waits.  And `t` stays in the wait-set through any later
    steps of anybody until a wake-up addressed to it (signal choosing it, broadcast, spurious):
    no wake-up can be lost in a window after the release. -/
theorem wait_atomic_release {m m' : Mon} {t : Tid} {cv : CvId} (h : m.wait t cv = some m') :
    m.owner = some t ∧ m'.owner = none ∧ t ∈ m'.wset cv ∧
    ∀ (ls : List MLabel) (m'' : Mon), m'.run ls = some m'' →
      (∀ l, l ∈ ls → l.wakes t cv = false) → t ∈ m''.wset cv := by
  obtain ⟨ho, rfl⟩ := mon_wait_some.mp h
  have hin : t ∈ upd m.wset cv (m.wset cv ++ [t]) cv := by simp [upd]
  exact ⟨ho, rfl, hin, fun ls m'' hr hl => mon_run_keeps_waiter hr hin hl⟩

/-- hence a signal issued any time after the waiter released the mutex finds a waiter: it cannot
    fall into the "nobody waits, signal is dropped" case -/
theorem signal_after_wait_finds_waiter {m m' m'' m3 : Mon} {t : Tid} {cv : CvId} {ls : List MLabel}
    {w : Option Tid} (h : m.wait t cv = some m') (hr : m'.run ls = some m'')
    (hl : ∀ l, l ∈ ls → l.wakes t cv = false) (hs : m''.signal cv w = some m3) :
    ∃ x, w = some x ∧ x ∈ m''.wset cv ∧ x ∈ m3.woken cv := by
  have ht := (wait_atomic_release h).2.2.2 ls m'' hr hl
  rcases mon_signal_some.mp hs with ⟨_, he, _⟩ | ⟨x, rfl, hx, rfl⟩
  · rw [he] at ht; cases ht
  · exact ⟨x, rfl, hx, by simp [Mon.wake, upd]⟩

example : ∃ m', (({ Mon.init with owner := some 7 } : Mon).wait 7 0) = some m' ∧ m'.wset 0 = [7] :=
  ⟨_, rfl, rfl⟩

/-- **wait returns holding the mutex** (monitor): the re-acquire step — the only step that lets
    the native wait return — makes the caller the owner, and needs the mutex to be free -/
theorem wait_returns_holding {m m' : Mon} {t : Tid} {cv : CvId} (h : m.reacquire cv t = some m') :
    m.owner = none ∧ t ∈ m.woken cv ∧ m'.owner = some t := by
  obtain ⟨hw, ho, rfl⟩ := mon_reacquire_some.mp h
  exact ⟨ho, hw, rfl⟩

/-- **wait returns holding the mutex** (clients, any configuration): whenever a step takes thread
    `i` out of `p_cond_variable_wait`, that step is `i`'s own re-acquisition and `i` is the owner
    afterwards -/
theorem wait_returns_holding_client {cfg : Cfg} {s s' : PCState} {l : Label} {i : Tid} {th th' : Thr}
    (h : exec cfg s l = some s') (hth : s.thr[i]? = some th) (hpc : th.pc = .inwait)
    (hth' : s'.thr[i]? = some th') (hpc' : th'.pc ≠ .inwait) :
    l = .reacquire i ∧ s'.mon.owner = some i := by
  -- a step that rewrites the entry of some `j` leaves the entry of `i` alone unless `j = i`
  have own : ∀ {j : Tid} {tj tj' : Thr}, s.thr[j]? = some tj → s'.thr = s.thr.set j tj' → j = i := by
    intro j tj tj' hj hs'
    rw [hs', get_set _ i hj] at hth'
    apply Decidable.byContradiction
    intro hij
    rw [if_neg (Ne.symm hij), hth] at hth'
    cases hth'; exact hpc' hpc
  -- and then the label says at which pc that entry was
  have at_pc : ∀ {j : Tid} {tj tj' : Thr}, s.thr[j]? = some tj → s'.thr = s.thr.set j tj' →
      tj.pc ≠ .inwait → False := by
    intro j tj tj' hj hs' hne
    obtain rfl := own hj hs'
    rw [hth] at hj; cases hj; exact hne hpc
  cases Step.of_exec h with
  | lock hj hp | wait hj hp | broadcast hj hp | signalNone hj hp | signal hj hp | unlock hj hp =>
    exact (at_pc hj rfl (by simp [hp])).elim
  | act hj hp => exact (at_pc hj (act_thr ..) (by simp [hp])).elim
  | reacquire hj _ _ _ _ => obtain rfl := own hj rfl; exact ⟨rfl, rfl⟩
  | reacquireAct hj _ _ _ _ => obtain rfl := own hj (act_thr ..); exact ⟨rfl, by rw [act_mon]; rfl⟩
  | spurious => rw [hth] at hth'; cases hth'; exact (hpc' hpc).elim

/-- a thread inside `p_cond_variable_wait` never owns the mutex and is always in the wait-set of
    its condition variable or already woken — in every reachable state of the client system -/
theorem wait_atomic_release_client {cfg : Cfg} {K : Nat} {s : PCState} (hrc : cfg.recheck = true)
    (hR : Reach cfg K s) {i : Tid} {th : Thr} (hth : s.thr[i]? = some th) (hpc : th.pc = .inwait) :
    s.mon.owner ≠ some i ∧ (i ∈ s.mon.wset th.role.waitCv ∨ i ∈ s.mon.woken th.role.waitCv) := by
  have hI := reach_inv hrc hR
  refine ⟨?_, hI.in_wait i th hth hpc⟩
  intro ho
  obtain ⟨t, ht, hcs⟩ := (hI.owner_cs i).mp ho
  rw [hth] at ht; cases ht
  simp [hpc, PC.inCS] at hcs

/-- **signal wakes one**: with a non-empty wait-set a signal cannot be dropped; one waiter moves
    to "woken" and the wait-set gets strictly smaller -/
theorem signal_wakes_one {m m' : Mon} {cv : CvId} {w : Option Tid} (hne : m.wset cv ≠ [])
    (h : m.signal cv w = some m') :
    ∃ x, w = some x ∧ x ∈ m.wset cv ∧ x ∈ m'.woken cv ∧
      (m'.wset cv).length + 1 = (m.wset cv).length ∧ ((m.wset cv).Nodup → x ∉ m'.wset cv) := by
  rcases mon_signal_some.mp h with ⟨_, he, _⟩ | ⟨x, rfl, hx, rfl⟩
  · exact absurd he hne
  · have := length_erase_add_one hx
    refine ⟨x, rfl, hx, by simp [Mon.wake, upd], by simp only [Mon.wake, upd_same]; omega, ?_⟩
    intro hnd hm
    simp only [Mon.wake, upd_same] at hm
    exact (hnd.mem_erase_iff.mp hm).1 rfl

example : ∃ m', (({ Mon.init with wset := fun _ => [3, 4] } : Mon).signal 0 (some 4)) = some m' ∧
    m'.wset 0 = [3] ∧ m'.woken 0 = [4] := ⟨_, rfl, rfl, rfl⟩

/-- **broadcast wakes all**: afterwards the wait-set is empty and every former waiter is woken;
    other condition variables are untouched -/
theorem broadcast_wakes_all (m : Mon) (cv : CvId) :
    (m.broadcast cv).wset cv = [] ∧ (∀ x, x ∈ m.wset cv → x ∈ (m.broadcast cv).woken cv) ∧
    (∀ c, c ≠ cv → (m.broadcast cv).wset c = m.wset c ∧ (m.broadcast cv).woken c = m.woken c) := by
  refine ⟨by simp [Mon.broadcast, upd], ?_, fun c hc => broadcast_other m hc⟩
  intro x hx
  simp [Mon.broadcast, upd, hx]

example : (({ Mon.init with wset := fun _ => [3, 4, 5] } : Mon).broadcast 1).woken 1 = [3, 4, 5] := rfl

/-- the translator recognised every wrapper body and both layouts -/
theorem translator_recognised : Generated.CondVar.problems = [] := by decide

/-- **the cast in `p_cond_variable_wait` is sound**: `struct PMutex_` consists of exactly one
    field, of the native mutex type, at offset 0, and is exactly as large as `pthread_mutex_t`;
    so `(pthread_mutex_t *) mutex` is the address of the handle `&mutex->hdl` -/
theorem layout_cast_ok :
    Generated.CondVar.pmutex.fields.map (fun f => (f.offset, f.isNative, f.size)) =
      [(0, true, Generated.CondVar.sizeofPthreadMutex)] ∧
    Generated.CondVar.pmutex.size = Generated.CondVar.sizeofPthreadMutex ∧
    handleOffset generated.pmutex = some 0 ∧
    evalArg generated.pmutex generated.pcond (envCM .condObj .mutexObj) (.cast "mutex") =
      evalArg generated.pmutex generated.pcond (envCM .condObj .mutexObj) (.field "mutex" "hdl") := by
  decide

/-- `p_cond_variable_wait (cond, mutex)`: NULL arguments → FALSE without any native call;
    otherwise exactly one `pthread_cond_wait` on the handle of `cond`; TRUE iff it returned 0 -/
theorem wait_maps_result (rc : Int) :
    pCondWait generated .nullp .mutexObj rc = { ret := some false, calls := [] } ∧
    pCondWait generated .condObj .nullp rc = { ret := some false, calls := [] } ∧
    (pCondWait generated .condObj .mutexObj rc).ret = some (rc == 0) ∧
    (pCondWait generated .condObj .mutexObj rc).calls.map (·.fn) = [.cond_wait] :=
  ⟨rfl, rfl, rfl, rfl⟩

/-- `wait` hands `pthread_cond_wait` the very pointer `p_mutex_lock` / `p_mutex_unlock` hand to
    `pthread_mutex_lock` / `pthread_mutex_unlock` for the same `PMutex`: the handle of that object -/
theorem wait_passes_locked_mutex (rc rc' : Int) :
    ∃ k, handleOffset generated.pmutex = some k ∧
      (pCondWait generated .condObj .mutexObj rc).calls.map (·.args[1]?) = [some (.mutex k)] ∧
      (pMutexLock generated .mutexObj rc').calls = [{ fn := .mutex_lock, args := [.mutex k] }] ∧
      (pMutexUnlock generated .mutexObj rc').calls = [{ fn := .mutex_unlock, args := [.mutex k] }] ∧
      (pMutexTrylock generated .mutexObj rc').calls = [{ fn := .mutex_trylock, args := [.mutex k] }] :=
  ⟨0, by decide, rfl, rfl, rfl, rfl⟩

/-- signal → `pthread_cond_signal` (or, equally good for "wakes at least one",
    `pthread_cond_broadcast`), broadcast → `pthread_cond_broadcast`, both on the same cond handle
    `wait` uses; results TRUE iff 0; NULL → FALSE, no call -/
theorem signal_broadcast_mapping (rc : Int) :
    ∃ h, handleOffset generated.pcond = some h ∧
      (pCondWait generated .condObj .mutexObj rc).calls.map (·.args[0]?) = [some (.cond h)] ∧
      (pCondSignal generated .condObj rc = { ret := some (rc == 0), calls := [{ fn := .cond_signal, args := [.cond h] }] } ∨
       pCondSignal generated .condObj rc = { ret := some (rc == 0), calls := [{ fn := .cond_broadcast, args := [.cond h] }] }) ∧
      pCondBroadcast generated .condObj rc = { ret := some (rc == 0), calls := [{ fn := .cond_broadcast, args := [.cond h] }] } ∧
      pCondSignal generated .nullp rc = { ret := some false, calls := [] } ∧
      pCondBroadcast generated .nullp rc = { ret := some false, calls := [] } :=
  -- fourth component: whichever of the two native calls the generated record of `signal` names
  ⟨0, by decide, rfl, by first | exact Or.inl rfl | exact Or.inr rfl, rfl, rfl, rfl⟩

/-- `p_cond_variable_new`: allocation failure → NULL, nothing called; `pthread_cond_init` failure →
    the block is released and NULL returned; success → the object.  `p_cond_variable_free`: NULL →
    nothing; otherwise `pthread_cond_destroy` on the handle and the block is released even when
    destroy fails. -/
theorem new_free_mapping (rc : Int) (hrc : rc ≠ 0) :
    runNew generated generated.condNew .condObj true rc = { obj := false, calls := [], freed := false } ∧
    runNew generated generated.condNew .condObj false rc =
      { obj := false, calls := [{ fn := .cond_init, args := [.cond 0, .null] }], freed := true } ∧
    runNew generated generated.condNew .condObj false 0 =
      { obj := true, calls := [{ fn := .cond_init, args := [.cond 0, .null] }], freed := false } ∧
    runFree generated generated.condFree (envCM .nullp .nullp) = { calls := [], freed := false } ∧
    runFree generated generated.condFree (envCM .condObj .nullp) =
      { calls := [{ fn := .cond_destroy, args := [.cond 0] }], freed := true } := by
  refine ⟨rfl, ?_, rfl, rfl, rfl⟩
  have : (rc == 0) = false := by simpa using hrc
  simp [runNew, this]
  decide

/-- the library calls ARE the monitor operations, on the monitor's own mutex: the logged native
    call of each wrapper, read in the monitor (`interp` rejects a call that does not address the
    handle the thread locked), is `Mon.wait` / `Mon.signal` / `Mon.broadcast` / `Mon.lock` /
    `Mon.unlock` -/
theorem lib_calls_are_monitor_ops (m : Mon) (t : Tid) (cv : CvId) (w : Option Tid) :
    ((pCondWait generated .condObj .mutexObj 0).calls.map (interp generated t cv w m) = [m.wait t cv]) ∧
    ((pCondSignal generated .condObj 0).calls.map (interp generated t cv w m) = [m.signal cv w] ∨
     (pCondSignal generated .condObj 0).calls.map (interp generated t cv w m) = [some (m.broadcast cv)]) ∧
    ((pCondBroadcast generated .condObj 0).calls.map (interp generated t cv w m) = [some (m.broadcast cv)]) ∧
    ((pMutexLock generated .mutexObj 0).calls.map (interp generated t cv w m) = [m.lock t]) ∧
    ((pMutexUnlock generated .mutexObj 0).calls.map (interp generated t cv w m) = [m.unlock t]) :=
  -- second component: whichever of the two native calls the generated record of `signal` names
  ⟨rfl, by first | exact Or.inl rfl | exact Or.inr rfl, rfl, rfl, rfl⟩

/-- end to end: `p_cond_variable_broadcast` empties the wait-set of its condition variable -/
theorem lib_broadcast_wakes_all (m m' : Mon) (t : Tid) (cv : CvId)
    (h : (pCondBroadcast generated .condObj 0).calls.map (interp generated t cv none m) = [some m']) :
    m'.wset cv = [] ∧ ∀ x, x ∈ m.wset cv → x ∈ m'.woken cv := by
  rw [(lib_calls_are_monitor_ops m t cv none).2.2.1] at h
  simp at h; subst h
  exact ⟨(broadcast_wakes_all m cv).1, (broadcast_wakes_all m cv).2.1⟩

/-- end to end: `p_cond_variable_signal` with waiters present wakes at least one of them -/
theorem lib_signal_wakes_one (m m' : Mon) (t : Tid) (cv : CvId) (w : Option Tid) (hne : m.wset cv ≠ [])
    (h : (pCondSignal generated .condObj 0).calls.map (interp generated t cv w m) = [some m']) :
    ∃ x, x ∈ m.wset cv ∧ x ∈ m'.woken cv ∧ (m'.wset cv).length < (m.wset cv).length := by
  rcases (lib_calls_are_monitor_ops m t cv w).2.1 with hc | hc
  · rw [hc] at h
    simp at h
    obtain ⟨x, _, hx, hw, hl, _⟩ := signal_wakes_one hne h
    exact ⟨x, hx, hw, by omega⟩
  · rw [hc] at h
    simp at h; subst h
    cases hws : m.wset cv with
    | nil => exact absurd hws hne
    | cons x rest =>
      refine ⟨x, by simp, (broadcast_wakes_all m cv).2.1 x (by simp [hws]), ?_⟩
      rw [(broadcast_wakes_all m cv).1]; simp

/-- **safety of the bounded buffer**, all N, M, C, item counts, interleavings, spurious wake-ups:
    the buffer never exceeds its capacity (and never underflows: no take on an empty / put on a
    full buffer is executed); what has been consumed followed by what is in the buffer is exactly
    what has been produced, in order — FIFO, nothing lost, nothing duplicated, nothing invented —
    in particular the consumed items are a sub-multiset of the produced ones; at most one thread is
    inside the critical section. -/
theorem pc_safety {cfg : Cfg} {K : Nat} {s : PCState} (hrc : cfg.recheck = true) (hR : Reach cfg K s) :
    s.buf.length ≤ cfg.cap ∧ s.bad = false ∧ s.produced = s.consumed ++ s.buf ∧
    (∀ x, s.consumed.count x ≤ s.produced.count x) ∧
    (∀ (i j : Tid) (ti tj : Thr), s.thr[i]? = some ti → s.thr[j]? = some tj → ti.pc.inCS = true → tj.pc.inCS = true → i = j) := by
  have hI := reach_inv hrc hR
  refine ⟨hI.cap, hI.bad, hI.fifo, ?_, ?_⟩
  · intro x; rw [hI.fifo, List.count_append]; omega
  · intro i j ti tj hi hj ci cj
    have h1 := (hI.owner_cs i).mpr ⟨ti, hi, ci⟩
    have h2 := (hI.owner_cs j).mpr ⟨tj, hj, cj⟩
    rw [h1] at h2; cases h2; rfl

/-- **no deadlock**: for every number of producers and consumers, every capacity ≥ 1, every
    distribution of K items to produce and K to consume, `signal` or `broadcast`: every reachable
    state in which some thread still has work has an enabled step that is not a spurious wake-up -/
theorem pc_no_deadlock {cfg : Cfg} {K : Nat} {s : PCState} (hcap : 0 < cfg.cap) (hrc : cfg.recheck = true)
    (hR : Reach cfg K s) (hnf : isFinal s = false) :
    ∃ l s', l.isSpurious = false ∧ exec cfg s l = some s' :=
  no_deadlock_of_inv hcap hrc (reach_inv hrc hR) hnf

/-- **exchanges always complete**: `mu` strictly decreases on every non-spurious step and grows by
    3 on a spurious wake-up; so a run from an initial state with `k` spurious wake-ups has at most
    `mu init + 3 k` other steps, and a run that cannot be continued by a non-spurious step has
    reached the final state: every thread done, all K items produced, all consumed, in order. -/
theorem pc_terminates {cfg : Cfg} {K : Nat} {thr : List Thr} {ls : List Label} {s : PCState}
    (hcap : 0 < cfg.cap) (hrc : cfg.recheck = true) (hinit : InitOK K thr)
    (hrun : runLabels cfg (initState thr) ls = some s) :
    nonSpur ls + mu s ≤ mu (initState thr) + 3 * spur ls ∧
    ((∀ l, l.isSpurious = false → exec cfg s l = none) →
      isFinal s = true ∧ s.consumed = s.produced ∧ s.produced.length = K ∧ s.buf = []) := by
  have hI0 : Inv cfg K (initState thr) := inv_init hinit
  have hI := run_inv hrc hI0 hrun
  refine ⟨run_bound hrc hI0 hrun, ?_⟩
  intro hstuck
  have hf : isFinal s = true := by
    cases hf : isFinal s with
    | true => rfl
    | false =>
      obtain ⟨l, s', hl, he⟩ := no_deadlock_of_inv hcap hrc hI hf
      rw [hstuck l hl] at he; cases he
  exact ⟨hf, final_exchanged hI hf⟩

theorem pc_measure_decreases {cfg : Cfg} {K : Nat} {s s' : PCState} {l : Label} (hrc : cfg.recheck = true)
    (hR : Reach cfg K s) (h : exec cfg s l = some s') :
    (l.isSpurious = false → mu s' < mu s) ∧ (l.isSpurious = true → mu s' = mu s + 3) :=
  mu_step (reach_inv hrc hR) hrc h

/-- there is no infinite execution with only finitely many spurious wake-ups -/
theorem pc_no_infinite_run {cfg : Cfg} {K : Nat} {thr : List Thr} (hrc : cfg.recheck = true)
    (hinit : InitOK K thr) (σ : Nat → PCState) (ℓ : Nat → Label) (h0 : σ 0 = initState thr)
    (hstep : ∀ k, exec cfg (σ k) (ℓ k) = some (σ (k + 1))) :
    ∀ B, ∃ k, B ≤ k ∧ (ℓ k).isSpurious = true := by
  intro B
  apply Classical.byContradiction
  intro hno
  refine no_infinite_run hrc σ ℓ (by rw [h0]; exact inv_init hinit) hstep B ?_
  intro k hk
  cases hs : (ℓ k).isSpurious with
  | false => rfl
  | true => exact (hno ⟨k, hk, hs⟩).elim

/-- **never misses an event** (event-counter client, any number of waiters and signallers): in
    every reachable state in which some waiter is blocked in the wait-set, the events not yet
    consumed are matched by at least as many agents already on their way — waiters woken and about
    to re-acquire, threads re-checking the predicate under the mutex, signallers that have
    incremented and are about to signal.  In particular a waiter is never blocked with its
    predicate true (`consumed < events`) and no wake-up pending. -/
theorem never_misses_event {s : EState} (hR : EReach s) (hblocked : s.mon.wset 0 ≠ []) :
    s.events - s.consumed ≤ eTokens s ∧ (s.consumed < s.events → 0 < eTokens s) := by
  have h := (ereach_inv hR).tok hblocked
  exact ⟨h, fun hlt => by omega⟩

def demoCfg : Cfg := { cap := 1, bcast := false, recheck := true }
def demoThr : List Thr := mkThreads [2] [1, 1]

/-- consumers 1 and 2 wait; producer 0 puts and signals: exactly one of them is woken and takes the
    item; the run ends in the final state with both items exchanged -/
def demoRun : List Label :=
  [.lock 1, .check 1, .lock 2, .check 2,                       -- both consumers wait on notEmpty
   .lock 0, .check 0, .signal 0 (some 2), .unlock 0,           -- put, wake consumer 2
   .lock 0, .check 0,                                          -- buffer full: producer waits on notFull
   .reacquire 2, .check 2, .signal 2 (some 0), .unlock 2,      -- take, wake the producer
   .spurious 1, .reacquire 1, .check 1,                        -- spurious wake-up: re-check, wait again
   .reacquire 0, .check 0, .signal 0 (some 1), .unlock 0,      -- put, wake consumer 1
   .reacquire 1, .check 1, .signal 1 none, .unlock 1]

example : InitOK 2 demoThr := by
  refine ⟨?_, ?_, ?_⟩
  · decide
  · decide
  · decide

example : (runLabels demoCfg (initState demoThr) demoRun).map
    (fun s => (isFinal s, s.consumed, s.buf, s.bad)) = some (true, [(0, 2), (0, 1)], [], false) := by decide

example : mu (initState demoThr) = 61 := by decide

/-- event counter: a waiter blocks, a signaller increments; between the increment and the signal
    the waiter is blocked with its predicate true — and the signaller at `sig` is the pending wake-up -/
example : ((eexec (einit [⟨.waiter, .start, 1⟩, ⟨.signaller, .start, 1⟩]) (.lock 0)).bind fun s =>
    (eexec s (.step 0)).bind fun s => (eexec s (.lock 1)).bind fun s => (eexec s (.step 1)).map fun s =>
      (s.mon.wset 0, s.events, s.consumed, eTokens s)) = some ([0], 1, 0, 1) := by decide

/-! ## negative example: `if` instead of `while`

The same consumer, but acting right after `p_cond_variable_wait` returns (`recheck := false`).
(a) ONE spurious wake-up suffices: the consumer takes from an empty buffer.
(b) No spurious wake-up is needed either: a signalled consumer whose item is taken by another
    consumer before it re-acquires the mutex ("stolen wake-up") does the same.
The very same traces are harmless for the `while` client. -/

def ifCfg : Cfg := { cap := 1, bcast := false, recheck := false }

def ifTraceSpurious : List Label := [.lock 1, .check 1, .spurious 1, .reacquire 1]

def ifTraceStolen : List Label :=
  [.lock 1, .check 1,                                   -- consumer 1 waits
   .lock 0, .check 0, .signal 0 (some 1), .unlock 0,    -- producer puts one item, wakes consumer 1
   .lock 2, .check 2, .signal 2 none, .unlock 2,        -- consumer 2 gets the mutex first and takes it
   .reacquire 1]                                        -- consumer 1 returns from wait and takes: empty!

theorem if_instead_of_while_breaks :
    (runLabels ifCfg (initState (mkThreads [1] [1])) ifTraceSpurious).map (·.bad) = some true ∧
    (runLabels ifCfg (initState (mkThreads [1] [1, 1])) ifTraceStolen).map (·.bad) = some true ∧
    (runLabels { ifCfg with recheck := true } (initState (mkThreads [1] [1])) ifTraceSpurious).map
      (fun s => (s.bad, s.thr[1]?.map (·.pc))) = some (false, some .check) ∧
    (runLabels { ifCfg with recheck := true } (initState (mkThreads [1] [1, 1])) ifTraceStolen).map
      (fun s => (s.bad, s.thr[1]?.map (·.pc))) = some (false, some .check) := by
  decide

end PV.CondVar
