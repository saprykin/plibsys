import PV.Lemmas.IPCSeq
/-!
# C06 — named semaphore (`psemaphore-posix.c` over the POSIX name space model `PV.IPC.OS`)

All statements are about the model `PV.Model.IPC` instantiated with the facts extracted from the
current source (`PV.Generated.IPC`): every schedule = every `List Action` (any interleaving of the
system calls of any calls of any threads of any processes, SIGKILLs included, and `Action.fail t e`: the
next system call of `t` is not performed and fails with `e`, scripted), every EINTR script.
Sequential statements use `G.call` (one thread runs its call to the end while the others are quiet).

* `Agree k o g`   — name `k` is bound to object `o` and every live handle of `k` refers to `o`.
* `QuietRun k g as` — while the schedule `as` runs from `g`, no CREATE-mode open of `k` and no
  owner free of `k` is at its `sem_unlink`/re-create steps (`Call.quiet`).
This file is the POSIX back-end; System V is `PV.Props.C06sysv`.  Key injectivity (truncated SHA-1) is an assumption.
The last part ("failing system calls") states what the failure exits of `pp_semaphore_create_handle` /
`p_semaphore_acquire` / `p_semaphore_release` do (clean failure).
-/
namespace PV.IPC.C06
open PV.IPC PV.Generated.IPC

/-- All handles of one name opened since the name was last created — no CREATE-mode open and no
    owner free of that name in between — refer to the same object, in every thread and process and
    for every interleaving: the name stays bound to `o` and every live handle of `k` has `obj = o`. -/
theorem one_counter_per_name (k : SemKey) (o : ObjId) (g : G) (as : List Action)
    (h0 : Agree k o g) (hq : QuietRun k g as) : Agree k o (execAll g as) :=
  agree_execAll k o as g h0 hq

/-- … hence any two such handles operate on one counter: their acquire / release are the same system call. -/
theorem same_counter (k : SemKey) (o : ObjId) (g : G) (h1 h2 : Hid) (p1 p2 : Pid) (x1 x2 : PSem)
    (ha : Agree k o g) (e1 : g.hs h1 = some (p1, .sem x1)) (e2 : g.hs h2 = some (p2, .sem x2))
    (k1 : x1.key = k) (k2 : x2.key = k) :
    acquireNext x1 = acquireNext x2 ∧ releaseNext x1 = releaseNext x2 ∧ g.os.semNames k = some x1.obj := by
  have a1 := ha.2.1 h1 p1 x1 e1 k1
  have a2 := ha.2.1 h2 p2 x2 e2 k2
  simp [acquireNext, releaseNext, a1, a2, ha.1]

/-- frame: a step of any call leaves every name its system call does not address, … -/
theorem other_names_untouched (g : G) (t : Tid) (i : Bool) (c : Call) (hc : g.calls t = some c) (k' : SemKey)
    (hk : c.next.semKey? ≠ some k') : (g.step t i).os.semNames k' = g.os.semNames k' := by
  rw [step_eq g t i c hc]; exact (sysStep_effect ..).semNames_frame k' hk

/-- … the semaphore calls address only their own key (`p_semaphore_new`: always its key;
    `p_semaphore_free`: its key or none; acquire / release: none), … -/
theorem sem_calls_address_own_key (s : SemNewSt) (f : SemFreeSt) (x : PSem) :
    s.next.semKey? = some s.key ∧ (f.next.semKey? = none ∨ f.next.semKey? = some f.h.key) ∧
    (acquireNext x).semKey? = none ∧ (releaseNext x).semKey? = none :=
  ⟨s.next_key, f.next_key, rfl, rfl⟩

/-- … and the value of an existing object changes only by a `sem_wait` / `sem_post` on that object. -/
theorem other_counters_untouched (g : G) (t : Tid) (i : Bool) (c : Call) (hc : g.calls t = some c) (o : ObjId)
    (ho : o < g.os.nextObj) (h1 : c.next ≠ .semWait o) (h2 : c.next ≠ .semPost o) :
    ((g.step t i).os.sems o).value = (g.os.sems o).value := by
  rw [step_eq g t i c hc, advance_os]
  simpa [h1, h2] using (sysStep_effect (g.pidOf t) i c.next g.os).value o ho

/-- `p_semaphore_acquire` returns only at a step whose `sem_wait` returned 0, and that step consumes
    exactly one unit of the handle's object; a step that does not return changes nothing. -/
theorem acquire_consumes (g : G) (t : Tid) (i : Bool) (x : PSem) (hc : g.calls t = some (.acquire x)) :
    ((g.step t i).calls t = none ↔ (sysStep (g.pidOf t) i (.semWait x.obj) g.os).2 = .ok 0) ∧
    ((g.step t i).calls t = none →
        (g.os.sems x.obj).value = ((g.step t i).os.sems x.obj).value + 1 ∧ (g.step t i).ret t = some .unit) ∧
    ((g.step t i).calls t ≠ none → (g.step t i).os = g.os) := by
  cases i <;> by_cases hv : (g.os.sems x.obj).value = 0 <;>
    simp [G.step, hc, Call.next, Call.after, acquireNext, acquireAfter, sysStep, Sys.interruptible, hv,
      G.setCall, G.setRet, semWaitRetry]
  omega

/-- an acquire that is not interrupted returns exactly when a unit is available (it does not block
    while units are available, and it cannot return without one) -/
theorem acquire_enabled_iff_positive (g : G) (t : Tid) (x : PSem) (hc : g.calls t = some (.acquire x)) :
    (g.step t false).calls t = none ↔ 0 < (g.os.sems x.obj).value := by
  by_cases hv : (g.os.sems x.obj).value = 0 <;>
    simp [G.step, hc, Call.next, Call.after, acquireNext, acquireAfter, sysStep, Sys.interruptible, hv,
      G.setCall, G.setRet]
  omega

/-- `p_semaphore_release` is one `sem_post`: it returns at once and adds exactly one unit -/
theorem release_adds (g : G) (t : Tid) (i : Bool) (x : PSem) (hc : g.calls t = some (.release x)) :
    (g.step t i).calls t = none ∧ (g.step t i).ret t = some .unit ∧
    ((g.step t i).os.sems x.obj).value = (g.os.sems x.obj).value + 1 := by
  cases i <;>
    simp [G.step, hc, Call.next, Call.after, releaseNext, releaseAfter, sysStep, Sys.interruptible,
      G.setCall, G.setRet]

/-- any number of EINTR results of `sem_wait` is invisible: state, handles and result of an acquire
    are those of the uninterrupted call (cited by C19) -/
theorem acquire_eintr_transparent (g : G) (t : Tid) (h : Hid) (script : List Nat) :
    (g.call t (.acq h) script).Same (g.call t (.acq h) []) :=
  eintr_transparent g t (.acq h) script

/-- same for `sem_open` inside `p_semaphore_new`, at each of its call sites, both modes (cited by C19) -/
theorem sem_open_eintr_transparent (g : G) (t : Tid) (h : Hid) (k : SemKey) (init : Nat) (m : Mode) (script : List Nat) :
    (g.call t (.newSem h k init m) script).Same (g.call t (.newSem h k init m) []) :=
  eintr_transparent g t (.newSem h k init m) script

theorem open_ignores_init_on_existing (g : G) (t : Tid) (h : Hid) (k : SemKey) (init o : Nat) (script : List Nat)
    (hi : Idle g t) (hh : g.hs h = none) (hk : g.os.semNames k = some o) :
    let g' := g.call t (.newSem h k init .open) script
    g'.os = g.os ∧ g'.hs h = some (g.pidOf t, .sem ⟨false, k, o, .open, init⟩) := by
  have hs := sem_open_eintr_transparent g t h k init .open script
  have h0 := call_newSem_open_present g t h k init o hi hh hk
  simp only
  rw [hs.1, hs.2.2.1, h0.1, h0.2.1]
  simp

/-- `p_semaphore_new (CREATE, v)` succeeds whether or not the name exists; its handle and the name
    refer to a fresh object of value exactly `v`, and a later OPEN (any initial value `w`, any
    thread) joins that object and leaves the value alone.  (False of the code before fix F2.) -/
theorem create_resets (g : G) (t t' : Tid) (h h' : Hid) (k : SemKey) (v w : Nat) (script script' : List Nat)
    (hi : Idle g t) (hh : g.hs h = none) :
    let g1 := g.call t (.newSem h k v .create) script
    (∃ o, g1.os.semNames k = some o ∧ (g1.os.sems o).value = v ∧ g.os.nextObj ≤ o ∧
          g1.hs h = some (g.pidOf t, .sem ⟨true, k, o, .create, v⟩) ∧
          (Idle g1 t' → g1.hs h' = none →
            let g2 := g1.call t' (.newSem h' k w .open) script'
            g2.os = g1.os ∧ g2.hs h' = some (g1.pidOf t', .sem ⟨false, k, o, .open, w⟩))) := by
  have hs := sem_open_eintr_transparent g t h k v .create script
  simp only
  refine ⟨g.os.nextObj, ?_⟩
  have key : (g.call t (.newSem h k v .create)).os.semNames k = some g.os.nextObj ∧
      ((g.call t (.newSem h k v .create)).os.sems g.os.nextObj).value = v ∧
      (g.call t (.newSem h k v .create)).hs h = some (g.pidOf t, .sem ⟨true, k, g.os.nextObj, .create, v⟩) := by
    cases hk : g.os.semNames k with
    | none =>
      have h0 := call_newSem_absent g t h k v .create hi hh hk
      rw [h0.1, h0.2.1]; simp [OS.semCreate]
    | some o =>
      have h0 := call_newSem_create_present g t h k v o hi hh hk
      rw [h0.1, h0.2.1]; simp [OS.semCreate, OS.semRemove]
  refine ⟨by rw [hs.1]; exact key.1, by rw [hs.1]; exact key.2.1, Nat.le_refl _, by rw [hs.2.2.1]; exact key.2.2, ?_⟩
  intro hi' hh'
  exact open_ignores_init_on_existing (g.call t (.newSem h k v .create) script) t' h' k w g.os.nextObj script' hi' hh'
    (by rw [hs.1]; exact key.1)

/-- after `take_ownership; free` the name is gone, and the next `p_semaphore_new` (any mode, value
    `v`) binds it to a fresh object — different from every object that existed — of value `v` -/
theorem owner_free_fresh (g : G) (t t' : Tid) (h h' : Hid) (x : PSem) (v : Nat) (m : Mode)
    (hi : Idle g t) (hh : g.hs h = some (g.pidOf t, .sem x)) :
    let g2 := (g.call t (.own h)).call t (.free h)
    g2.os.semNames x.key = none ∧ g2.os.nextObj = g.os.nextObj ∧
    (Idle g2 t' → g2.hs h' = none →
      let g3 := g2.call t' (.newSem h' x.key v m)
      g3.os.semNames x.key = some g.os.nextObj ∧ (g3.os.sems g.os.nextObj).value = v ∧
      g3.hs h' = some (g2.pidOf t', .sem ⟨true, x.key, g.os.nextObj, m, v⟩) ∧
      (∀ o, o < g.os.nextObj → g3.os.sems o = g.os.sems o)) := by
  have o1 := call_own_sem g t h x hi hh
  have hi1 := hi.call o1.2.2.1
  have hh1 : (g.call t (.own h)).hs h = some ((g.call t (.own h)).pidOf t, .sem { x with created := true }) := by
    rw [o1.2.1, o1.2.2.2]; simp
  have body : ∀ g2 : G, g2.os.semNames x.key = none → g2.os.nextObj = g.os.nextObj → g2.os.sems = g.os.sems →
      (Idle g2 t' → g2.hs h' = none →
        let g3 := g2.call t' (.newSem h' x.key v m)
        g3.os.semNames x.key = some g.os.nextObj ∧ (g3.os.sems g.os.nextObj).value = v ∧
        g3.hs h' = some (g2.pidOf t', .sem ⟨true, x.key, g.os.nextObj, m, v⟩) ∧
        (∀ o, o < g.os.nextObj → g3.os.sems o = g.os.sems o)) := by
    intro g2 hn hno hsm hi2 hh2
    have c := call_newSem_absent g2 t' h' x.key v m hi2 hh2 hn
    simp only
    rw [c.1, c.2.1]
    simp only [OS.semCreate, hno, hsm, if_true, true_and]
    intro o ho
    have : o ≠ g.os.nextObj := Nat.ne_of_lt ho
    simp [this]
  simp only
  cases hk : g.os.semNames x.key with
  | none =>
    have f := call_free_sem_owner_unbound (g.call t (.own h)) t h { x with created := true } hi1 hh1 rfl (by rw [o1.1]; exact hk)
    refine ⟨by rw [f.1, o1.1]; exact hk, by rw [f.1, o1.1], ?_⟩
    exact body _ (by rw [f.1, o1.1]; exact hk) (by rw [f.1, o1.1]) (by rw [f.1, o1.1])
  | some o =>
    have f := call_free_sem_owner (g.call t (.own h)) t h { x with created := true } o hi1 hh1 rfl (by rw [o1.1]; exact hk)
    refine ⟨by rw [f.1, o1.1]; simp [OS.semRemove], by rw [f.1, o1.1]; rfl, ?_⟩
    exact body _ (by rw [f.1, o1.1]; simp [OS.semRemove]) (by rw [f.1, o1.1]; rfl) (by rw [f.1, o1.1]; rfl)

/-- the documented recovery after a crash: open, take ownership, free, create with value `v` -/
def recover (g : G) (t : Tid) (h1 h2 : Hid) (k : SemKey) (v : Nat) : G :=
  (((g.call t (.newSem h1 k 0 .open)).call t (.own h1)).call t (.free h1)).call t (.newSem h2 k v .create)

/-- From EVERY state `g` — in particular from every state reached by any schedule and a SIGKILL of
    any process between any two system calls of any library call (see `crash_recoverable`) — the
    sequence open → take_ownership → free → create(v), run by a live idle thread, ends with the
    name bound to a semaphore of value `v`, which later opens join. -/
theorem recover_from_any_state (g : G) (t : Tid) (h1 h2 : Hid) (k : SemKey) (v : Nat)
    (hi : Idle g t) (hh1 : g.hs h1 = none) (hh2 : g.hs h2 = none) (hne : h1 ≠ h2) :
    let g4 := recover g t h1 h2 k v
    ∃ o, g4.os.semNames k = some o ∧ (g4.os.sems o).value = v ∧
         g4.hs h2 = some (g.pidOf t, .sem ⟨true, k, o, .create, v⟩) ∧ g4.calls t = none ∧
         (∀ t' h' w, Idle g4 t' → g4.hs h' = none →
            (g4.call t' (.newSem h' k w .open)).os = g4.os ∧
            (g4.call t' (.newSem h' k w .open)).hs h' = some (g4.pidOf t', .sem ⟨false, k, o, .open, w⟩)) := by
  -- step 1: open (two cases), the name is bound afterwards and h1 is a handle of it
  have s1 : ∃ x o1, (g.call t (.newSem h1 k 0 .open)).os.semNames k = some o1 ∧ x.key = k ∧
      (g.call t (.newSem h1 k 0 .open)).hs = (fun h' => if h' = h1 then some (g.pidOf t, .sem x) else g.hs h') ∧
      (g.call t (.newSem h1 k 0 .open)).calls t = none ∧ (g.call t (.newSem h1 k 0 .open)).pidOf = g.pidOf := by
    cases hk : g.os.semNames k with
    | none =>
      have c := call_newSem_absent g t h1 k 0 .open hi hh1 hk
      exact ⟨_, g.os.nextObj, by rw [c.1]; simp [OS.semCreate], rfl, c.2.1, c.2.2.1, c.2.2.2⟩
    | some o =>
      have c := call_newSem_open_present g t h1 k 0 o hi hh1 hk
      exact ⟨_, o, by rw [c.1]; exact hk, rfl, c.2.1, c.2.2.1, c.2.2.2⟩
  obtain ⟨x, o1, n1, xk, hs1, c1, p1⟩ := s1
  have hi1 := hi.call c1
  generalize hg1 : g.call t (.newSem h1 k 0 .open) = g1 at n1 hs1 hi1 p1
  have hh1' : g1.hs h1 = some (g1.pidOf t, .sem x) := by rw [hs1, p1]; simp
  -- step 2: take ownership
  have o2 := call_own_sem g1 t h1 x hi1 hh1'
  have hi2 := hi1.call o2.2.2.1
  generalize hg2 : g1.call t (.own h1) = g2 at o2 hi2
  have hh2' : g2.hs h1 = some (g2.pidOf t, .sem { x with created := true }) := by rw [o2.2.1, o2.2.2.2]; simp
  -- step 3: free as owner: the name is removed
  have f3 := call_free_sem_owner g2 t h1 { x with created := true } o1 hi2 hh2' rfl (by rw [o2.1]; simp [xk, n1])
  have hi3 := hi2.call f3.2.2.1
  generalize hg3 : g2.call t (.free h1) = g3 at f3 hi3
  have hn3 : g3.os.semNames k = none := by rw [f3.1]; simp [OS.semRemove, xk]
  have hh3 : g3.hs h2 = none := by
    rw [f3.2.1, o2.2.1, hs1]; simp [Ne.symm hne, hh2]
  -- step 4: create
  have c4 := call_newSem_absent g3 t h2 k v .create hi3 hh3 hn3
  have hp : g3.pidOf = g.pidOf := by rw [f3.2.2.2, o2.2.2.2, p1]
  simp only [recover, hg1, hg2, hg3]
  generalize hg4 : g3.call t (.newSem h2 k v .create) = g4 at c4
  refine ⟨g3.os.nextObj, by rw [c4.1]; simp [OS.semCreate], by rw [c4.1]; simp [OS.semCreate],
    by rw [c4.2.1, hp]; simp, c4.2.2.1, ?_⟩
  intro t' h' w hi' hh'
  have c5 := call_newSem_open_present g4 t' h' k w g3.os.nextObj hi' hh' (by rw [c4.1]; simp [OS.semCreate])
  exact ⟨c5.1, by rw [c5.2.1]; simp⟩

/-- the state after thread `tc` has made `j` system calls of the library call `op` and its process is SIGKILLed -/
def crashAt (g : G) (tc : Tid) (op : Op) (j : Nat) : G :=
  ((List.replicate j (Action.step tc false)).foldl exec (g.start tc op)).kill (g.pidOf tc)

/-- A name left behind by a process killed at ANY point — after any schedule `as` from any state,
    then any further schedule `bs`, thread `tc` starts any library call `op`, makes any number `j` of its
    system calls one after the other and its process is killed — can always be cleaned up and
    re-created by the documented sequence, run by a thread of a live process. -/
theorem crash_recoverable (g0 : G) (as bs : List Action) (tc : Tid) (op : Op) (j : Nat)
    (t : Tid) (h1 h2 : Hid) (k : SemKey) (v : Nat) :
    let gc := crashAt (execAll (execAll g0 as) bs) tc op j
    Idle gc t → gc.hs h1 = none → gc.hs h2 = none → h1 ≠ h2 →
    ∃ o, (recover gc t h1 h2 k v).os.semNames k = some o ∧ ((recover gc t h1 h2 k v).os.sems o).value = v ∧
         (∀ t' h' w, Idle (recover gc t h1 h2 k v) t' → (recover gc t h1 h2 k v).hs h' = none →
            ((recover gc t h1 h2 k v).call t' (.newSem h' k w .open)).hs h' =
              some ((recover gc t h1 h2 k v).pidOf t', .sem ⟨false, k, o, .open, w⟩) ∧
            ((recover gc t h1 h2 k v).call t' (.newSem h' k w .open)).os = (recover gc t h1 h2 k v).os) := by
  intro gc hi hh1 hh2 hne
  obtain ⟨o, a, b, _, _, e⟩ := recover_from_any_state gc t h1 h2 k v hi hh1 hh2 hne
  exact ⟨o, a, b, fun t' h' w x y => ⟨(e t' h' w x y).2, (e t' h' w x y).1⟩⟩

/-- For any number of threads and processes and every schedule: successful acquisitions minus
    releases of an object since a state in which its value was `v` never exceed `v` — when the
    semaphore is used as acquire … release, at most `v` holders are between the two. -/
theorem k_exclusion (g : G) (as : List Action) (o : ObjId) (v : Nat) (ho : o < g.os.nextObj)
    (hv : (g.os.sems o).value = v) :
    (acquired o (execAll g as).log - acquired o g.log) ≤ v + (released o (execAll g as).log - released o g.log) ∧
    ((execAll g as).os.sems o).value + (acquired o (execAll g as).log - acquired o g.log)
      = v + (released o (execAll g as).log - released o g.log) := by
  obtain ⟨evs, hl, hc⟩ := counter_execAll o as g ho
  rw [hl, acquired_append, released_append]
  omega

/-! ## failing system calls

`Action.fail t e`: the system call thread `t` is about to make is not performed and returns `-1 / errno = e` (EMFILE,
ENOMEM, EACCES, a failing `sem_post`, …) — a result the name-space machine never produces by itself.  Every theorem above
that quantifies over schedules (`List Action`) quantifies over such failures too: `one_counter_per_name`, `k_exclusion`,
`other_*_untouched`, `crash_recoverable` hold for schedules in which any system call of any call fails.  `released` counts
the `sem_post` calls that succeeded.  Sequential statements use `G.callF` (failure script: index of the call ↦ errno). -/

/-- a failed system call changes nothing in the OS (no name, no counter) and creates no handle -/
theorem failed_call_touches_nothing (g : G) (t : Tid) (e : Errno) :
    (g.fail t e).os = g.os ∧ (g.fail t e).hs = g.hs := ⟨fail_os g t e, fail_hs g t e⟩

/-- `p_semaphore_new` whose first `sem_open` fails with anything but EINTR / EEXIST: clean failure -/
theorem new_failure_is_clean (g : G) (t : Tid) (h : Hid) (k : SemKey) (init : Nat) (m : Mode) (e : Errno)
    (hi : Idle g t) (hh : g.hs h = none) (h1 : e ≠ .EINTR) (h2 : e ≠ .EEXIST) :
    let g' := g.callF t (.newSem h k init m) [(0, e)]
    g'.os = g.os ∧ g'.hs = g.hs ∧ g'.ret t = some (.fail e) ∧ g'.calls t = none := by
  simp [ipc_run, hi.alive, hi.idle, hh]

/-- `p_semaphore_acquire` whose `sem_wait` fails with anything but EINTR: FALSE, no unit consumed -/
theorem acquire_failure_consumes_nothing (g : G) (t : Tid) (h : Hid) (x : PSem) (e : Errno)
    (hi : Idle g t) (hh : g.hs h = some (g.pidOf t, .sem x)) (h1 : e ≠ .EINTR) :
    let g' := g.callF t (.acq h) [(0, e)]
    g'.os = g.os ∧ g'.hs = g.hs ∧ g'.ret t = some (.fail e) ∧ g'.calls t = none := by
  simp [ipc_run, hi.alive, hi.idle, hh]

/-- `p_semaphore_release` whose `sem_post` fails: FALSE, no unit added -/
theorem release_failure_adds_nothing (g : G) (t : Tid) (h : Hid) (x : PSem) (e : Errno)
    (hi : Idle g t) (hh : g.hs h = some (g.pidOf t, .sem x)) :
    let g' := g.callF t (.rel h) [(0, e)]
    g'.os = g.os ∧ g'.hs = g.hs ∧ g'.ret t = some (.fail e) ∧ g'.calls t = none := by
  simp [ipc_run, hi.alive, hi.idle, hh]


/-- non-vacuity: the hypotheses hold in the initial state / in `demo`, and the schedule theorems really cover failures -/
example := new_failure_is_clean (G.init id) 0 0 (.user 0) 3 .create .EACCES ⟨rfl, rfl⟩ rfl (by decide) (by decide)
example : ((G.init id).callF 0 (.newSem 0 (.user 0) 3 .create) [(0, .EMFILE)]).ret 0 = some (.fail .EMFILE) := by decide +kernel
example : (((G.init id).call 0 (.newSem 0 (.user 0) 1 .open)).callF 0 (.acq 0) [(0, .EINVAL)]).ret 0 = some (.fail .EINVAL) ∧
    ((((G.init id).call 0 (.newSem 0 (.user 0) 1 .open)).callF 0 (.acq 0) [(0, .EINVAL)]).os.sems 0).value = 1 ∧
    ((((G.init id).call 0 (.newSem 0 (.user 0) 1 .open)).callF 0 (.rel 0) [(0, .EINVAL)]).os.sems 0).value = 1 ∧
    -- CREATE on an existing name whose `sem_unlink` fails: the re-create sees EEXIST and the loop unlinks again
    (((G.init id).call 0 (.newSem 0 (.user 0) 1 .open)).callF 1 (.newSem 1 (.user 0) 5 .create) [(1, .EACCES)]).ret 1
      = some (.sem ⟨true, .user 0, 1, .create, 5⟩) := by decide +kernel
example := k_exclusion (G.init id) [.start 0 (.newSem 0 (.user 0) 1 .open), .fail 0 .ENOMEM] 0 0
/-- a failed release is not counted: one successful acquire, one failed release, the unit is still taken -/
example : let g := execAll ((G.init id).call 0 (.newSem 0 (.user 0) 1 .open)) [.start 0 (.acq 0), .step 0 false, .start 0 (.rel 0), .fail 0 .EINVAL]
    acquired 0 g.log = 1 ∧ released 0 g.log = 0 ∧ (g.os.sems 0).value = 0 := by decide +kernel

/-- a state in which a name is bound and two processes hold handles of it (built with the model itself) -/
def demo : G :=
  ((G.init id).call 0 (.newSem 0 (.user 0) 2 .open)).call 1 (.newSem 1 (.user 0) 9 .open)

theorem demo_facts :
    Agree (.user 0) 0 demo ∧ (demo.os.sems 0).value = 2 ∧ demo.os.nextObj = 1 ∧ (∀ t, demo.calls t = none) ∧
    (∀ t, (demo.os.procs (demo.pidOf t)).alive = true) ∧ demo.hs 2 = none ∧ demo.hs 3 = none ∧
    demo.hs 1 = some (1, .sem ⟨false, .user 0, 0, .open, 9⟩) ∧ demo.pidOf = id := by
  have i0 : Idle (G.init id) 0 := ⟨rfl, rfl⟩
  have c0 := call_newSem_absent (G.init id) 0 0 (.user 0) 2 .open i0 rfl rfl
  have k0 := fun t' (h : t' ≠ 0) => call_calls_other (G.init id) 0 (.newSem 0 (.user 0) 2 .open) [] t' h
  generalize hg : (G.init id).call 0 (.newSem 0 (.user 0) 2 .open) = g1 at c0 k0
  have i1 : Idle g1 1 := ⟨by rw [c0.1]; rfl, by rw [k0 1 (by decide)]; rfl⟩
  have n1 : g1.os.semNames (.user 0) = some 0 := by rw [c0.1]; simp [OS.semCreate, G.init, OS.init]
  have c1 := call_newSem_open_present g1 1 1 (.user 0) 9 0 i1 (by rw [c0.2.1]; simp [G.init]) n1
  have k1 := fun t' (h : t' ≠ 1) => call_calls_other g1 1 (.newSem 1 (.user 0) 9 .open) [] t' h
  simp only [demo, hg]
  refine ⟨⟨by rw [c1.1]; exact n1, ?_, ?_⟩, by rw [c1.1, c0.1]; simp [OS.semCreate, G.init, OS.init],
    by rw [c1.1, c0.1]; simp [OS.semCreate, G.init, OS.init], ?_, ?_, ?_, ?_, ?_, ?_⟩
  · intro h p x hx hk
    rw [c1.2.1, c0.2.1] at hx
    simp only [G.init] at hx
    split at hx
    · simp at hx; rw [← hx.2]
    · split at hx
      · simp at hx; rw [← hx.2]; rfl
      · simp at hx
  · intro h p y hy
    rw [c1.2.1, c0.2.1] at hy
    simp only [G.init] at hy
    split at hy
    · simp at hy
    · split at hy <;> simp at hy
  · intro t
    by_cases e1 : t = 1
    · subst e1; exact c1.2.2.1
    · rw [k1 t e1]
      by_cases e0 : t = 0
      · subst e0; exact c0.2.2.1
      · rw [k0 t e0]; rfl
  · intro t; rw [c1.1, c0.1]; rfl
  · rw [c1.2.1, c0.2.1]; simp [G.init]
  · rw [c1.2.1, c0.2.1]; simp [G.init]
  · rw [c1.2.1, c0.2.2.2]; simp [G.init]
  · rw [c1.2.2.2, c0.2.2.2]; rfl

/-- `one_counter_per_name` / `same_counter` / `k_exclusion` have inhabitants of their hypotheses -/
example : Agree (.user 0) 0 demo ∧ (0 : ObjId) < demo.os.nextObj ∧ (demo.os.sems 0).value = 2 :=
  ⟨demo_facts.1, by rw [demo_facts.2.2.1]; decide, demo_facts.2.1⟩

/-- `QuietRun` holds while a third process is in the middle of an OPEN-mode `p_semaphore_new` of the name -/
example : QuietRun (.user 0) demo [.start 2 (.newSem 2 (.user 0) 5 .open), .kill 2] := by
  obtain ⟨_, _, _, hidle, halive, h2, _, _, _⟩ := demo_facts
  refine ⟨quiet_of_idle _ _ hidle, ?_, trivial⟩
  intro t c hc
  have hs : exec demo (.start 2 (.newSem 2 (.user 0) 5 .open)) =
      demo.setCall 2 (some (.semNew 2 { key := .user 0, mode := .open, init := 5, pc := .excl })) := by
    simp [exec, G.start, halive 2, hidle 2, h2]
  rw [hs] at hc
  simp only [G.setCall] at hc
  split at hc
  · simp only [Option.some.injEq] at hc; subst hc
    simp [Call.quiet, SemNewSt.mayUnlink]
  · rw [hidle t] at hc; cases hc

/-- the hypotheses of the sequential theorems (`Idle`, free handle slots, a live handle) are satisfiable -/
example : Idle demo 1 ∧ demo.hs 2 = none ∧ demo.hs 3 = none ∧ (2 : Hid) ≠ 3 ∧
    demo.hs 1 = some (demo.pidOf 1, .sem ⟨false, .user 0, 0, .open, 9⟩) := by
  obtain ⟨_, _, _, hidle, halive, h2, h3, h1, hp⟩ := demo_facts
  exact ⟨⟨halive 1, hidle 1⟩, h2, h3, by decide, by rw [h1, hp]; rfl⟩

end PV.IPC.C06
