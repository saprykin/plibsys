import PV.Generated.Atomics
import PV.Lemmas.Locks
import PV.Lemmas.Atomics
/-!
# C01 — mutex and spinlock: mutual exclusion, trylock, visibility

The machines are those of `PV.Model.Locks`, instantiated with the records the translator generated from
the *current* `pspinlock-c11.c`, `pspinlock-sync.c`, `pspinlock-sim.c`, `pmutex-posix.c`.
Any number of threads (`Tid = Nat`), any interleaving, any mix of lock / trylock / unlock.

Usage discipline (hypothesis of all exclusion theorems, built into `SStep … false` / `MStep`): only a
thread that holds the lock calls unlock.  `rogue_unlock_breaks_exclusion` shows it is necessary.

Trusted (DESIGN §4): one builtin call = one indivisible step with the stated memory order; pthread mutexes
obey POSIX (`PV.Locks.Native`); the happens-before model is a simplification of C11 for one lock word.
-/
namespace PV.C01
open PV.Atomics PV.Locks PV.Generated.Atomics


/-! ## the generated records satisfy what the exclusion proof needs

These are the places where an edit of the C source breaks the proof: every field is a statement about
`spinC11` / `spinSync` / `mutexPosix` / `spinSim` as extracted. -/

theorem spinC11_good : SpinGood spinC11 where
  lockCas0 := by decide
  lockCasN := fun w h => (interp_cas rfl rfl rfl).trans (congrArg some (if_neg h))
  tryCas0 := by decide
  tryCasN := fun w h => (interp_cas rfl rfl rfl).trans (congrArg some (if_neg h))
  unlock := fun _ => rfl
  loop := by decide
  lockRet := by decide
  tryStrong := by decide
  fresh := by decide
  sameWord := by decide
  zeroInit := by decide

theorem spinSync_good : SpinGood spinSync where
  lockCas0 := by decide
  lockCasN := fun w h => (interp_cas rfl rfl rfl).trans (congrArg some (if_neg h))
  tryCas0 := by decide
  tryCasN := fun w h => (interp_cas rfl rfl rfl).trans (congrArg some (if_neg h))
  unlock := fun _ => rfl
  loop := by decide
  lockRet := by decide
  tryStrong := by decide
  fresh := by decide
  sameWord := by decide
  zeroInit := by decide

theorem ebusy_ne_zero : EBUSY ≠ 0 := by decide

theorem mutexPosix_good : MutexGood mutexPosix where
  lockNative := by decide
  tryNative := by decide
  unlockNative := by decide
  lockRet := fun _ => beq_iff_eq
  tryRet := fun _ => beq_iff_eq
  unlockRet := fun _ => beq_iff_eq

/-- `pspinlock-sim.c` delegates lock → `p_mutex_lock`, trylock → `p_mutex_trylock`, unlock →
    `p_mutex_unlock` of one and the same mutex member and returns their result unchanged -/
theorem spinSim_delegates : simSpinMutex spinSim mutexPosix = mutexPosix ∧ spinSim.sameMutex = true := ⟨rfl, rfl⟩

theorem spinSim_good : MutexGood (simSpinMutex spinSim mutexPosix) := by
  rw [spinSim_delegates.1]; exact mutexPosix_good

/-! ## 1. mutual exclusion -/

theorem excl_c11 {s : SState} (r : SReach spinC11 false s) (t u : Tid) (ht : s.holds t) (hu : s.holds u) : t = u :=
  spin_excl spinC11_good r t u ht hu

theorem excl_sync {s : SState} (r : SReach spinSync false s) (t u : Tid) (ht : s.holds t) (hu : s.holds u) : t = u :=
  spin_excl spinSync_good r t u ht hu

theorem excl_posix {s : MState} (r : MReach EBUSY mutexPosix s) (t u : Tid) (ht : s.holds t) (hu : s.holds u) : t = u :=
  mutex_excl ebusy_ne_zero mutexPosix_good r t u ht hu

theorem excl_sim {s : MState} (r : MReach EBUSY (simSpinMutex spinSim mutexPosix) s) (t u : Tid)
    (ht : s.holds t) (hu : s.holds u) : t = u :=
  mutex_excl ebusy_ne_zero spinSim_good r t u ht hu

/-- the state invariant behind exclusion, for the record: a holder implies word = 1, no holder implies
    word = 0 (c11 and sync) -/
theorem word_tracks_holder_c11 {s : SState} (r : SReach spinC11 false s) :
    (∀ t, s.holds t → s.word = 1#32) ∧ ((∀ t, ¬ s.holds t) → s.word = 0#32) :=
  ⟨(sInv_reach spinC11_good r).heldWord, (sInv_reach spinC11_good r).freeWord⟩

theorem word_tracks_holder_sync {s : SState} (r : SReach spinSync false s) :
    (∀ t, s.holds t → s.word = 1#32) ∧ ((∀ t, ¬ s.holds t) → s.word = 0#32) :=
  ⟨(sInv_reach spinSync_good r).heldWord, (sInv_reach spinSync_good r).freeWord⟩

/-- posix / sim: whoever `holds` owns the native mutex -/
theorem holder_owns_native {s : MState} (r : MReach EBUSY mutexPosix s) (t : Tid) (h : s.holds t) : s.owner = some t :=
  mutex_inv ebusy_ne_zero mutexPosix_good r t h

/-- Without the discipline exclusion fails: thread 0 takes the lock, thread 1 (not a holder) calls unlock,
    thread 1 takes the lock — both hold. -/
theorem rogue_unlock_breaks_exclusion :
    ∃ s, SReach spinC11 true s ∧ s.holds 0 ∧ s.holds 1 := by
  have r0 : SReach spinC11 true sInit := .init
  have r1 := SReach.step r0 (SStep.try_ sInit 0 1#32 true rfl (by decide))
  have r2 := SReach.step r1 (SStep.rogueUnlock _ 1 0#32 rfl (by simp [upd, sInit]) (by decide))
  have r3 := SReach.step r2 (SStep.try_ _ 1 1#32 true (by simp [upd, sInit]) (by decide))
  exact ⟨_, r3, by simp [SState.holds, upd], by simp [SState.holds, upd]⟩

/-- The loop condition matters: with the generated condition inverted (`while (cas == TRUE)`) two threads
    hold the lock (thread 0: CAS ok, loops, CAS fails, returns; thread 1: CAS fails, returns). -/
theorem inverted_loop_breaks_exclusion :
    ∃ s, SReach { spinC11 with loopWhile := true } false s ∧ s.holds 0 ∧ s.holds 1 := by
  let p : SpinImpl := { spinC11 with loopWhile := true }
  have r0 : SReach p false sInit := .init
  have r1 := SReach.step r0 (SStep.callLock sInit 0 rfl)
  have r2 := SReach.step r1 (SStep.cas _ 0 1#32 true (by simp [upd]) (by decide))
  have r3 := SReach.step r2 (SStep.cas _ 0 1#32 false (by simp [upd, afterCas, p]) (by decide))
  have r4 := SReach.step r3 (SStep.callLock _ 1 (by simp [upd, sInit]))
  have r5 := SReach.step r4 (SStep.cas _ 1 1#32 false (by simp [upd]) (by decide))
  refine ⟨_, r5, ?_, ?_⟩ <;> simp [SState.holds, upd, afterCas, p, spinC11]

/-! ### several objects

Any number of lock objects used by any number of threads (a thread may hold several): exclusion holds per
object, and what happens on one object never changes another (so a held lock A cannot make a free lock B look
held).  For the simulated spinlock this rests on every object owning a mutex of its own, which the translator
reads off `p_spinlock_new` (`spinSim_own_mutex`). -/

theorem spinSim_own_mutex : spinSim.freshMutex = true ∧ spinSim.freeReleases = true := by decide

theorem excl_c11_objects {f : Nat → SState} (r : PSReach spinC11 f) (i : Nat) (t u : Tid)
    (ht : (f i).holds t) (hu : (f i).holds u) : t = u :=
  excl_c11 (psReach_proj r i) t u ht hu

theorem excl_sync_objects {f : Nat → SState} (r : PSReach spinSync f) (i : Nat) (t u : Tid)
    (ht : (f i).holds t) (hu : (f i).holds u) : t = u :=
  excl_sync (psReach_proj r i) t u ht hu

theorem excl_posix_objects {f : Nat → MState} (r : PMReach EBUSY mutexPosix f) (i : Nat) (t u : Tid)
    (ht : (f i).holds t) (hu : (f i).holds u) : t = u :=
  excl_posix (pmReach_proj r i) t u ht hu

theorem excl_sim_objects {f : Nat → MState} (r : PMReach EBUSY (simSpinMutex spinSim mutexPosix) f) (i : Nat) (t u : Tid)
    (ht : (f i).holds t) (hu : (f i).holds u) : t = u :=
  excl_sim (pmReach_proj r i) t u ht hu

/-- a step is a step of one object; all others keep their state -/
theorem objects_independent_c11 {f g : Nat → SState} (st : PSStep spinC11 f g) : ∃ i, ∀ j, j ≠ i → g j = f j :=
  psStep_frame st

theorem objects_independent_posix {f g : Nat → MState} (st : PMStep EBUSY mutexPosix f g) : ∃ i, ∀ j, j ≠ i → g j = f j :=
  pmStep_frame st

/-- trylock on a free object succeeds, whoever holds whichever other objects -/
theorem trylock_free_object_c11 {f : Nat → SState} (r : PSReach spinC11 f) (i : Nat) (t : Tid) (b : Bool) {s' : SState}
    (free : ∀ u, ¬ (f i).holds u) (st : SStep spinC11 false (f i) (.try_ t b) s') : b = true ∧ s'.holds t :=
  spin_try_free spinC11_good (psReach_proj r i) t b free st

theorem trylock_free_object_sync {f : Nat → SState} (r : PSReach spinSync f) (i : Nat) (t : Tid) (b : Bool) {s' : SState}
    (free : ∀ u, ¬ (f i).holds u) (st : SStep spinSync false (f i) (.try_ t b) s') : b = true ∧ s'.holds t :=
  spin_try_free spinSync_good (psReach_proj r i) t b free st

/-! ## 2. trylock -/

/-- a trylock call is enabled in every state and completes in that one step (never blocks, never spins);
    it leaves the caller holding iff it returned TRUE -/
theorem trylock_never_blocks_c11 (rogue : Bool) (s : SState) (t : Tid) (h : s.pc t = .idle) :
    ∃ b s', SStep spinC11 rogue s (.try_ t b) s' ∧ s'.pc t ≠ .spin ∧ (s'.holds t ↔ b = true) :=
  spin_try_enabled spinC11_good rogue s t h

theorem trylock_never_blocks_sync (rogue : Bool) (s : SState) (t : Tid) (h : s.pc t = .idle) :
    ∃ b s', SStep spinSync rogue s (.try_ t b) s' ∧ s'.pc t ≠ .spin ∧ (s'.holds t ↔ b = true) :=
  spin_try_enabled spinSync_good rogue s t h

/-- posix / sim: whatever the state of the native mutex, `p_mutex_trylock` has an enabled step
    (POSIX: trylock returns EBUSY instead of waiting) -/
theorem trylock_never_blocks_posix (s : MState) (t : Tid) (h : s.pc t = .idle) :
    ∃ c s', MStep EBUSY mutexPosix s (.try_ t c (mutexPosix.trylock.ret c)) s' :=
  mutex_try_enabled mutexPosix_good s t h

/-- on a free lock (nobody holds) every outcome of trylock is TRUE and the caller then holds -/
theorem trylock_succeeds_when_free_c11 {s s' : SState} (r : SReach spinC11 false s) (t : Tid) (b : Bool)
    (free : ∀ u, ¬ s.holds u) (st : SStep spinC11 false s (.try_ t b) s') : b = true ∧ s'.holds t :=
  spin_try_free spinC11_good r t b free st

theorem trylock_succeeds_when_free_sync {s s' : SState} (r : SReach spinSync false s) (t : Tid) (b : Bool)
    (free : ∀ u, ¬ s.holds u) (st : SStep spinSync false s (.try_ t b) s') : b = true ∧ s'.holds t :=
  spin_try_free spinSync_good r t b free st

/-- … and it returns FALSE exactly when somebody holds the lock -/
theorem trylock_false_iff_held_c11 {s s' : SState} (r : SReach spinC11 false s) (t : Tid) (b : Bool)
    (st : SStep spinC11 false s (.try_ t b) s') : b = false ↔ ∃ u, s.holds u :=
  spin_try_false_iff_held spinC11_good r t b st

theorem trylock_false_iff_held_sync {s s' : SState} (r : SReach spinSync false s) (t : Tid) (b : Bool)
    (st : SStep spinSync false s (.try_ t b) s') : b = false ↔ ∃ u, s.holds u :=
  spin_try_false_iff_held spinSync_good r t b st

/-- posix: on a free native mutex, a trylock whose native call reports nothing but 0 / EBUSY (the only
    results POSIX allows for a valid, non-recursive mutex) returns TRUE and the caller holds -/
theorem trylock_succeeds_when_free_posix {s s' : MState} (t : Tid) (c : Int) (b : Bool) (free : s.owner = none)
    (valid : c = 0 ∨ c = EBUSY) (st : MStep EBUSY mutexPosix s (.try_ t c b) s') : b = true ∧ s'.holds t :=
  mutex_try_free mutexPosix_good t c b free valid st

/-! ## 3. the spin loop is left only through a successful CAS -/

/-- in any step that takes thread `t` from "spinning inside p_spinlock_lock" to "lock returned", the step
    is t's compare-and-swap, it succeeded, and it changed the word from 0 to 1.
    (Proved from `spinC11_good.loop`: the generated loop repeats while the result is FALSE; with the
    condition inverted this statement is false, see `inverted_loop_breaks_exclusion`.) -/
theorem lock_returns_only_after_cas_ok_c11 {rogue : Bool} {s s' : SState} {l : Lbl} (t : Tid)
    (st : SStep spinC11 rogue s l s') (h0 : s.pc t = .spin) (h1 : s'.holds t) :
    l = .cas t true ∧ s.word = 0#32 ∧ s'.word = 1#32 :=
  spin_exit_only_by_cas_ok spinC11_good t st h0 h1

theorem lock_returns_only_after_cas_ok_sync {rogue : Bool} {s s' : SState} {l : Lbl} (t : Tid)
    (st : SStep spinSync rogue s l s') (h0 : s.pc t = .spin) (h1 : s'.holds t) :
    l = .cas t true ∧ s.word = 0#32 ∧ s'.word = 1#32 :=
  spin_exit_only_by_cas_ok spinSync_good t st h0 h1

/-- posix: `p_mutex_lock` returns TRUE only for native code 0, i.e. only when the native mutex was acquired -/
theorem lock_true_only_when_acquired_posix {s s' : MState} (t : Tid) (c : Int)
    (st : MStep EBUSY mutexPosix s (.lock t c true) s') : c = 0 ∧ s.owner = none ∧ s'.owner = some t :=
  mutex_lock_true mutexPosix_good st rfl

/-! ## 4. visibility -/

/-- every successful acquisition (spin-loop CAS or trylock) reads the value written by the most recent
    unlock store — or the initial zero for the very first one; never the value of another acquisition.
    This is the reads-from edge `rel k → acq (k+1)` of the happens-before model. -/
theorem next_acquire_reads_last_release_c11 {s s' : SState} {lw : Option Lbl} {l : Lbl} (r : SReachG spinC11 s lw)
    (st : SStep spinC11 false s l s') (hl : (∃ t, l = .cas t true) ∨ (∃ t, l = .try_ t true)) :
    lw = none ∨ ∃ u, lw = some (.unlock u) :=
  acquire_reads_release spinC11_good r st hl

theorem next_acquire_reads_last_release_sync {s s' : SState} {lw : Option Lbl} {l : Lbl} (r : SReachG spinSync s lw)
    (st : SStep spinSync false s l s') (hl : (∃ t, l = .cas t true) ∨ (∃ t, l = .try_ t true)) :
    lw = none ∨ ∃ u, lw = some (.unlock u) :=
  acquire_reads_release spinSync_good r st hl

/-- If the unlock store is release-or-stronger and the successful CAS acquire-or-stronger, every access of
    critical section k happens-before every access of critical section k+1. -/
theorem cs_ordered (relOk acqOk : Bool) (hr : relOk = true) (ha : acqOk = true) (k i j : Nat) :
    HB relOk acqOk (.body k i) (.body (k + 1) j) :=
  .trans (.po_body_rel k i) (.trans (.sw k hr ha) (.po_acq_body (k + 1) j))

/-- … and by transitivity before every access of every later critical section -/
theorem cs_ordered_later (relOk acqOk : Bool) (hr : relOk = true) (ha : acqOk = true) (k d i j : Nat) :
    HB relOk acqOk (.body k i) (.body (k + 1 + d) j) := by
  induction d generalizing j with
  | zero => exact cs_ordered relOk acqOk hr ha k i j
  | succ d ih => exact .trans (ih 0) (cs_ordered relOk acqOk hr ha (k + 1 + d) 0 j)

/-- the premise is necessary: if the unlock store is *not* a release, nothing orders two different
    critical sections in this model -/
theorem cs_unordered_without_release (acqOk : Bool) {a b : Ev} (h : HB false acqOk a b) : evCs a = evCs b := by
  induction h with
  | po_acq_body => rfl
  | po_body_body => rfl
  | po_body_rel => rfl
  | po_acq_rel => rfl
  | sw k hr _ => cases hr
  | trans _ _ ih1 ih2 => exact ih1.trans ih2

/-- c11: `__atomic_store (…, __ATOMIC_RELEASE)` and CAS with success order `__ATOMIC_ACQUIRE`
    (both read off the generated record, for lock and trylock) -/
theorem cs_ordered_c11 (k i j : Nat) :
    HB (relOK .c11 spinC11.unlock) (acqOK spinC11.lockCas && acqOK spinC11.tryCas) (.body k i) (.body (k + 1) j) :=
  cs_ordered _ _ (by decide) (by decide) k i j

/-- sync: the CAS is a `__sync_*` full barrier.  The unlock is a plain (volatile) store *followed* by
    `__sync_synchronize ()`.  Under x86-TSO (the platform of the trusted base: stores are not reordered with
    earlier loads / stores) that store is a release and the barrier makes it globally visible before the
    function returns.  NOTE: under the portable C11 model the same record is **not** a release
    (`relOK .c11 spinSync.unlock = false`: the barrier is on the wrong side of the store), which is reported
    as a suspected portability defect by the check (see tools/props/c01.py) and deliberately *not* stated as
    a theorem here (a theorem that is true because of a defect would break when the defect is fixed). -/
theorem cs_ordered_sync_tso (k i j : Nat) :
    HB (relOK .tso spinSync.unlock) (acqOK spinSync.lockCas && acqOK spinSync.tryCas) (.body k i) (.body (k + 1) j) :=
  cs_ordered _ _ (by decide) (by decide) k i j

/-- posix / sim: POSIX (XBD 4.12) lists `pthread_mutex_lock / trylock / unlock` among the functions that
    synchronise memory: the unlock is a release, the next successful lock an acquire (trusted).  With that
    contract the ordering is the same instance of `cs_ordered`. -/
theorem cs_ordered_posix (k i j : Nat) : HB true true (.body k i) (.body (k + 1) j) :=
  cs_ordered true true rfl rfl k i j

/-! ## non-vacuity -/

/-- three threads: 0 holds (by lock), 1 spins, 2 is idle after a failed trylock -/
example : ∃ s, SReach spinC11 false s ∧ s.holds 0 ∧ s.pc 1 = .spin ∧ s.pc 2 = .idle ∧ s.word = 1#32 := by
  have r0 : SReach spinC11 false sInit := .init
  have r1 := SReach.step r0 (SStep.callLock sInit 0 rfl)
  have r2 := SReach.step r1 (SStep.callLock _ 1 (by simp [upd, sInit]))
  have r3 := SReach.step r2 (SStep.cas _ 0 1#32 true (by simp [upd]) (by decide))
  have r4 := SReach.step r3 (SStep.cas _ 1 1#32 false (by simp [upd]) (by decide))
  have r5 := SReach.step r4 (SStep.try_ _ 2 1#32 false (by simp [upd, sInit]) (by decide))
  exact ⟨_, r5, by simp [SState.holds, upd, afterCas, spinC11], by simp [upd, afterCas, spinC11],
    by simp [upd], rfl⟩

/-- the sync machine: lock, unlock, lock again by another thread -/
example : ∃ s, SReach spinSync false s ∧ s.holds 1 ∧ ¬ s.holds 0 := by
  have r0 : SReach spinSync false sInit := .init
  have r1 := SReach.step r0 (SStep.try_ sInit 0 1#32 true rfl (by decide))
  have r2 := SReach.step r1 (SStep.unlock _ 0 0#32 (by simp [upd]) (by decide))
  have r3 := SReach.step r2 (SStep.try_ _ 1 1#32 true (by simp [upd, sInit]) (by decide))
  exact ⟨_, r3, by simp [SState.holds, upd], by simp [SState.holds, upd]⟩

/-- the posix machine: thread 0 owns, thread 1's trylock gets EBUSY and FALSE -/
example : ∃ s, MReach EBUSY mutexPosix s ∧ s.holds 0 ∧ ¬ s.holds 1 ∧ s.owner = some 0 := by
  have r0 : MReach EBUSY mutexPosix mInit := .init
  have r1 := MReach.step r0 (MStep.lock mInit 0 0 (some 0) .lock rfl mutexPosix_good.lockNative (Native.lockAcquire 0))
  have r2 := MReach.step r1 (MStep.try_ _ 1 EBUSY (some 0) .trylock (by simp [upd, mInit]) mutexPosix_good.tryNative (Native.tryBusy 0 1))
  exact ⟨_, r2, by simp [MState.holds, upd, mutexPosix, MutexFn.ret], by simp [MState.holds, upd, mutexPosix, MutexFn.ret, EBUSY], rfl⟩

/-- two objects: thread 0 holds object 0 and object 1 at once, thread 1's trylock on object 0 fails while
    object 2 is still free -/
example : ∃ f, PSReach spinC11 f ∧ (f 0).holds 0 ∧ (f 1).holds 0 ∧ ¬ (f 0).holds 1 ∧ (f 2).word = 0#32 := by
  have r0 : PSReach spinC11 (fun _ => sInit) := .init
  have r1 := PSReach.step r0 (PSStep.on _ 0 _ _ (SStep.try_ sInit 0 1#32 true rfl (by decide)))
  have r2 := PSReach.step r1 (PSStep.on _ 1 _ _ (SStep.try_ sInit 0 1#32 true rfl (by decide)))
  have r3 := PSReach.step r2 (PSStep.on _ 0 _ _ (SStep.try_ ⟨1#32, upd sInit.pc 0 .held⟩ 1 1#32 false (by simp [upd, sInit]) (by decide)))
  refine ⟨_, r3, ?_, ?_, ?_, ?_⟩ <;> simp [updObj, SState.holds, upd, sInit]

/-- happens-before relates something and, without release, does not relate different sections -/
example : HB true true (.body 0 3) (.body 2 0) := cs_ordered_later true true rfl rfl 0 1 3 0
example : ¬ HB false true (.body 0 0) (.body 1 0) := fun h => by
  have := cs_unordered_without_release true h; simp [evCs] at this

end PV.C01
