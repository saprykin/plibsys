import PV.Model.Sleep
/-!
# C19 — blocking calls are transparent to signal interruptions (sleep part)

`p_uthread_sleep`: for EVERY number of interruptions, every remaining-time value the kernel may
report and every value `errno` happens to hold, the call returns 0, re-issues the native sleep with
exactly the remaining time each time, and the time slept adds up to the request.

The semaphore / shared-memory / socket parts of C19 are the `*_eintr_transparent` theorems of
`PV.Props.C06`, `PV.Props.C07`, `PV.Props.C09`.
-/
namespace PV.Sleep
open PV.Generated

/-- the kernel never reports more remaining time than was requested -/
def Chain : Nat → List Nat → Prop
  | _, [] => True
  | req, r :: rs => r ≤ req ∧ Chain r rs

def script (rems : List Nat) : List Native := rems.map .intr ++ [.ok]

def reqOf (msec : Nat) : Nat := (msec % 1000) * 1000000 + (msec / 1000) * 1000000000

theorem reqOf_eq (msec : Nat) : reqOf msec = msec * 1000000 := by
  unfold reqOf; omega

private def cfg : Cfg := { usesClockNanosleep := sleepUsesClockNanosleep, testsReturnValue := sleepTestsReturnValue }

/-- the path compiled here tests the value the native call returned, whatever `errno` holds -/
private theorem looksInterrupted_cfg (e code : Int) : looksInterrupted cfg e code = (code == EINTR) := rfl

private theorem loop_intrs (e : Int) (req : Nat) (rems : List Nat) (acc : List Nat) :
    loop cfg e req (script rems) acc = { ret := 0, calls := acc.reverse ++ req :: rems } := by
  induction rems generalizing req acc with
  | nil => simp [script, loop]
  | cons r rs ih =>
    have := ih r (req :: acc)
    simp only [script, List.map_cons, List.cons_append, loop, looksInterrupted_cfg] at *
    rw [this]
    simp

/-- **Transparency.**  Any number of handled signals: returns 0, and the native call is re-issued
    with exactly the remaining time reported by the kernel each time. -/
theorem sleep_transparent (ambientErrno : Int) (msec : Nat) (rems : List Nat) :
    sleep ambientErrno msec (script rems) = { ret := 0, calls := reqOf msec :: rems } :=
  loop_intrs ambientErrno (reqOf msec) rems []

private theorem slept_chain (req : Nat) (rems : List Nat) (h : Chain req rems) :
    slept (req :: rems) (script rems) = req := by
  induction rems generalizing req with
  | nil => rfl
  | cons r rs ih =>
    have := ih r h.2
    simp only [script, List.map_cons, List.cons_append, slept] at *
    rw [this]
    exact Nat.sub_add_cancel h.1

/-- … and the intervals slept add up to the whole request (kernel contract: an interrupted call
    slept `requested − remaining`). -/
theorem sleep_total_elapsed (ambientErrno : Int) (msec : Nat) (rems : List Nat) (h : Chain (reqOf msec) rems) :
    slept (sleep ambientErrno msec (script rems)).calls (script rems) = msec * 1000000 := by
  rw [sleep_transparent, slept_chain _ _ h, reqOf_eq]

/-- a genuine error (any code other than EINTR) is reported, at once -/
theorem sleep_hard_error (ambientErrno : Int) (msec : Nat) (code : Int) (hc : code ≠ EINTR) (rest : List Native) :
    (sleep ambientErrno msec (.err code :: rest)).ret = -1 := by
  change (loop cfg ..).ret = -1
  rw [loop, looksInterrupted_cfg, beq_false_of_ne hc]
  rfl

/-- the result never depends on what `errno` happened to contain -/
theorem sleep_ignores_ambient_errno (e1 e2 : Int) (msec : Nat) (s : List Native) :
    sleep e1 msec s = sleep e2 msec s := by
  change loop cfg e1 (reqOf msec) s [] = loop cfg e2 (reqOf msec) s []
  generalize reqOf msec = req
  generalize ([] : List Nat) = acc
  induction s generalizing req acc with
  | nil => rfl
  | cons x xs ih =>
    cases x <;> simp only [loop, looksInterrupted_cfg, ih]
    all_goals rfl

/-! non-vacuity: three interruptions of a 300 ms sleep -/
example : Chain (reqOf 300) [280000000, 100000000, 5] := by simp [Chain, reqOf]
example : (sleep 0 300 (script [280000000, 100000000, 5])).ret = 0 := by
  rw [sleep_transparent]

end PV.Sleep
