import PV.Props.C17
import PV.Lemmas.Inet6Text
/-! # C17 — the text round trip without a platform hypothesis, relative to a model of glibc

`PV.Props.C17.text_roundtrip_v6` is about any `Platform` and carries the platform contract
`pton6 (ntop6 a) = some a` (with its companions) as hypotheses.  `PV.Model.Inet6Text` is an executable model
of glibc's `inet_ntop (AF_INET6)`, `inet_pton (AF_INET6)` and numeric `getaddrinfo`, written after glibc's
sources; the theorems here discharge those hypotheses for that model, for all 2^128 addresses, so that the
corollary `text_round_trip_v6_glibc_model` has no hypothesis left.  What remains trusted is that the model is
what the platform does: the differential compares the model's text / parse result with the real
`inet_ntop` / `inet_pton` / `getaddrinfo` on every address and string of the C17 generators (ops `ntop6`,
`ntop4`, `pton` of the sockaddr protocol); a difference is a correspondence break of that model. -/
namespace PV.Props.C17text
open PV.SockAddr PV.Generated

/-- one group: the loop of `inet_pton6` reads the digits `"%x"` prints as the group's value (1..4 digits) -/
theorem hex_group_read_back (w : Nat) (hw : w < 65536) (rest acc : List UInt8) (colon : Option Nat) (tok : List UInt8) :
    go6 (hexG w ++ rest) ⟨acc, colon, 0, 0, tok⟩ = go6 rest ⟨acc, colon, (hexG w).length, w, tok⟩ ∧
    1 ≤ (hexG w).length ∧ (hexG w).length ≤ 4 :=
  ⟨go6_hexG w hw rest acc colon tok, hexG_length w⟩

example : hexG 0 = [48] ∧ hexG 0xa0 = [97, 48] ∧ hexG 0xffff = [102, 102, 102, 102] ∧ hexG 0x102 = [49, 48, 50] := by decide

/-- IPv4: parsing the printed text gives the address back, for all 2^32 addresses -/
theorem pton4_ntop4 (a : Vector UInt8 4) : pton4 (ntop4 a) = some a := PV.SockAddr.pton4_ntop4 a

example : pton4 (ntop4 #v[10, 0, 200, 9]) = some #v[10, 0, 200, 9] ∧ ntop4 #v[10, 0, 200, 9] = [49, 48, 46, 48, 46, 50, 48, 48, 46, 57] := by
  decide

/-- IPv6: parsing the printed text gives the address back, for all 2^128 addresses — whatever run is
    compressed, with and without the dotted tail -/
theorem pton6_ntop6 (a : Vector UInt8 16) : pton6 (ntop6 a) = some a := PV.SockAddr.pton6_ntop6 a

-- "2001:db8::1" in both directions
example : ntop6 #v[0x20, 0x01, 0x0d, 0xb8, 0, 0, 0, 0, 0, 0, 0, 0, 0, 0, 0, 1] = [50, 48, 48, 49, 58, 100, 98, 56, 58, 58, 49] ∧
    pton6 [50, 48, 48, 49, 58, 100, 98, 56, 58, 58, 49] = some #v[0x20, 0x01, 0x0d, 0xb8, 0, 0, 0, 0, 0, 0, 0, 0, 0, 0, 0, 1] := by
  decide +kernel

-- the formatting rules on concrete addresses: "::", "::1", "::1.2.3.4", "::ffff:1.2.3.4"; a single zero group is not
-- compressed ("1:0:2:3:4:5:6:7"); of two runs of equal length the first is ("1::2:3:0:0:4"); the longest wins ("1:0:0:2::3")
example : ntop6 #v[0, 0, 0, 0, 0, 0, 0, 0, 0, 0, 0, 0, 0, 0, 0, 0] = [58, 58] ∧
    ntop6 #v[0, 0, 0, 0, 0, 0, 0, 0, 0, 0, 0, 0, 0, 0, 0, 1] = [58, 58, 49] ∧
    ntop6 #v[0, 0, 0, 0, 0, 0, 0, 0, 0, 0, 0, 0, 1, 2, 3, 4] = [58, 58, 49, 46, 50, 46, 51, 46, 52] ∧
    ntop6 #v[0, 0, 0, 0, 0, 0, 0, 0, 0, 0, 255, 255, 1, 2, 3, 4] = [58, 58, 102, 102, 102, 102, 58, 49, 46, 50, 46, 51, 46, 52] ∧
    ntop6 #v[0, 1, 0, 0, 0, 2, 0, 3, 0, 4, 0, 5, 0, 6, 0, 7] = [49, 58, 48, 58, 50, 58, 51, 58, 52, 58, 53, 58, 54, 58, 55] ∧
    ntop6 #v[0, 1, 0, 0, 0, 0, 0, 2, 0, 3, 0, 0, 0, 0, 0, 4] = [49, 58, 58, 50, 58, 51, 58, 48, 58, 48, 58, 52] ∧
    ntop6 #v[0, 1, 0, 0, 0, 0, 0, 2, 0, 0, 0, 0, 0, 0, 0, 3] = [49, 58, 48, 58, 48, 58, 50, 58, 58, 51] := by
  decide +kernel

-- what the parser refuses: "1::2::3", "12345::", "1:2:3:4:5:6:7:8:9", "1:2:3:4:5:6:7:", "", ":::", "::01.2.3.4",
-- "1:2:3:4:5:6:7:8::"; and accepts: upper case "::ABCD", "1:2:3:4:5:6:1.2.3.4"
example : pton6 [49, 58, 58, 50, 58, 58, 51] = none ∧ pton6 [49, 50, 51, 52, 53, 58, 58] = none ∧
    pton6 [49, 58, 50, 58, 51, 58, 52, 58, 53, 58, 54, 58, 55, 58, 56, 58, 57] = none ∧
    pton6 [49, 58, 50, 58, 51, 58, 52, 58, 53, 58, 54, 58, 55, 58] = none ∧ pton6 [] = none ∧ pton6 [58, 58, 58] = none ∧
    pton6 [58, 58, 48, 49, 46, 50, 46, 51, 46, 52] = none ∧
    pton6 [49, 58, 50, 58, 51, 58, 52, 58, 53, 58, 54, 58, 55, 58, 56, 58, 58] = none ∧
    pton6 [58, 58, 65, 66, 67, 68] = some #v[0, 0, 0, 0, 0, 0, 0, 0, 0, 0, 0, 0, 0, 0, 0xab, 0xcd] ∧
    pton6 [49, 58, 50, 58, 51, 58, 52, 58, 53, 58, 54, 58, 49, 46, 50, 46, 51, 46, 52] =
      some #v[0, 1, 0, 2, 0, 3, 0, 4, 0, 5, 0, 6, 1, 2, 3, 4] := by
  decide +kernel

/-- the text of an IPv6 address always has a ':' (so `p_socket_address_new` sends it to `getaddrinfo`), and
    `inet_pton (AF_INET)` takes no string with a ':' -/
theorem v6_text_is_not_v4 (a : Vector UInt8 16) : (ntop6 a).contains 58 = true ∧ pton4 (ntop6 a) = none :=
  ⟨ntop6_has_colon a, pton4_colon _ (by simpa using ntop6_has_colon a)⟩

/-- **the IPv6 text round trip through the library with glibc's functions as modelled**: no platform hypothesis.
    (Flow info and scope id are not part of the text; they come back 0.) -/
theorem text_round_trip_v6_glibc_model (a : Vector UInt8 16) (p : UInt16) (f s : UInt32) :
    new glibcModel (getAddress glibcModel (.v6 a p f s)) p = .ok (some (.v6 a p 0 0)) := by
  -- the fields of `glibcModel` are projected out first: left to `exact`, the unifier unfolds `pton4` and `pton6` instead
  apply PV.Props.C17.text_roundtrip_v6 glibcModel a p f s <;> dsimp only [glibcModel]
  · exact PV.SockAddr.pton6_ntop6 a
  · exact (v6_text_is_not_v4 a).2
  · intro x hx hc
    exact ⟨0, by rw [gaiNumeric, if_pos hc, hx]⟩

/-- the IPv4 text round trip through the library with the same platform model -/
theorem text_round_trip_v4_glibc_model (a : Vector UInt8 4) (p : UInt16) :
    new glibcModel (getAddress glibcModel (.v4 a p)) p = .ok (some (.v4 a p)) :=
  PV.Props.C17.text_roundtrip_v4_lib glibcModel rfl rfl a p

-- fe80::1 port 443 (flow 7, scope 3) and 192.168.0.1 port 80 through text and back
example : new glibcModel (getAddress glibcModel (.v6 #v[0xfe, 0x80, 0, 0, 0, 0, 0, 0, 0, 0, 0, 0, 0, 0, 0, 1] 443 7 3)) 443 =
    .ok (some (.v6 #v[0xfe, 0x80, 0, 0, 0, 0, 0, 0, 0, 0, 0, 0, 0, 0, 0, 1] 443 0 0)) :=
  text_round_trip_v6_glibc_model _ _ _ _

example : getAddress glibcModel (.v6 #v[0xfe, 0x80, 0, 0, 0, 0, 0, 0, 0, 0, 0, 0, 0, 0, 0, 1] 443 7 3) = [102, 101, 56, 48, 58, 58, 49] ∧
    new glibcModel [102, 101, 56, 48, 58, 58, 49] 443 = .ok (some (.v6 #v[0xfe, 0x80, 0, 0, 0, 0, 0, 0, 0, 0, 0, 0, 0, 0, 0, 1] 443 0 0)) ∧
    new glibcModel [49, 57, 50, 46, 49, 54, 56, 46, 48, 46, 49] 80 = .ok (some (.v4 #v[192, 168, 0, 1] 80)) := by
  decide +kernel

end PV.Props.C17text
