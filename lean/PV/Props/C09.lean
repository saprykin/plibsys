import PV.Lemmas.SocketCalls
import PV.Lemmas.SocketIntegrity
/-!
# C09 — Sockets deliver data intact despite retries

All theorems are about the model `PV.Model.Socket` of `psocket.c` (tied to the C code by the
scripted differential runs of `tools/props/c09.py`) and hold for **every** script of native results.
-/
namespace PV.Socket
open PV.Generated.Socket

/-! ## 1. EINTR / would-block transparency (blocking mode) -/

/-- `p_socket_receive`, blocking: the result on any script equals the result on the script with every
    `poll → EINTR` and every `poll → 1, recv → EINTR | EAGAIN` round removed. -/
theorem eintr_eagain_transparent_receive (s : Sock) (hb : s.blocking = true) (bufNull : Bool) (buflen : Nat)
    (script : Script) (e : Int) :
    seen (call s (.receive bufNull buflen) script e) =
    seen (call s (.receive bufNull buflen) (dropRetries .recv script e).1 (dropRetries .recv script e).2) := by
  rw [seen_call, seen_call]
  simp only [callM]
  rw [bind_pure_val, bind_pure_val]
  congr 1
  unfold receive
  cases bufNull with
  | true => rfl
  | false =>
    simp only [Bool.false_eq_true, if_false]
    cases hc : check s with
    | some pe => rfl
    | none =>
      simp only []
      exact bind_val_congr _ _ _ _ _ (loop_call_transparent s hb _ (recvCall s buflen) _ script e)

/-- `p_socket_receive_from`, blocking -/
theorem eintr_eagain_transparent_receive_from (s : Sock) (hb : s.blocking = true) (wantAddr bufNull : Bool) (buflen : Nat)
    (script : Script) (e : Int) :
    seen (call s (.receiveFrom wantAddr bufNull buflen) script e) =
    seen (call s (.receiveFrom wantAddr bufNull buflen) (dropRetries .recvfrom script e).1 (dropRetries .recvfrom script e).2) := by
  rw [seen_call, seen_call]
  simp only [callM]
  rw [bind_pure_val, bind_pure_val]
  congr 1
  unfold receiveFrom
  by_cases h0 : bufNull = true ∨ buflen = 0
  · simp only [h0, if_true]; rfl
  · simp only [h0, if_false]
    cases hc : check s with
    | some pe => rfl
    | none =>
      simp only []
      exact bind_val_congr _ _ _ _ _ (loop_call_transparent s hb _ (recvfromCall s buflen) _ script e)

/-- `p_socket_send`, blocking -/
theorem eintr_eagain_transparent_send (s : Sock) (hb : s.blocking = true) (buf : Option Bytes) (buflen : Nat)
    (script : Script) (e : Int) :
    seen (call s (.send buf buflen) script e) =
    seen (call s (.send buf buflen) (dropRetries .send script e).1 (dropRetries .send script e).2) := by
  rw [seen_call, seen_call]
  simp only [callM]
  rw [bind_pure_val, bind_pure_val]
  congr 1
  unfold send
  cases buf with
  | none => rfl
  | some b =>
    simp only []
    by_cases h0 : buflen = 0
    · simp only [h0, if_true]; rfl
    · simp only [h0, if_false]
      cases hc : check s with
      | some pe => rfl
      | none =>
        simp only []
        exact bind_val_congr _ _ _ _ _ (loop_call_transparent s hb _ (sendCall s b buflen) _ script e)

/-- `p_socket_send_to`, blocking -/
theorem eintr_eagain_transparent_send_to (s : Sock) (hb : s.blocking = true) (addr : Addr) (buf : Option Bytes) (buflen : Nat)
    (script : Script) (e : Int) :
    seen (call s (.sendTo addr buf buflen) script e) =
    seen (call s (.sendTo addr buf buflen) (dropRetries .sendto script e).1 (dropRetries .sendto script e).2) := by
  rw [seen_call, seen_call]
  simp only [callM]
  rw [bind_pure_val, bind_pure_val]
  congr 1
  unfold sendTo
  cases addr with
  | null => rfl
  | bad =>
    cases buf with
    | none => rfl
    | some b => simp only []; cases hc : check s <;> rfl
  | native sa =>
    cases buf with
    | none => rfl
    | some b =>
      simp only []
      cases hc : check s with
      | some pe => rfl
      | none =>
        simp only []
        exact bind_val_congr _ _ _ _ _ (loop_call_transparent s hb _ (sendtoCall s sa b buflen) _ script e)

/-- `p_socket_accept`, blocking (everything after the loop — FD_CLOEXEC, `p_socket_new_from_fd` — runs on
    the same remaining script with the same `errno`, hence gives the same socket object or the same error) -/
theorem eintr_eagain_transparent_accept (s : Sock) (hb : s.blocking = true) (script : Script) (e : Int) :
    seen (call s .accept script e) =
    seen (call s .accept (dropRetries .accept script e).1 (dropRetries .accept script e).2) := by
  rw [seen_call, seen_call]
  simp only [callM]
  rw [bind_pure_val, bind_pure_val]
  congr 1
  unfold accept
  cases hc : check s with
  | some pe => rfl
  | none =>
    simp only []
    exact bind_val_congr _ _ _ _ _ (loop_call_transparent s hb _ (.accept s.fd) _ script e)

/-- `p_socket_io_condition_wait` (any mode: it always waits): `poll → EINTR` results are invisible -/
theorem eintr_eagain_transparent_io_condition_wait (s : Sock) (cond : Int) (script : Script) (e : Int) :
    seen (call s (.ioWait cond) script e) =
    seen (call s (.ioWait cond) (dropPollEintr script e).1 (dropPollEintr script e).2) := by
  rw [seen_call, seen_call]
  simp only [callM]
  unfold ioWait
  cases hc : check s with
  | some pe => rfl
  | none =>
    simp only []
    apply bind_val_congr
    apply bind_full_congr
    apply liftLoop_full
    exact pollLoop_dropPollEintr _ script e

/-- `p_socket_connect`, any mode: `connect → EINTR` is answered by calling `connect` again; the result
    equals the result on the script with those answers removed -/
theorem eintr_eagain_transparent_connect (s : Sock) (addr : Addr) (script : Script) (e : Int) :
    seen (call s (.connect addr) script e) =
    seen (call s (.connect addr) (dropConnEintr script e).1 (dropConnEintr script e).2) := by
  rw [seen_call, seen_call]
  simp only [callM]
  unfold connect
  cases addr with
  | null => rfl
  | bad => cases hc : check s <;> rfl
  | native sa =>
    simp only []
    cases hc : check s with
    | some pe => rfl
    | none =>
      simp only []
      apply bind_val_congr
      apply liftLoop_full
      exact connLoop_dropConnEintr _ script e

/-- what is compared when `errno` may differ: the object, the return value and the error up to a stale native code -/
def sameUpToStaleErrno (a b : Except Stop CallResult) : Prop :=
  match a, b with
  | .error x, .error y => x = y
  | .ok x, .ok y =>
    x.sock = y.sock ∧ x.out.ret = y.out.ret ∧
    (match x.out.err, y.out.err with
      | none, none => True
      | some p, some q => p.eqv q
      | _, _ => False)
  | _, _ => False

/-- … and, in the blocking wait that follows an in-progress `connect`, `poll → EINTR` answers are
    invisible too (`connectAfter` is the part of `p_socket_connect` behind its `connect()` loop, see
    `connect_blocking`).  Here `errno` cannot be handed over in the middle of the script, so the
    comparison is up to the stale native code of the time-out error. -/
theorem eintr_eagain_transparent_connect_wait (s : Sock) (r : Res) (evs : List Ev) (rest : Script) (errno : Int) :
    sameUpToStaleErrno (connectAfter s r evs rest errno) (connectAfter s r evs (dropPollEintr rest errno).1 errno) := by
  unfold connectAfter
  by_cases h0 : r.ret = .ok 0
  · simp [h0, sameUpToStaleErrno]
  · simp only [h0, if_false]
    by_cases hw : ioFromSystem errno = P_ERROR_IO_WOULD_BLOCK ∨ ioFromSystem errno = P_ERROR_IO_IN_PROGRESS
    · simp only [hw, if_true]
      cases hb : s.blocking with
      | false => simp [sameUpToStaleErrno, failOut, PErr.eqv_refl]
      | true =>
        simp only [if_true]
        have h1 := pollLoop_dropPollEintr (pollCall s P_SOCKET_IO_CONDITION_POLLOUT) rest errno
        have h2 := pollLoop_errno (pollCall s P_SOCKET_IO_CONDITION_POLLOUT) (dropPollEintr rest errno).1 (dropPollEintr rest errno).2 errno
        simp only [LoopR.obs, Prod.mk.injEq] at h1
        obtain ⟨h1f, h1r, _⟩ := h1
        obtain ⟨h2f, h2r, _⟩ := h2
        rw [← h1f] at h2f
        rw [← h1r] at h2r
        generalize pollLoop (pollCall s P_SOCKET_IO_CONDITION_POLLOUT) rest errno = P at h2f h2r ⊢
        generalize pollLoop (pollCall s P_SOCKET_IO_CONDITION_POLLOUT) (dropPollEintr rest errno).1 errno = Q at h2f h2r ⊢
        cases hp : P.fin <;> cases hq : Q.fin <;> simp only [hp, hq, LoopEnd.eqv] at h2f ⊢
        · subst h2f
          rw [← h2r]
          cases P.rest with
          | nil => simp [sameUpToStaleErrno]
          | cons g rest' =>
            simp only []
            by_cases hs : g.sys ≠ .getsockopt
            · simp [hs, sameUpToStaleErrno]
            · simp only [hs, if_false]
              cases g.ret with
              | err x => simp [sameUpToStaleErrno, failOut, PErr.eqv_refl]
              | ok v => by_cases hv : g.val = 0 <;> simp [hv, sameUpToStaleErrno, failOut, PErr.eqv_refl]
        · simp [sameUpToStaleErrno, failOut, h2f]
        · simp [sameUpToStaleErrno, h2f]
    · simp [hw, sameUpToStaleErrno, failOut, PErr.eqv_refl]

set_option linter.unusedVariables false in
/-- after `dropRetries` nothing is left to retry: on the reduced script the loop of a blocking data
    call makes at most one `poll` and one data call (so the equalities above really compare with a
    retry-free run).  `hb` says which mode the statement is about; the bound itself holds in either. -/
theorem dropRetries_leaves_no_retry (c : LoopCfg) (hb : c.blocking = true) (script : Script) (e : Int) :
    (ioLoop c .wait (dropRetries c.call.sys script e).1 (dropRetries c.call.sys script e).2).evs.length ≤ 2 :=
  ioLoop_dropRetries_once c script e

/-- …and `p_socket_io_condition_wait` on the reduced script makes at most one `poll` -/
theorem dropPollEintr_leaves_no_retry (call : Issued) (script : Script) (e : Int) :
    (pollLoop call (dropPollEintr script e).1 (dropPollEintr script e).2).evs.length ≤ 1 :=
  pollLoop_dropPollEintr_once call script e

/-! ### "in particular the outcome is never an error whose native code is EINTR / EAGAIN"

The full statement is **false of the code**: `p_socket_io_condition_wait` builds its time-out error
with `p_error_get_last_net ()`, i.e. with whatever `errno` holds when `poll` returned 0 — after an
interrupted `poll` that is EINTR.  Witness below (`timed_out_error_carries_stale_EINTR`).  What holds:
unless the native code is such a stale `errno` (`PErr.stale`), it is never EINTR, and a would-block
code is never that of the data call. -/

/- full-strength statement (false):
theorem never_eintr_eagain_receive (s : Sock) (hb : s.blocking = true) (hc : s.closed = false) (n : Nat) (script e r pe)
    (h : call s (.receive false n) script e = .ok r) (he : r.out.err = some pe) :
    pe.native ≠ EINTR ∧ pe.native ≠ EAGAIN -/

theorem never_eintr_eagain_receive_partial (s : Sock) (hb : s.blocking = true) (hc : s.closed = false) (n : Nat)
    (script : Script) (e : Int) (r : CallResult) (pe : PErr)
    (h : call s (.receive false n) script e = .ok r) (he : r.out.err = some pe) (hst : pe.stale = false) :
    pe.native ≠ EINTR ∧ (pe.native = EAGAIN → pe.msg = msgPollFailed) := by
  rw [receive_eq s hc] at h
  obtain ⟨hf, _⟩ := ofLoop_ok_err _ _ _ _ _ pe (by intro x; rfl) h he
  obtain ⟨h1, h2⟩ := ioLoop_fail_native _ _ _ _ _ hf hst
  exact ⟨h1, fun h => h2 (by simp [recvCfg, loopCfg, hb]) (by rw [h]; exact io_EAGAIN)⟩

theorem never_eintr_eagain_send_partial (s : Sock) (hb : s.blocking = true) (hc : s.closed = false) (b : Bytes) (n : Nat)
    (hn : n ≠ 0) (script : Script) (e : Int) (r : CallResult) (pe : PErr)
    (h : call s (.send (some b) n) script e = .ok r) (he : r.out.err = some pe) (hst : pe.stale = false) :
    pe.native ≠ EINTR ∧ (pe.native = EAGAIN → pe.msg = msgPollFailed) := by
  rw [send_eq s hc b n hn] at h
  obtain ⟨hf, _⟩ := ofLoop_ok_err _ _ _ _ _ pe (by intro x; rfl) h he
  obtain ⟨h1, h2⟩ := ioLoop_fail_native _ _ _ _ _ hf hst
  exact ⟨h1, fun h => h2 (by simp [sendCfg, loopCfg, hb]) (by rw [h]; exact io_EAGAIN)⟩

theorem never_eintr_eagain_send_to_partial (s : Sock) (hb : s.blocking = true) (hc : s.closed = false) (sa b : Bytes) (n : Nat)
    (script : Script) (e : Int) (r : CallResult) (pe : PErr)
    (h : call s (.sendTo (.native sa) (some b) n) script e = .ok r) (he : r.out.err = some pe) (hst : pe.stale = false) :
    pe.native ≠ EINTR ∧ (pe.native = EAGAIN → pe.msg = msgPollFailed) := by
  rw [sendTo_eq s hc] at h
  obtain ⟨hf, _⟩ := ofLoop_ok_err _ _ _ _ _ pe (by intro x; rfl) h he
  obtain ⟨h1, h2⟩ := ioLoop_fail_native _ _ _ _ _ hf hst
  exact ⟨h1, fun h => h2 (by simp [sendtoCfg, loopCfg, hb]) (by rw [h]; exact io_EAGAIN)⟩

theorem never_eintr_io_condition_wait_partial (s : Sock) (hc : s.closed = false) (cond : Int)
    (script : Script) (e : Int) (r : CallResult) (pe : PErr)
    (h : call s (.ioWait cond) script e = .ok r) (he : r.out.err = some pe) (hst : pe.stale = false) :
    pe.native ≠ EINTR := by
  rw [ioWait_eq s hc] at h
  obtain ⟨hf, _⟩ := ofLoop_ok_err _ _ _ _ _ pe (by intro x; rfl) h he
  exact pollLoop_fail_native _ _ _ _ hf hst

/-- the loop of *any* data call (this is what accept / receive_from share with the above) -/
theorem never_eintr_eagain_loop_partial (c : LoopCfg) (ph : Phase) (script : Script) (e : Int) (pe : PErr)
    (h : (ioLoop c ph script e).fin = .fail pe) (hst : pe.stale = false) :
    pe.native ≠ EINTR ∧ (c.blocking = true → pe.native = EAGAIN → pe.msg = msgPollFailed) := by
  obtain ⟨h1, h2⟩ := ioLoop_fail_native _ _ _ _ _ h hst
  exact ⟨h1, fun hb h => h2 hb (by rw [h]; exact io_EAGAIN)⟩

def demoSock : Sock := { family := AF_INET, protocol := 6, type := 1, fd := 5, listen_backlog := 5, timeout := 50, blocking := true }
def pollR (r : Ret) : Res := { sys := .poll, ret := r }
def recvR (r : Ret) (d : Bytes := []) : Res := { sys := .recv, ret := r, data := d }
def sendR (r : Ret) : Res := { sys := .send, ret := r }

/-- the witness against the full statement: `poll → EINTR, poll → 0` gives TIMED_OUT with native code EINTR -/
theorem timed_out_error_carries_stale_EINTR :
    (call demoSock (.receive false 8) [pollR (.err EINTR), pollR (.ok 0)]).toOption.map (·.out.err) =
      some (some { code := P_ERROR_IO_TIMED_OUT, native := EINTR, msg := msgTimedOut, stale := true }) := by
  decide

/-- non-vacuity of transparency: three kinds of retries, then 3 bytes -/
example :
    (call demoSock (.receive false 8)
        [pollR (.err EINTR), pollR (.ok 1), recvR (.err EAGAIN), pollR (.ok 1), recvR (.err EINTR), pollR (.ok 1), recvR (.ok 3) [1, 2, 3]]).toOption.map
      (fun r => (r.out.ret, r.out.data, r.tr.length)) = some (3, [1, 2, 3], 7)
    ∧ dropRetries .recv [pollR (.err EINTR), pollR (.ok 1), recvR (.err EAGAIN), pollR (.ok 1), recvR (.err EINTR), pollR (.ok 1), recvR (.ok 3) [1, 2, 3]] 0
      = ([pollR (.ok 1), recvR (.ok 3) [1, 2, 3]], EINTR) := by
  decide

/-! ## 2. `returns_kernel_count` -/

/-- `p_socket_send`: a successful call returns exactly the count of the one native `send` that
    succeeded, every `send` issued carries the caller's buffer (offset 0), `(socklen_t) buflen`, and the
    flags of T6, and no native call follows the successful one. -/
theorem returns_kernel_count_send (s : Sock) (hc : s.closed = false) (b : Bytes) (n : Nat) (hn : n ≠ 0)
    (script : Script) (e : Int) (r : CallResult)
    (h : call s (.send (some b) n) script e = .ok r) (hok : r.out.err = none) :
    ∃ k res pre, OneDataCall (.send s.fd 0 (toSocklen n) sendFlags (b.take (toSocklen n).toNat)) script r k res pre := by
  rw [send_eq s hc b n hn] at h
  exact one_data_call s (sendCfg s b n)
    (by simp [sendCfg, loopCfg, pollCall, sendCall, Issued.sys]) _ _ (by intro x; rfl) script e r h hok

/-- `p_socket_receive`: the same, and the bytes handed to the caller are the kernel's, cut to the count and the length -/
theorem returns_kernel_count_receive (s : Sock) (hc : s.closed = false) (n : Nat)
    (script : Script) (e : Int) (r : CallResult)
    (h : call s (.receive false n) script e = .ok r) (hok : r.out.err = none) :
    ∃ k res pre, OneDataCall (.recv s.fd 0 (toSocklen n) recvFlags) script r k res pre ∧
      r.out.data = res.data.take (min k (toSocklen n).toNat) := by
  rw [receive_eq s hc] at h
  obtain ⟨k, res, pre, hone⟩ := one_data_call s (recvCfg s n)
    (by simp [recvCfg, loopCfg, pollCall, recvCall, Issued.sys]) _ _ (by intro x; rfl) script e r h hok
  refine ⟨k, res, pre, hone, ?_⟩
  obtain ⟨res', hf, hr'⟩ := ofLoop_ok_noerr _ _ _ _ _ h hok
  have htr := hone.trace
  subst hr'
  obtain ⟨pre', h1, _⟩ := ioLoop_done (recvCfg s n) (by simp [recvCfg, loopCfg, pollCall, recvCall]) _ script e res' hf
  simp only at htr
  rw [h1] at htr
  have : res' = res := by
    have := congrArg List.getLast? htr
    simpa using this
  subst this
  simp [delivered, hone.count]

theorem returns_kernel_count_send_to (s : Sock) (hc : s.closed = false) (sa b : Bytes) (n : Nat)
    (script : Script) (e : Int) (r : CallResult)
    (h : call s (.sendTo (.native sa) (some b) n) script e = .ok r) (hok : r.out.err = none) :
    ∃ k res pre, OneDataCall (.sendto s.fd 0 (toSocklen n) sendtoFlags (b.take (toSocklen n).toNat) sa (Int.ofNat sa.length)) script r k res pre := by
  rw [sendTo_eq s hc] at h
  exact one_data_call s (sendtoCfg s sa b n)
    (by simp [sendtoCfg, loopCfg, pollCall, sendtoCall, Issued.sys]) _ _ (by intro x; rfl) script e r h hok

/-- "the caller's length passed unchanged" holds below 4 GiB: `psize` is narrowed with `(socklen_t) buflen` -/
theorem length_unchanged_partial (n : Nat) (h : n < 2 ^ 32) : toSocklen n = Int.ofNat n := toSocklen_eq n h

/-- …and not above: a 4 GiB + 1 byte buffer is offered to the kernel as 1 byte -/
theorem length_truncated_witness : toSocklen (2 ^ 32 + 1) = 1 := by decide

example : ∃ r, call demoSock (.send (some [9, 8, 7]) 3) [pollR (.ok 1), sendR (.err EINTR), pollR (.ok 1), sendR (.ok 2), sendR (.ok 1)] = .ok r
    ∧ r.out.ret = 2 ∧ r.rest = [sendR (.ok 1)] ∧ r.out.err = none := by
  refine ⟨_, rfl, ?_, ?_, ?_⟩ <;> decide

/-- for **every** API call and script: each `poll` in the log is the socket's own wait, and each data call
    (send, sendto, recv, recvfrom, accept, connect) is the one data call of that API function with the caller's
    buffer, `(socklen_t) buflen` and the flags of T6 — on every retry -/
theorem data_calls_carry_callers_arguments (s : Sock) (c : Call) (script : Script) (e : Int) (r : CallResult)
    (h : call s c script e = .ok r) : ∀ ev ∈ r.tr, Allowed s c ev :=
  TrAll.of_call s c (callM_allowed s c) script e r h

/-! ## 5. `no_sigpipe`

What the code does (T6): `send` and `sendto` are both given `MSG_NOSIGNAL` (`data_call_flags_exact`), and
independently `p_socket_init_once` (run by `p_libsys_init`) sets `signal (SIGPIPE, SIG_IGN)` for the whole
process.  Hence, the kernel keeping its contract (a write to a vanished peer with MSG_NOSIGNAL or with SIGPIPE
ignored fails with EPIPE / ECONNRESET and raises nothing), the caller gets an error outcome, not a signal. -/

/-- every `send` issued by any API call carries MSG_NOSIGNAL -/
theorem no_sigpipe_send (s : Sock) (c : Call) (script : Script) (e : Int) (r : CallResult)
    (h : call s c script e = .ok r) :
    ∀ ev ∈ r.tr, ∀ fd off len flags data, ev.call = .send fd off len flags data → flags.toNat &&& MSG_NOSIGNAL.toNat ≠ 0 := by
  intro ev hev fd off len flags data hc
  rcases data_calls_carry_callers_arguments s c script e r h ev hev with h1 | ⟨cond, h1⟩ | h1
  · simp [hc, criticalSys, Issued.sys] at h1
  · simp [hc, pollCall] at h1
  · rw [hc] at h1
    cases c <;> simp [dataCallOf] at h1
    case receive bn n => cases bn <;> simp [recvCall] at h1
    case receiveFrom w bn n => cases bn <;> simp [recvfromCall] at h1
    case send b n =>
      cases b <;> simp [sendCall] at h1
      obtain ⟨_, _, _, hf, _⟩ := h1
      subst hf; decide
    case sendTo a b n => cases a <;> cases b <;> simp [sendtoCall] at h1
    case connect a => cases a <;> simp [connCall] at h1

/-- `sendto` carries MSG_NOSIGNAL as well (since the fix of `p_socket_send_to`; before it the flags were 0 and
    the call relied on SIGPIPE being ignored process-wide) -/
theorem no_sigpipe_send_to : sendtoFlags.toNat &&& MSG_NOSIGNAL.toNat = MSG_NOSIGNAL.toNat := by decide

/-- independently, `p_socket_init_once` sets SIGPIPE to SIG_IGN for the whole process -/
theorem init_once_ignores_sigpipe :
    runM initOnce [{ sys := .signal, ret := .ok 0 }] 0 =
      .ok ((), { script := [], errno := 0 }, [⟨.signal SIGPIPE true, { sys := .signal, ret := .ok 0 }⟩]) := by
  rfl

/-- a vanished peer: the kernel answers EPIPE (or ECONNRESET); the blocking caller gets `−1` and an error with that
    native code (PErrorIO FAILED — the table has no entry for them), after exactly one `send` -/
theorem vanished_peer_is_an_error (s : Sock) (hc : s.closed = false) (hb : s.blocking = true) (b : Bytes) (n : Nat) (hn : n ≠ 0)
    (x : Int) (hx : x = EPIPE ∨ x = ECONNRESET) (rest : Script) (e : Int) :
    (call s (.send (some b) n) ({ sys := .poll, ret := .ok 1 } :: { sys := .send, ret := .err x } :: rest) e).toOption.map
      (fun r => (r.out.ret, r.out.err, r.rest)) =
    some (-1, some { code := P_ERROR_IO_FAILED, native := x, msg := "Failed to call send() on socket" }, rest) := by
  rw [send_eq s hc b n hn]
  have hs : startPhase (sendCfg s b n) = .wait := by simp [startPhase, sendCfg, loopCfg, hb]
  have hx4 : x ≠ EINTR := by rcases hx with h | h <;> (subst h; decide)
  have hio : ioFromSystem x = P_ERROR_IO_FAILED := by rcases hx with h | h <;> (subst h; decide)
  have hd : dataStep (sendCfg s b n) { sys := .send, ret := .err x } =
      .fail { code := P_ERROR_IO_FAILED, native := x, msg := "Failed to call send() on socket" } x := by
    have : ¬ ((sendCfg s b n).blocking = true ∧ ioFromSystem x = P_ERROR_IO_WOULD_BLOCK) := by
      rw [hio]; intro h; exact absurd h.2 (by decide)
    simp [dataStep, hx4, hio, sendCfg, loopCfg]
    intro _; decide
  rw [hs, ioLoop_wait_cons]
  have hp : pollStep { sys := .poll, ret := .ok 1 } e = .ready := by simp [pollStep]
  simp only [ne_eq, not_true_eq_false, if_false, hp]
  rw [ioLoop_data_cons]
  have hsys : (sendCfg s b n).call.sys = Sys.send := by simp [sendCfg, loopCfg, sendCall, Issued.sys]
  simp [hsys, hd, LoopR.cons, ofLoop, failOut, Except.toOption]

/-! ## 6. `connect_blocking` -/

/-- `p_socket_connect` on an open socket **is**: the `connect()` loop (EINTR → call again), then
    `connectAfter`: result 0 → TRUE, connected; `errno` mapping to IN_PROGRESS / WOULD_BLOCK → in blocking mode
    wait for POLLOUT with the socket's timeout (`pollLoop`, EINTR → poll again) and let
    `getsockopt (SO_ERROR)` decide (0 → TRUE, connected; `v` → FALSE with (`ioFromSystem v`, `v`), not connected),
    in non-blocking mode report it at once; any other `errno` → that error. -/
theorem connect_blocking (s : Sock) (hc : s.closed = false) (sa : Bytes) (script : Script) (e : Int) :
    call s (.connect (.native sa)) script e = connectResult s (connLoop (connCall s sa) script e) :=
  connect_eq s hc sa script e

/-- reading of `connect_blocking` on the canonical script: EINTR, then EINPROGRESS, an interrupted wait, ready, SO_ERROR = 0 -/
example : (call demoSock (.connect (.native [2, 0, 0, 80, 127, 0, 0, 1]))
      [{ sys := .connect, ret := .err EINTR }, { sys := .connect, ret := .err EINPROGRESS }, pollR (.err EINTR), pollR (.ok 1),
       { sys := .getsockopt, ret := .ok 0, val := 0 }]).toOption.map
      (fun r => (r.out.ret, r.sock.connected, r.tr.map (·.call.sys))) =
    some (1, true, [.connect, .connect, .poll, .poll, .getsockopt]) := by decide

/-- … and with SO_ERROR = ECONNREFUSED -/
example : (call demoSock (.connect (.native [2, 0, 0, 80, 127, 0, 0, 1]))
      [{ sys := .connect, ret := .err EINPROGRESS }, pollR (.ok 1), { sys := .getsockopt, ret := .ok 0, val := ECONNREFUSED }]).toOption.map
      (fun r => (r.out.ret, r.sock.connected, r.out.err.map (fun e => (e.code, e.native)))) =
    some (0, false, some (P_ERROR_IO_CONNECTION_REFUSED, ECONNREFUSED)) := by decide

/-- non-blocking: in progress is reported at once, one native call -/
example : (call { demoSock with blocking := false } (.connect (.native [2, 0, 0, 80, 127, 0, 0, 1]))
      [{ sys := .connect, ret := .err EINPROGRESS }, pollR (.ok 1)]).toOption.map
      (fun r => (r.out.ret, r.out.err.map (·.code), r.tr.length, r.rest.length)) =
    some (0, some P_ERROR_IO_IN_PROGRESS, 1, 1) := by decide

/-! ## 3. `stream_integrity`  (kernel contract: `pipeSendOk` / `pipeRecvOk` of `PV.Model.Socket`, trusted)

A run is any list of `p_socket_send` / `p_socket_receive` calls on open sockets in any mode, each with
**any** script the kernel contract allows for the current pipe (`runOk`, `stepOk`, `pipeTrace` in
`PV.Lemmas.SocketIntegrity`): EINTR / would-block / short transfers / poll time-outs / hard errors in
any positions, any chunk and buffer sizes below 4 GiB.  `sent` accumulates the prefixes the sender was
*told* were sent (`buf.take ret`), `received` the bytes successful receives handed out. -/

/-- no loss, no duplication, no reordering, no corruption: what was received, followed by what is still
    in flight, is exactly what was reported sent -/
theorem stream_integrity (steps : List IOStep) (σ : StreamState) (h : runOk {} steps σ) :
    σ.received ++ σ.pipe = σ.sent :=
  stream_integrity_run steps σ h

/-- one call: a successful send moved exactly the reported prefix into the pipe, a failed one nothing (so
    retrying the whole buffer after an error duplicates nothing) -/
theorem send_moves_reported_prefix (s : Sock) (hc : s.closed = false) (b : Bytes) (h0 : b.length ≠ 0) (hlt : b.length < 2 ^ 32)
    (script : Script) (e : Int) (r : CallResult) (h : call s (.send (some b) b.length) script e = .ok r)
    (p p' : Pipe) (hk : pipeTrace p r.tr p') :
    match r.out.err with
    | none => ∃ k, r.out.ret = Int.ofNat k ∧ 1 ≤ k ∧ k ≤ b.length ∧ p' = p ++ b.take k
    | some _ => p' = p :=
  send_pipe s hc b h0 hlt script e r h p p' hk

/-- non-vacuity: interrupted + short write of `[1,2,3]`, then an interrupted non-blocking read -/
example : ∃ σ, runOk {} [.sendStep demoTx [1, 2, 3] demoTxScript 0, .recvStep demoRx 8 demoRxScript 0] σ ∧ σ.received = [1, 2] ∧ σ.sent = [1, 2] :=
  ⟨_, demo_run, rfl, rfl⟩

/-! ## 4. `datagram_exact`  (kernel contract: `bagRecvOk`, trusted) -/

/-- a successful `p_socket_receive_from` hands out exactly ONE queued datagram, cut to the receive buffer
    length, removes exactly that one from the queue, and calls `p_socket_address_new_from_native` with the
    kernel's sockaddr and the kernel's length for it (the result of that opaque conversion — C17 — is what
    `*address` gets) -/
theorem datagram_exact (s : Sock) (hc : s.closed = false) (buflen : Nat) (h0 : 0 < buflen) (hlt : buflen < 2 ^ 32)
    (script : Script) (e : Int) (r : CallResult)
    (h : call s (.receiveFrom true false buflen) script e = .ok r) (hok : r.out.err = none)
    (bag bag' : Bag) (hsa : ∀ x ∈ bag, x.2.length ≤ 128) (hk : bagTrace bag r.tr bag') :
    ∃ d sa l1 l2 pre res a,
      bag = l1 ++ (d, sa) :: l2 ∧ bag' = l1 ++ l2 ∧
      r.out.ret = Int.ofNat (min d.length buflen) ∧ r.out.data = d.take buflen ∧
      r.tr = pre ++ [⟨recvfromCall s buflen, res⟩, ⟨.fromNative sa (Int.ofNat sa.length), a⟩] ∧
      res.ret = .ok (min d.length buflen) ∧
      (∀ ev ∈ pre, ev.call = recvfromCall s buflen → ev.res.failed = true) ∧
      (∀ ev ∈ pre, ev.call = pollCall s P_SOCKET_IO_CONDITION_POLLIN ∨ ev.call = recvfromCall s buflen) ∧
      r.out.addr = (if a.ret = .ok 0 then none else some (sa, Int.ofNat sa.length)) :=
  datagram_exact_call s hc buflen h0 hlt script e r h hok bag bag' hsa hk

/-- a failed `p_socket_receive_from` consumed no datagram -/
theorem datagram_failed_consumes_nothing (s : Sock) (hc : s.closed = false) (buflen : Nat) (h0 : 0 < buflen)
    (script : Script) (e : Int) (r : CallResult)
    (h : call s (.receiveFrom true false buflen) script e = .ok r) (pe : PErr) (herr : r.out.err = some pe)
    (bag bag' : Bag) (hk : bagTrace bag r.tr bag') : bag' = bag :=
  datagram_failed_keeps_queue s hc buflen h0 script e r h pe herr bag bag' hk

/-! ## translator ties T6 / T7: the loops and flags of the model are the loops and flags of the source

`tools/extract.py` matches the whole body of every function with a retry loop against the statement shape
`ioLoop` / `pollLoop` / `connLoop` transliterate (anything else is refused) and records the constants in the
holes of that shape; here they are compared with the constants the model uses. -/

/-- every retry loop: wait for the right condition, retry on `EINTR`, retry on the library's would-block class
    (blocking mode), report everything else with the function's failure value -/
theorem loop_skeletons_as_modelled :
    ioLoops = [("receive", P_SOCKET_IO_CONDITION_POLLIN, EINTR, P_ERROR_IO_WOULD_BLOCK, -1),
               ("receiveFrom", P_SOCKET_IO_CONDITION_POLLIN, EINTR, P_ERROR_IO_WOULD_BLOCK, -1),
               ("send", P_SOCKET_IO_CONDITION_POLLOUT, EINTR, P_ERROR_IO_WOULD_BLOCK, -1),
               ("sendTo", P_SOCKET_IO_CONDITION_POLLOUT, EINTR, P_ERROR_IO_WOULD_BLOCK, -1),
               ("accept", P_SOCKET_IO_CONDITION_POLLIN, EINTR, P_ERROR_IO_WOULD_BLOCK, 0)] ∧
    pollLoopFacts = [-1, 1, EINTR, 1, 0] ∧
    connLoopFacts = [EINTR, P_ERROR_IO_WOULD_BLOCK, P_ERROR_IO_IN_PROGRESS, P_SOCKET_IO_CONDITION_POLLOUT] := by
  decide

/-- the kernel contract of `stream_integrity` / `datagram_exact` (`pipeRecvOk`: received bytes are *removed*;
    `pipeSendOk`: bytes are appended in order) is the contract of `recv` / `send` with exactly these flags:
    no `MSG_PEEK` / `MSG_OOB` / `MSG_WAITALL` …, and nothing but `MSG_NOSIGNAL` on the sending side -/
theorem data_call_flags_exact :
    recvFlags = 0 ∧ recvfromFlags = 0 ∧ sendFlags = MSG_NOSIGNAL ∧ sendtoFlags = MSG_NOSIGNAL := by
  decide

/-- "fails for a real reason": the only native code the library classifies as would-block (and therefore retries
    in blocking mode) is `EAGAIN` (= `EWOULDBLOCK`); every other failure of a data call is reported -/
theorem would_block_is_only_EAGAIN (e : Int) (h : ioFromSystem e = P_ERROR_IO_WOULD_BLOCK) : e = EAGAIN :=
  code_of_class h (by decide) (by decide)

/-- … and `EINTR` / `EAGAIN` themselves are classified as the model's loops assume -/
theorem retry_codes_classified :
    ioFromSystem EAGAIN = P_ERROR_IO_WOULD_BLOCK ∧ ioFromSystem EWOULDBLOCK = P_ERROR_IO_WOULD_BLOCK ∧
    ioFromSystem EINTR ≠ P_ERROR_IO_WOULD_BLOCK ∧ ioFromSystem EINPROGRESS = P_ERROR_IO_IN_PROGRESS := by
  decide

/-- the handshake-pending answers of `connect ()` — `EINPROGRESS`, and `EALREADY` when a connect that was interrupted
    by a handled signal is re-issued while the handshake still runs — are BOTH classified as "in progress", so the
    blocking connect waits for writability instead of reporting a failure (the retry after `EINTR` is otherwise not
    transparent); `EISCONN` is neither in-progress nor would-block.  The model follows the extracted table whatever it
    says, so this theorem alone fixes the class of the two pending codes. -/
theorem connect_pending_codes :
    ioFromSystem EINPROGRESS = P_ERROR_IO_IN_PROGRESS ∧ ioFromSystem EALREADY = P_ERROR_IO_IN_PROGRESS ∧
    ioFromSystem EISCONN ≠ P_ERROR_IO_IN_PROGRESS ∧ ioFromSystem EISCONN ≠ P_ERROR_IO_WOULD_BLOCK := by
  decide

example : dataStep { blocking := true, poll := .poll 5 1 (-1) 1, call := .recv 5 0 4 0, failMsg := "x" } { sys := .recv, ret := .err ENOTCONN }
    = .fail { code := P_ERROR_IO_NOT_CONNECTED, native := ENOTCONN, msg := "x" } ENOTCONN := by decide


/-! ## exported for C19 (blocking calls are transparent to signal interruptions)

The same theorems as in §1, under the names the C19 check cites. -/

theorem receive_eintr_transparent (s : Sock) (hb : s.blocking = true) (bufNull : Bool) (buflen : Nat) (script : Script) (e : Int) :
    seen (call s (.receive bufNull buflen) script e) =
    seen (call s (.receive bufNull buflen) (dropRetries .recv script e).1 (dropRetries .recv script e).2) :=
  eintr_eagain_transparent_receive s hb bufNull buflen script e

theorem receive_from_eintr_transparent (s : Sock) (hb : s.blocking = true) (w bn : Bool) (buflen : Nat) (script : Script) (e : Int) :
    seen (call s (.receiveFrom w bn buflen) script e) =
    seen (call s (.receiveFrom w bn buflen) (dropRetries .recvfrom script e).1 (dropRetries .recvfrom script e).2) :=
  eintr_eagain_transparent_receive_from s hb w bn buflen script e

theorem send_eintr_transparent (s : Sock) (hb : s.blocking = true) (buf : Option Bytes) (buflen : Nat) (script : Script) (e : Int) :
    seen (call s (.send buf buflen) script e) =
    seen (call s (.send buf buflen) (dropRetries .send script e).1 (dropRetries .send script e).2) :=
  eintr_eagain_transparent_send s hb buf buflen script e

theorem send_to_eintr_transparent (s : Sock) (hb : s.blocking = true) (a : Addr) (buf : Option Bytes) (buflen : Nat) (script : Script) (e : Int) :
    seen (call s (.sendTo a buf buflen) script e) =
    seen (call s (.sendTo a buf buflen) (dropRetries .sendto script e).1 (dropRetries .sendto script e).2) :=
  eintr_eagain_transparent_send_to s hb a buf buflen script e

theorem accept_eintr_transparent (s : Sock) (hb : s.blocking = true) (script : Script) (e : Int) :
    seen (call s .accept script e) =
    seen (call s .accept (dropRetries .accept script e).1 (dropRetries .accept script e).2) :=
  eintr_eagain_transparent_accept s hb script e

theorem connect_eintr_transparent (s : Sock) (addr : Addr) (script : Script) (e : Int) :
    seen (call s (.connect addr) script e) =
    seen (call s (.connect addr) (dropConnEintr script e).1 (dropConnEintr script e).2) :=
  eintr_eagain_transparent_connect s addr script e

/-- `poll_eintr` of C19 -/
theorem poll_eintr_transparent (s : Sock) (cond : Int) (script : Script) (e : Int) :
    seen (call s (.ioWait cond) script e) =
    seen (call s (.ioWait cond) (dropPollEintr script e).1 (dropPollEintr script e).2) :=
  eintr_eagain_transparent_io_condition_wait s cond script e

/-- non-blocking mode: `EINTR` of the data call is retried as well (only that; would-block is reported) -/
theorem nonblocking_eintr_transparent_loop (c : LoopCfg) (hb : c.blocking = false) (script : Script) (e : Int) :
    (ioLoop c .data script e).obs =
      (ioLoop c .data (dropDataEintr c.call.sys script e).1 (dropDataEintr c.call.sys script e).2).obs :=
  ioLoop_dropDataEintr c hb script e

end PV.Socket
