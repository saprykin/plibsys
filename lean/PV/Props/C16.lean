import PV.Lemmas.Ini
/-!
# C16 — INI parser

Model `PV.Model.Ini` (transliteration of `p_ini_file_parse` and the getters, over `List UInt8`),
spec `PV.Spec.Ini` (documented format as an AST, `render`, `meaning`, `WF`).

**Totality.** Every function of the model is defined by structural recursion on a list (`splitAux`,
`scan`, `chompStart`, `chompEnd`, `kvCascade`, `listLoop`, `List.foldl` over the chunks …): there is no
fuel, no `partial`, no well-founded recursion.  That Lean accepted the definitions *is* the proof that
parsing terminates on every byte string; the theorems below therefore quantify over all `input : Bytes`.

**Life cycle.** `Handle` / `fileParse` model the object (section (e)); `fileParseClose` additionally scripts the result of
the final `fclose` and counts the `fclose` calls and warning lines (`close_failure_is_harmless`; op `lifec` of the check).

Not covered here (see the check's assumptions): glibc's `sscanf`/`fgets`/`isspace`/`atoi` agreeing
with `scan`/`splitLines`/`isSpace`/`atoi`; `p_strtod` (modelled on `Float`, compared bit for bit by the
differential run only, no theorem).
-/
namespace PV.Ini
open PV.IniSpec (Doc Sec Style WF render meaning meaningOf)

/-! ## tie to the source (regenerated facts) -/

/-- the `sscanf` patterns of the model are the format strings of the current source, in cascade order -/
theorem patterns_are_the_source_formats :
    fmtOf patSection = PV.Generated.Ini.fmtSection ∧ kvPatterns.map fmtOf = PV.Generated.Ini.fmtKv := by
  decide +kernel

/-- buffer sizes, the read loop and the comment guard are the ones the theorems assume; the functions that are
modelled by hand (getters, look-ups, life cycle, string helpers) have the text the model was written from -/
theorem source_facts :
    PV.IniSpec.maxLine = PV.Generated.Ini.maxLine ∧
    PV.Generated.Ini.lineBufSize = PV.Generated.Ini.maxLine + 1 ∧
    PV.Generated.Ini.fgetsWholeBuffer = true ∧
    PV.Generated.Ini.commentSkip = true ∧
    PV.Generated.Ini.handModelledTextKnown = true := by
  decide +kernel

/-! ## (a) robustness, for all byte strings -/

/-- Every string the loop copies into one of its fixed buffers (`src_line`, `key`, `value`, each
`P_INI_FILE_MAX_LINE + 1` bytes) has at most `P_INI_FILE_MAX_LINE` bytes, so the terminating NUL fits:
the chunk `fgets` stores, `dst_line`, whatever any of the four `sscanf` calls stores through `%[…]`
(also in calls that end up failing), and the chomped copies `strcpy`'d back.  In particular the three
"This should not happen" truncations are dead code. -/
theorem line_fits (input : Bytes) :
    ∀ chunk ∈ splitLines input,
      chunk.length ≤ maxLine ∧ (lineOf chunk).length ≤ maxLine ∧
      ∀ fmt ∈ patSection :: kvPatterns, ∀ o ∈ scan fmt (lineOf chunk),
        o.length ≤ maxLine ∧ (chomp o).length ≤ maxLine := by
  intro chunk hc
  have h1 := splitLines_length input chunk hc
  have h2 := lineOf_length_le chunk
  refine ⟨h1, by omega, ?_⟩
  intro fmt _ o ho
  have h3 := scan_length_le fmt (lineOf chunk) o ho
  have h4 := chomp_length_le o
  omega

/-- Names, keys and values stored in the parsed object have at most `P_INI_FILE_MAX_LINE` bytes, and an
item `p_ini_file_parameter_list` copies into its `buf[P_INI_FILE_MAX_LINE + 1]` is no longer than the value. -/
theorem stored_fits (input : Bytes) :
    (∀ s ∈ parse input, s.name.length ≤ maxLine ∧
        ∀ kv ∈ s.keys, kv.1.length ≤ maxLine ∧ kv.2.length ≤ maxLine) ∧
    ∀ v : Bytes, ∀ it ∈ toList v, it.length ≤ v.length :=
  ⟨fun s hs => (parseWith_stored _ input s hs).1, toList_fits⟩

/-- For every input the parsed object is consistent: every listed section has at least one key, every
listed key exists and has a retrievable string value. -/
theorem consistent (input : Bytes) :
    let f := parse input
    ∀ n ∈ sections f, keys f n ≠ [] ∧
      ∀ k ∈ keys f n, isKeyExists f n k = true ∧ (parameterString f n k none).isSome = true := by
  intro f n hn
  have := consistent_of_ok f (fun s hs => (parseWith_stored _ input s hs).2) n hn
  refine ⟨this.1, fun k hk => ⟨(this.2 k hk).1, ?_⟩⟩
  rw [parameterString_none]
  exact (this.2 k hk).2

/-! ## (b) the documented grammar -/

/-- what the API shows after parsing: the listed sections, for each its listed keys (each once) with the
value `p_ini_file_parameter_string` returns -/
def parseView (input : Bytes) : List (Bytes × List (Bytes × Bytes)) := fileView (parse input)

/-- `p_ini_file_sections` lists the final section of the file first (it is appended after the loop while the
earlier ones were prepended, and the listing reverses the list), then the others in file order: the reverse
of the order in which look-ups go through the sections. -/
def listed (d : Doc) : List (Bytes × List (Bytes × Bytes)) :=
  PV.IniSpec.meaningIn d.secs (PV.IniSpec.lookupOrder d.secs).reverse

/-- … spelled out -/
theorem listed_eq (d : Doc) (init : List Sec) (last : Sec) (hs : d.secs = init ++ [last]) :
    listed d = PV.IniSpec.meaningIn d.secs [last] ++ PV.IniSpec.meaningIn d.secs init := by
  unfold listed
  rw [hs, lookupOrder_snoc]
  have e : (init.reverse ++ [last]).reverse = [last] ++ init := by simp
  rw [e]
  simp only [PV.IniSpec.meaningIn, List.filter_append, List.map_append]

/-
Full-strength statement (what pinifile.h promises):

    theorem parse_render (σ) (d : Doc) : parseView (render σ d) ~ meaning d          -- for EVERY document

It is false of the code; `parse_render_partial` proves it for the documents satisfying `IniSpec.WF`.

Part of the documents the theorem speaks about (the AST has them, `meaning` says what the API shows):
  * blank lines of any blanks, comment lines (also with '=' in them), lines before the first section;
  * LF and CR LF line ends, a final line without newline;
  * any of four byte-order marks before the first line (`Style.bom`) and at the start of any other line — header, entry,
    comment or blank line (`Line.mark` / `Header.mark`; files pasted together): it contributes nothing;
  * blanks around key, '=', value, section name; trailing comments; quoted values with comment markers, '=',
    the other quote, blanks inside (blanks directly inside the quotes are dropped: `" a "` is `a`); values with '=';
  * `key =` without any value text, also followed by a comment: the line assigns nothing (an empty value is
    written `""` or `''`) — `IniSpec.Entry.binding`;
  * repeated section headers: a repeated header starts a section of its own; both are listed, under the same
    name, and look-ups by that name see one of them — `IniSpec.seenSec`, `repeated_header_not_merged`;
  * physical lines of up to 1024 bytes, line end and byte-order mark included.
(`linesOk` also asks that a line without a mark does not start with the bytes of one, and that the first line has the
file's mark or its own, not both.  The first is no restriction on files — those bytes *are* the line's mark —, the
second is: only one mark per line is skipped, `only_one_mark_per_line_is_skipped`.)

`WF` excludes exactly:
  * F3 (repaired in the worktree; the theorem needs `Generated.Ini.commentSkip = true`): a comment line
    that contains '=' inside a section was stored as a key — `f3_unfixed_code_stores_the_comment`;
  * comment markers *after* the first non-blank byte of a line without a preceding value, e.g.
    `k # c = d` (stored as key "k # c"): the AST has no such line — `residual_comment_with_equals`;
  * a quoted value that is, blanks aside, exactly the other kind of empty quotes, `"''"` / `'""'` (emptied) —
    `quoted_empty_quotes_are_emptied`; an unquoted value starting with a quote — `unquoted_leading_quote_is_stripped`;
  * keys starting with '[' (on a line ending in ']' they are taken for a header — `bracket_key_is_a_header`);
    section names with ']' — `section_name_is_cut_at_bracket`;
  * NUL bytes; physical lines longer than 1024 bytes (split by `fgets` — `over_long_line_is_split`); two marks at the
    start of one line (`only_one_mark_per_line_is_skipped`); the UTF-32 LE mark (`utf32le_bom_dead`).
-/

/-- For a well-formed document, rendered with any byte-order mark, the API shows exactly the documented
meaning: the non-empty sections, each key once with the value of its last assignment (blanks, quotes and
trailing comments removed), nothing from comment lines, blank lines, lines without a value or the preamble —
in the listing order of `p_ini_file_sections`. -/
theorem parse_render_partial (σ : Style) (d : Doc) (hwf : WF σ d = true) :
    parseView (render σ d) = listed d :=
  fileView_parse_render σ d hwf

/-- … and up to the order of sections that is `meaning d` -/
theorem parse_render_perm (σ : Style) (d : Doc) (hwf : WF σ d = true) :
    (parseView (render σ d)).Perm (meaning d) := by
  rw [parse_render_partial σ d hwf]
  unfold listed meaning
  rcases secs_cases d.secs with hs | ⟨init, last, hs⟩
  · rw [hs]; exact List.Perm.refl _
  · rw [hs, lookupOrder_snoc]
    simp only [PV.IniSpec.meaningIn, List.reverse_append, List.reverse_reverse, List.reverse_cons, List.reverse_nil,
      List.nil_append, List.filter_append, List.map_append]
    exact List.perm_append_comm

/-- The special case of `parse_render_partial` for distinct section names and literal values (`Strict`: no repeated
header, no `key =` without value text, no blanks directly inside quotes): every section is read on its own and every
value is the value field as written; the API shows the final section first, then the others in file order. -/
theorem parse_render_strict (σ : Style) (d : Doc) (hwf : WF σ d = true) (hst : Strict d = true) :
    meaning d = literalMeaning d.secs ∧
    parseView (render σ d) = match d.secs.reverse with
      | [] => []
      | last :: initRev => literalMeaning [last] ++ literalMeaning initRev.reverse := by
  simp only [Strict, Bool.and_eq_true, List.all_eq_true] at hst
  obtain ⟨hd, hb⟩ := hst
  have hm : ∀ secs : List Sec, (∀ s ∈ secs, s ∈ d.secs) → PV.IniSpec.meaningIn d.secs secs = literalMeaning secs := by
    intro secs hsub
    rw [meaningIn_of_distinct d.secs hd secs hsub, meaningOf_strict secs (fun s hs => hb s (hsub s hs))]
  refine ⟨hm d.secs (fun s hs => hs), ?_⟩
  rw [parse_render_partial σ d hwf]
  rcases secs_cases d.secs with hs | ⟨init, last, hs⟩
  · simp [listed, hs, PV.IniSpec.meaningIn, PV.IniSpec.lookupOrder]
  · rw [listed_eq d init last hs, hm [last] (by intro s h; rw [hs]; simp at h; simp [h]),
      hm init (by intro s h; rw [hs]; simp [h])]
    simp [hs]

/-- The special case of `parse_render_partial` without marks inside lines (`Unmarked`; the file may carry its own mark
`σ.bom`): there `linesOk` only asks that every physical line fits the buffer and does not start like a mark
(`formerLinesOk`), so `WF` holds under that hypothesis, with the same conclusion. -/
theorem parse_render_unmarked (σ : Style) (d : Doc) (hu : Unmarked d = true)
    (hwf : (d.preamble.all (·.body.wf) && d.secs.all (fun s => s.header.wf && s.body.all (·.body.wf))
            && PV.IniSpec.eolsOk d.eols && formerLinesOk σ d) = true) :
    WF σ d = true ∧ parseView (render σ d) = listed d := by
  have h : WF σ d = true := by
    unfold WF
    rw [linesOk_unmarked σ d hu]
    exact hwf
  exact ⟨h, parse_render_partial σ d h⟩

/-- Lookups: every key of the meaning is reported present and `p_ini_file_parameter_string` returns its
value, whatever default is passed. -/
theorem lookup_render (σ : Style) (d : Doc) (hwf : WF σ d = true) (n : Bytes) (kvs : List (Bytes × Bytes))
    (hn : (n, kvs) ∈ meaning d) (k v : Bytes) (hk : (k, v) ∈ kvs) (dflt : Option Bytes) :
    let f := parse (render σ d)
    n ∈ sections f ∧ isKeyExists f n k = true ∧ parameterString f n k dflt = some v := by
  intro f
  have hperm := parse_render_perm σ d hwf
  have hmem : (n, kvs) ∈ parseView (render σ d) := hperm.mem_iff.mpr hn
  unfold parseView fileView at hmem
  simp only [List.mem_map, Prod.mk.injEq] at hmem
  obtain ⟨n', hn', rfl, hkvs⟩ := hmem
  subst hkvs
  simp only [List.mem_map, Prod.mk.injEq] at hk
  obtain ⟨k', hk', rfl, hv⟩ := hk
  have hkeys : k' ∈ keys f n' := by
    have : k' ∈ (keys (parse (render σ d)) n').eraseDups := hk'
    simpa using this
  have hc := consistent (render σ d) n' hn'
  have hsome := (hc.2 k' hkeys).2
  refine ⟨hn', (hc.2 k' hkeys).1, ?_⟩
  rw [parameterString_none] at hsome hv
  obtain ⟨w, hw⟩ := Option.isSome_iff_exists.mp hsome
  have hw' : findParameter f n' k' = some w := hw
  rw [hw'] at hv
  simp only [Option.getD_some] at hv
  subst hv
  unfold parameterString
  rw [hw']

/-! ## (c) getters -/

/-- the typed getters read the stored string through `atoi` / the boolean rule / the brace-list rule;
a missing key (or section) yields the default, and an empty list -/
theorem getter_stored (f : IniFile) (n k : Bytes) :
    (∀ v, findParameter f n k = some v →
      (∀ d, parameterString f n k d = some v) ∧ (∀ d, parameterInt f n k d = atoi v) ∧
      (∀ d, parameterBoolean f n k d = toBoolean v) ∧ parameterList f n k = toList v ∧
      isKeyExists f n k = true) ∧
    (findParameter f n k = none →
      (∀ d, parameterString f n k d = d) ∧ (∀ d, parameterInt f n k d = .val d) ∧
      (∀ d, parameterBoolean f n k d = .val d) ∧ parameterList f n k = [] ∧
      (∀ d, parameterDouble f n k d = d) ∧ isKeyExists f n k = false) := by
  constructor
  · intro v hv
    simp [parameterString, parameterInt, parameterBoolean, parameterList, isKeyExists_iff, hv]
  · intro hv
    simp [parameterString, parameterInt, parameterBoolean, parameterList, parameterDouble, isKeyExists_iff, hv]

/-- "Integer values can be written in the usual form": optional blanks, optional sign, at least one digit,
then anything that is not a digit.  The result is the decimal value, or the distinct outcome `overflow`
when it does not fit a C `int` (where `atoi` is undefined) — never a default. -/
theorem getter_int (ws : Bytes) (sign : Option Bool) (ds rest : Bytes) (hws : AllSpace ws)
    (hds : ∀ d ∈ ds, isDigit d = true) (hne : ds ≠ [])
    (hrest : ∀ r ∈ rest.head?, isDigit r = false) :
    atoi (ws ++ (match sign with | none => [] | some true => [45] | some false => [43]) ++ ds ++ rest)
      = match PV.IniSpec.intValue (sign == some true) ds with
        | some v => .val v
        | none => .overflow :=
  atoi_numeral ws sign ds rest hws hds hne hrest

/-- "Boolean values can be written in the form of 'true/false' or 'TRUE/FALSE', or simply '0/1'";
any other text is `atoi (text) > 0`. -/
theorem getter_boolean :
    toBoolean strTrue = .val true ∧ toBoolean strTRUE = .val true ∧
    toBoolean strFalse = .val false ∧ toBoolean strFALSE = .val false ∧
    toBoolean [49] = .val true ∧ toBoolean [48] = .val false ∧
    ∀ v, v ≠ strTrue → v ≠ strTRUE → v ≠ strFalse → v ≠ strFALSE →
      toBoolean v = match atoi v with
        | .val i => .val (decide (i > 0))
        | .overflow => .overflow := by
  obtain ⟨a, b, c, d, e, g⟩ := toBoolean_words
  exact ⟨a, b, c, d, e, g, toBoolean_numeric⟩

/-- "A list of values can be stored between the '{}' symbols separated with spaces": the items, in order. -/
theorem getter_list (lead : Bytes) (items : List (Bytes × Bytes)) (last : Option Bytes) (hlead : AllSpace lead)
    (hi : ∀ p ∈ items, p.1 ≠ [] ∧ ItemBytes p.1 ∧ p.2 ≠ [] ∧ AllSpace p.2)
    (hl : ∀ it ∈ last, it ≠ [] ∧ ItemBytes it) :
    toList (PV.IniSpec.listText lead items last) = items.map (·.1) ++ last.toList :=
  toList_listText lead items last hlead hi hl

/-! ## (d) F3 and the remaining discrepancies, on concrete inputs -/

/-- `[s]␊# a = b␊` -/
def f3Input : Bytes := [91, 115, 93, 10, 35, 32, 97, 32, 61, 32, 98, 10]

/-- F3: the code *without* the comment guard (`commentSkip = false`, the unmodified source) stores the
comment line `# a = b` of section `s` as key `"# a"` with value `"b"`. -/
theorem f3_unfixed_code_stores_the_comment :
    parseWith false f3Input = [⟨[115], [([35, 32, 97], [98])]⟩] := by decide +kernel

/-- with the guard the line contributes nothing (the section, now empty, is dropped) -/
theorem f3_fixed_code_skips_the_comment : parseWith true f3Input = [] := by decide +kernel

/-- still false of the repaired code: a comment that starts later on a line and contains '=' —
`[s]␊k # c = d␊` stores key `"k # c"` (documentation: everything after '#' is a comment, so the line has
no '=' at all).  Reported, not repaired. -/
theorem residual_comment_with_equals :
    parseWith true [91, 115, 93, 10, 107, 32, 35, 32, 99, 32, 61, 32, 100, 10]
      = [⟨[115], [([107, 32, 35, 32, 99], [100])]⟩] := by decide +kernel

/-- `[s]␊k = "''"␊` is stored with an empty value instead of `''` (reported) -/
theorem quoted_empty_quotes_are_emptied :
    parseWith true [91, 115, 93, 10, 107, 32, 61, 32, 34, 39, 39, 34, 10] = [⟨[115], [([107], [])]⟩] := by decide +kernel

/-- the UTF-32 LE byte-order mark is not skipped: its test is shadowed by the UTF-16 LE test, the first
line is then seen as empty and the header `[s]` is lost (reported) -/
theorem utf32le_bom_dead :
    parseWith true ([0xFF, 0xFE, 0x00, 0x00] ++ [91, 115, 93, 10, 107, 61, 118, 10]) = [] ∧
    parseWith true ([0x00, 0x00, 0xFE, 0xFF] ++ [91, 115, 93, 10, 107, 61, 118, 10]) = [⟨[115], [([107], [118])]⟩] := by
  decide +kernel

/-- `[s]␊k = 'it␊`: an unquoted value that starts with a quote loses it — the quoted format stores `it` and
`sscanf` has its two conversions before it misses the closing quote (the AST has no such line: `WF` hypothesis) -/
theorem unquoted_leading_quote_is_stripped :
    parseWith true [91, 115, 93, 10, 107, 32, 61, 32, 39, 105, 116, 10] = [⟨[115], [([107], [105, 116])]⟩] := by decide +kernel

/-- `[s]␊a=1␊[k=v]␊b=2␊`: a key that starts with '[' on a line that ends in ']' is taken for the header of a
section named `k=v` (documentation: a `key = value` line of section `s`; `WF` hypothesis) -/
theorem bracket_key_is_a_header :
    parseWith true [91, 115, 93, 10, 97, 61, 49, 10, 91, 107, 61, 118, 93, 10, 98, 61, 50, 10]
      = [⟨[115], [([97], [49])]⟩, ⟨[107, 61, 118], [([98], [50])]⟩] := by decide +kernel

/-- `[a]b]␊k=v␊`: a section name is cut at its first ']' (`WF` hypothesis) -/
theorem section_name_is_cut_at_bracket :
    parseWith true [91, 97, 93, 98, 93, 10, 107, 61, 118, 10] = [⟨[97], [([107], [118])]⟩] := by decide +kernel

/-- a physical line of 1026 bytes, `k=v…vw␊` with 1022 `v`: `fgets` splits it after 1024 bytes, the value loses its
last byte and the rest is read as a line of its own (pinifile.h states no limit; the property is claimed up to
1024 bytes per line: `WF` hypothesis) -/
theorem over_long_line_is_split :
    parseWith true ([91, 115, 93, 10, 107, 61] ++ List.replicate 1022 118 ++ [119, 10])
      = [⟨[115], [([107], List.replicate 1022 118)]⟩] := by decide +kernel

/-- `[a]␊k=1␊[b]␊x=1␊[a]␊j=2␊`: a repeated header is not merged with the earlier section of that name: `a` is listed
twice, `p_ini_file_keys`/the getters see the keys of one of the two only (here the first: `j` is not found).
pinifile.h does not say what a repeated name means; `meaning` describes this behaviour (`IniSpec.seenSec`). -/
theorem repeated_header_not_merged :
    let f := parseWith true [91, 97, 93, 10, 107, 61, 49, 10, 91, 98, 93, 10, 120, 61, 49, 10, 91, 97, 93, 10, 106, 61, 50, 10]
    f = [⟨[98], [([120], [49])]⟩, ⟨[97], [([107], [49])]⟩, ⟨[97], [([106], [50])]⟩] ∧
    sections f = [[97], [97], [98]] ∧ keys f [97] = [[107]] ∧ findParameter f [97] [106] = none := by decide +kernel

/-- `EF BB BF FE FF [s]␊k=v␊`: only one byte-order mark is skipped per line; behind a second one the header is not
recognised and its keys are lost (`linesOk`: the first line has the file's mark or its own, not both) — while one mark
at the start of *each* line is skipped (`[s]␊ FE FF k=v␊`) -/
theorem only_one_mark_per_line_is_skipped :
    parseWith true ([0xEF, 0xBB, 0xBF, 0xFE, 0xFF] ++ [91, 115, 93, 10, 107, 61, 118, 10]) = [] ∧
    parseWith true ([91, 115, 93, 10] ++ [0xFE, 0xFF] ++ [107, 61, 118, 10]) = [⟨[115], [([107], [118])]⟩] := by decide +kernel

/-! ## (e) the object: life cycle and NULL arguments -/

/-- `p_ini_file_new (NULL)` is NULL; a new object is not parsed. -/
theorem new_object (path : Bytes) :
    fileNew none = none ∧ fileIsParsed (fileNew (some path)) = false ∧ fileIsParsed none = false := ⟨rfl, rfl, rfl⟩

/-- An object that does not exist or is not parsed, and a NULL section or key name, yield nothing and the
defaults — whatever the default is (`FALSE`, 0, `INT_MIN`, NaN, NULL, …): no sections, no keys, no key exists,
every typed getter returns its default argument untouched. -/
theorem unparsed_or_null_yields_defaults (h : Option Handle) (sec key : Option Bytes)
    (hc : fileIsParsed h = false ∨ sec = none ∨ key = none) :
    (fileIsParsed h = false → apiSections h = [] ∧ apiKeys h sec = []) ∧
    apiIsKeyExists h sec key = false ∧
    (∀ d, apiString h sec key d = d.map cstr) ∧ (∀ d, apiInt h sec key d = .val d) ∧
    (∀ d, apiBoolean h sec key d = .val d) ∧ apiList h sec key = [] ∧ (∀ d, apiDouble h sec key d = d) := by
  have hf : apiFind h sec key = none := by
    rcases hc with hp | hn
    · exact apiFind_unparsed h hp sec key
    · exact apiFind_null h sec key hn
  have he : apiIsKeyExists h sec key = false := by
    unfold apiIsKeyExists
    unfold apiFind at hf
    cases sec <;> cases key <;> simp_all [isKeyExists_iff]
  refine ⟨?_, he, ?_, ?_, ?_, ?_, ?_⟩
  · intro hp
    have hv := visible_unparsed h hp
    constructor
    · unfold apiSections; rw [hv]; rfl
    · unfold apiKeys; rw [hv]; cases sec <;> rfl
  all_goals simp [apiString, apiInt, apiBoolean, apiList, apiDouble, hf]

/-- `p_ini_file_parse` on NULL fails with `P_ERROR_IO_INVALID_ARGUMENT`; a file that cannot be opened leaves
the object unparsed (so that a later call tries again), reports the platform's error, and the object keeps
answering with the defaults. -/
theorem failed_parse_leaves_unparsed (fs : Bytes → Except Bool Bytes) (h : Handle) (ne : Bool)
    (hp : h.parsed = false) (hfs : fs h.path = .error ne) :
    fileParse fs none = (none, false, some .invalidArgument) ∧
    fileParse fs (some h) = (some h, false, some (.openFailed ne)) ∧
    fileIsParsed (fileParse fs (some h)).1 = false := by
  refine ⟨rfl, ?_, ?_⟩ <;> simp [fileParse, hp, hfs, fileIsParsed]

/-- A successful parse shows exactly `parse content` (so `consistent`, `parse_render_partial`, `lookup_render`
and the getter theorems speak about what the API returns), and parsing again — whatever the file system
holds by then — changes nothing and succeeds without reading. -/
theorem parse_once (fs fs' : Bytes → Except Bool Bytes) (path content : Bytes) (hfs : fs (cstr path) = .ok content) :
    let r := fileParse fs (fileNew (some path))
    r.2 = (true, none) ∧ fileIsParsed r.1 = true ∧ visible r.1 = parse content ∧
    fileParse fs' r.1 = (r.1, true, none) := by
  simp [fileParse, fileNew, hfs, fileIsParsed, visible]

/-- A failing `fclose` at the end of `p_ini_file_parse` is only logged: whatever `fclose` returns, the call has the
result, the error and the object of `fileParse` (so `parse_once`, `consistent`, `parse_render_partial` … hold for it
as well), `fclose` is called exactly when this call opened the file — once, never after a failed `fopen`, never on
a NULL or already parsed object —, and the warning is printed exactly when that call failed. -/
theorem close_failure_is_harmless (fs : Bytes → Except Bool Bytes) (closeOk : Bool) (h : Option Handle) :
    (fileParseClose fs closeOk h).1 = fileParse fs h ∧
    (fileParseClose fs closeOk h).2.fcloseCalls ≤ 1 ∧
    ((fileParseClose fs closeOk h).2.fcloseCalls = 1 ↔
      (fileIsParsed h = false ∧ fileIsParsed (fileParse fs h).1 = true)) ∧
    ((fileParseClose fs closeOk h).2.warnings = 1 ↔
      (closeOk = false ∧ (fileParseClose fs closeOk h).2.fcloseCalls = 1)) := by
  cases h with
  | none => simp [fileParseClose, fileParse, fileIsParsed]
  | some hd =>
    cases hp : hd.parsed with
    | true => simp [fileParseClose, fileParse, fileIsParsed, hp]
    | false =>
      cases hf : fs hd.path with
      | error ne => simp [fileParseClose, fileParse, fileIsParsed, hp, hf]
      | ok content => cases closeOk <;> simp [fileParseClose, fileParse, fileIsParsed, hp, hf]

/-! ## (f) the `pstring.c` entry points the parser and the getters rely on -/

/-- `p_strchomp` "removes trailing and leading whitespaces": for every string the result is the string
without its leading and trailing white space (C locale) — despite the asymmetric loop bounds of the code.
NULL gives NULL; bytes after a NUL are not seen. -/
theorem strchomp_is_trim (s : Bytes) :
    chomp s = PV.IniSpec.trim s ∧ strchomp (some s) = some (PV.IniSpec.trim (cstr s)) ∧ strchomp none = none :=
  ⟨chomp_eq_trim s, by simp [strchomp, chomp_eq_trim], rfl⟩

/-- `p_strdup` copies the bytes up to the first NUL; NULL gives NULL. -/
theorem strdup_copies (s : Bytes) :
    strdup (some s) = some (cstr s) ∧ strdup none = none ∧ (∀ b ∈ cstr s, b ≠ 0) ∧ (cstr s) <+: s := by
  refine ⟨rfl, rfl, ?_, List.takeWhile_prefix _⟩
  intro b hb
  have := mem_takeWhile_true _ _ b hb
  simpa using this

/-- The documented `p_strtok` loop with one delimiter set returns exactly the maximal non-empty runs of
non-delimiter bytes, in order, and `length + 1` calls always suffice (it terminates); each single call returns
a non-empty delimiter-free token that starts where the leading delimiters end, and leaves strictly less text. -/
theorem strtok_loop (delim s : Bytes) :
    strtokLoop delim (s.length + 1) s = PV.IniSpec.tokens delim s ∧
    ∀ tok rest, strtokR delim s = some (tok, rest) →
      tok ≠ [] ∧ (∀ b ∈ tok, delim.contains b = false) ∧ tok <+: s.dropWhile delim.contains ∧ rest.length < s.length :=
  ⟨strtokLoop_eq_tokens delim _ s (by omega), fun tok rest h => strtokR_token delim s tok rest h⟩

/-- `p_strtod (NULL)` is 0.0 and leading / trailing white space does not matter (the argument is chomped first). -/
theorem strtod_trims (s : Bytes) :
    strtodApi none = 0.0 ∧ strtod s = strtod (PV.IniSpec.trim s) := by
  refine ⟨rfl, ?_⟩
  unfold strtod
  rw [← chomp_eq_trim, chomp_idem]

/-! ## non-vacuity -/

/-- ␣[ s ]␍␊ ; c = d␊ k = "v;1" # t␊ k='w'␊ e = ; n␊ f =␍␊ q=" a=b "␊ [e]␊ [t]␊ n = 42 (no final newline), with a UTF-8 BOM -/
def sampleDoc : Doc :=
  { preamble := [⟨.entry ⟨[], [120], [], [], .none, [49], [], none⟩, .lf, .none⟩],
    secs := [
      ⟨⟨[32], [32], [115], [32], [], .crlf, .none⟩,
        [⟨.comment [] ⟨59, [32, 99, 32, 61, 32, 100]⟩, .lf, .none⟩,
         ⟨.entry ⟨[], [107], [32], [32], .double, [118, 59, 49], [32], some ⟨35, [32, 116]⟩⟩, .lf, .none⟩,
         ⟨.entry ⟨[], [107], [], [], .single, [119], [], none⟩, .lf, .none⟩,
         ⟨.entry ⟨[], [101], [32], [], .none, [], [32], some ⟨59, [32, 110]⟩⟩, .lf, .none⟩,
         ⟨.entry ⟨[], [102], [32], [], .none, [], [], none⟩, .crlf, .none⟩,
         ⟨.entry ⟨[], [113], [], [], .double, [32, 97, 61, 98, 32], [], none⟩, .lf, .none⟩]⟩,
      ⟨⟨[], [], [101], [], [], .lf, .none⟩, []⟩,
      ⟨⟨[], [], [116], [], [], .lf, .none⟩,
        [⟨.entry ⟨[], [110], [32], [32], .none, [52, 50], [], none⟩, .eof, .none⟩]⟩] }

private theorem sampleDoc_wf : WF ⟨.utf8⟩ sampleDoc = true := by decide +kernel

example : WF ⟨.utf8⟩ sampleDoc = true := sampleDoc_wf
example : meaning sampleDoc = [([115], [([107], [119]), ([113], [97, 61, 98])]), ([116], [([110], [52, 50])])] := by decide +kernel
example : parseView (render ⟨.utf8⟩ sampleDoc) = [([116], [([110], [52, 50])]), ([115], [([107], [119]), ([113], [97, 61, 98])])] :=
  parse_render_partial ⟨.utf8⟩ sampleDoc sampleDoc_wf

/-- [a]␊k=1␊[b]␊x=1␊[a]␊j=2␊: repeated section header -/
def repeatedDoc : Doc :=
  { preamble := [],
    secs := [
      ⟨⟨[], [], [97], [], [], .lf, .none⟩, [⟨.entry ⟨[], [107], [], [], .none, [49], [], none⟩, .lf, .none⟩]⟩,
      ⟨⟨[], [], [98], [], [], .lf, .none⟩, [⟨.entry ⟨[], [120], [], [], .none, [49], [], none⟩, .lf, .none⟩]⟩,
      ⟨⟨[], [], [97], [], [], .lf, .none⟩, [⟨.entry ⟨[], [106], [], [], .none, [50], [], none⟩, .lf, .none⟩]⟩] }

private theorem repeatedDoc_wf : WF ⟨.none⟩ repeatedDoc = true := by decide +kernel

example : WF ⟨.none⟩ repeatedDoc = true := repeatedDoc_wf
example : meaning repeatedDoc = [([97], [([107], [49])]), ([98], [([120], [49])]), ([97], [([107], [49])])] := by decide +kernel
example : listed repeatedDoc = [([97], [([107], [49])]), ([97], [([107], [49])]), ([98], [([120], [49])])] := by decide +kernel
example : parseView (render ⟨.none⟩ repeatedDoc) = [([97], [([107], [49])]), ([97], [([107], [49])]), ([98], [([120], [49])])] :=
  parse_render_partial ⟨.none⟩ repeatedDoc repeatedDoc_wf
example : (parseView (render ⟨.utf16le⟩ repeatedDoc)).Perm (meaning repeatedDoc) := parse_render_perm _ _ (by decide +kernel)

example : parameterString (parse (render ⟨.none⟩ repeatedDoc)) [97] [107] (some [100]) = some [49] :=
  (lookup_render ⟨.none⟩ repeatedDoc repeatedDoc_wf [97] [([107], [49])] (by decide +kernel) [107] [49] (by decide +kernel) (some [100])).2.2
example : parameterString (parse (render ⟨.utf8⟩ sampleDoc)) [115] [113] none = some [97, 61, 98] :=
  (lookup_render ⟨.utf8⟩ sampleDoc sampleDoc_wf [115] [([107], [119]), ([113], [97, 61, 98])] (by decide +kernel) [113] [97, 61, 98] (by decide +kernel) none).2.2

example : Strict { sampleDoc with secs := sampleDoc.secs.drop 1 } = true := by decide +kernel
example : parseView (render ⟨.none⟩ { sampleDoc with secs := sampleDoc.secs.drop 1 }) = [([116], [([110], [52, 50])])] :=
  (parse_render_strict ⟨.none⟩ { sampleDoc with secs := sampleDoc.secs.drop 1 } (by decide +kernel) (by decide +kernel)).2

/-- [s]␊ FE FF k = v␊ EF BB BF ; c␊ FF FE ␣␊ 00 00 FE FF [t]␊ EF BB BF j=1 (no final newline): a mark before an entry, a
comment line, a blank line, a header and the last line -/
def markedDoc : Doc :=
  { preamble := [],
    secs := [
      ⟨⟨[], [], [115], [], [], .lf, .none⟩,
        [⟨.entry ⟨[], [107], [32], [32], .none, [118], [], none⟩, .lf, .utf16be⟩,
         ⟨.comment [] ⟨59, [32, 99]⟩, .lf, .utf8⟩,
         ⟨.blank [32], .lf, .utf16le⟩]⟩,
      ⟨⟨[], [], [116], [], [], .lf, .utf32be⟩,
        [⟨.entry ⟨[], [106], [], [], .none, [49], [], none⟩, .eof, .utf8⟩]⟩] }

private theorem markedDoc_wf : WF ⟨.utf8⟩ markedDoc = true := by decide +kernel

private theorem markedDoc_wf_none : WF ⟨.none⟩ markedDoc = true := by decide +kernel

example : WF ⟨.utf8⟩ markedDoc = true := markedDoc_wf
example : Unmarked markedDoc = false := by decide +kernel
example : render ⟨.none⟩ markedDoc = [91, 115, 93, 10, 0xFE, 0xFF, 107, 32, 61, 32, 118, 10, 0xEF, 0xBB, 0xBF, 59, 32, 99, 10,
    0xFF, 0xFE, 32, 10, 0, 0, 0xFE, 0xFF, 91, 116, 93, 10, 0xEF, 0xBB, 0xBF, 106, 61, 49] := by decide +kernel
example : meaning markedDoc = [([115], [([107], [118])]), ([116], [([106], [49])])] := by decide +kernel
example : parseView (render ⟨.utf8⟩ markedDoc) = [([116], [([106], [49])]), ([115], [([107], [118])])] :=
  parse_render_partial ⟨.utf8⟩ markedDoc markedDoc_wf
example : (parseView (render ⟨.none⟩ markedDoc)).Perm (meaning markedDoc) := parse_render_perm _ _ markedDoc_wf_none
example : parameterString (parse (render ⟨.none⟩ markedDoc)) [116] [106] none = some [49] :=
  (lookup_render ⟨.none⟩ markedDoc markedDoc_wf_none [116] [([106], [49])] (by decide +kernel) [106] [49] (by decide +kernel) none).2.2

/-- the first line carries the file's mark or its own, not both: the second one would not be skipped -/
example : WF ⟨.utf8⟩ { markedDoc with secs := markedDoc.secs.drop 1 } = false := by decide +kernel
example : WF ⟨.none⟩ { markedDoc with secs := markedDoc.secs.drop 1 } = true := by decide +kernel

example : Unmarked sampleDoc = true := by decide +kernel
example : parseView (render ⟨.utf8⟩ sampleDoc) = listed sampleDoc :=
  (parse_render_unmarked ⟨.utf8⟩ sampleDoc (by decide +kernel) (by decide +kernel)).2

example : (parse f3Input = []) := by decide +kernel
example : atoi [32, 45, 49, 50, 120] = .val (-12) := by decide +kernel
example : atoi [50, 49, 52, 55, 52, 56, 51, 54, 52, 56] = .overflow := by decide +kernel
example : toList [123, 49, 9, 50, 32, 32, 53, 125] = [[49], [50], [53]] := by decide +kernel
example : chomp [32, 9, 97, 32, 98, 11, 10] = [97, 32, 98] := by decide +kernel
example : strtokLoop [44, 32] 8 [44, 97, 44, 32, 98, 99, 44] = [[97], [98, 99]] := by decide +kernel

example : (fileParse (fun _ => .ok f3Input) (fileParse (fun _ => .ok [91, 115, 93, 10, 107, 61, 118]) (fileNew (some [102]))).1).1.map (·.file)
    = some [⟨[115], [([107], [118])]⟩] := by decide +kernel
example : apiBoolean (fileNew (some [102])) (some [115]) (some [107]) false = .val false := by decide +kernel
example : ((fileParseClose (fun _ => .ok [91, 115, 93, 10, 107, 61, 118]) false (fileNew (some [102]))).1.1.map (·.file),
           (fileParseClose (fun _ => .ok [91, 115, 93, 10, 107, 61, 118]) false (fileNew (some [102]))).1.2.1,
           (fileParseClose (fun _ => .ok [91, 115, 93, 10, 107, 61, 118]) false (fileNew (some [102]))).2)
    = (some [⟨[115], [([107], [118])]⟩], true, ⟨1, 1⟩) := by decide +kernel

end PV.Ini
