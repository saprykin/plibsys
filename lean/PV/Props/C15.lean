import PV.Model.HashTable
/-!
# C15 — hash table and list match their reference models

Spec: a map `Ptr → Option Ptr` (function) and plain `List` operations.
All theorems are for every 64-bit key/value pattern and every operation sequence.
Creation under allocation failure (`newTable_failure_clean`, `newTable_ok`; harness op `newf K`) is at the end.
-/
namespace PV.HT
open PV.Generated

theorem findNode_isSome_iff (c : Chain) (k : Ptr) : (findNode c k).isSome ↔ k ∈ c.map (·.1) := by
  fun_induction findNode c k with
  | case1 => simp
  | case2 => simp
  | case3 k' v rest h ih => simp [ih, Ne.symm h]

theorem findNode_setNode (c : Chain) (k v k' : Ptr) (h : (findNode c k).isSome) :
    findNode (setNode c k v) k' = if k' = k then some v else findNode c k' := by
  fun_induction setNode c k v with
  | case1 => cases h
  | case2 => simp only [findNode, eq_comm]; split <;> rfl
  | case3 a b rest hak ih =>
    rw [findNode, if_neg hak] at h
    rw [findNode, findNode, ih h]
    by_cases hk : a = k'
    · rw [if_pos hk, if_neg (hk ▸ hak), if_pos hk]
    · rw [if_neg hk, if_neg hk]

theorem findNode_unlink (c : Chain) (k k' : Ptr) (hnd : (c.map (·.1)).Nodup) :
    findNode (unlink c k) k' = if k' = k then none else findNode c k' := by
  fun_induction unlink c k with
  | case1 => simp [findNode]
  | case2 b rest =>
    rw [findNode]
    by_cases hk : k = k'
    · rw [if_pos hk.symm, ← hk]
      exact Option.not_isSome_iff_eq_none.1 (mt (findNode_isSome_iff rest k).1 (List.nodup_cons.1 hnd).1)
    · rw [if_neg hk, if_neg (Ne.symm hk)]
  | case3 a b rest hak ih =>
    rw [findNode, findNode, ih (List.nodup_cons.1 hnd).2]
    by_cases hk : a = k'
    · rw [if_pos hk, if_neg (hk ▸ hak), if_pos hk]
    · rw [if_neg hk, if_neg hk]

theorem keys_setNode (c : Chain) (k v : Ptr) : (setNode c k v).map (·.1) = c.map (·.1) := by
  fun_induction setNode c k v <;> simp_all

theorem unlink_sublist (c : Chain) (k : Ptr) : (unlink c k).Sublist c := by
  fun_induction unlink c k <;> simp_all

theorem findNode_eq_some_iff (c : Chain) (k v : Ptr) (hnd : (c.map (·.1)).Nodup) :
    findNode c k = some v ↔ (k, v) ∈ c := by
  fun_induction findNode c k with
  | case1 => simp
  | case2 b rest =>
    have hn : (k, v) ∉ rest := fun h => (List.nodup_cons.1 hnd).1 (List.mem_map.2 ⟨(k, v), h, rfl⟩)
    simp [hn, eq_comm]
  | case3 a b rest hak ih => simp [ih (List.nodup_cons.1 hnd).2, Ne.symm hak]

/-- every chain sits in the bucket its keys hash to, and holds each key at most once -/
structure WF (t : Table) : Prop where
  len : t.length = hashTableSize
  home : ∀ (i : Nat) (c : Chain), t[i]? = some c → ∀ p ∈ c, hash p.1 = some i
  nodup : ∀ (i : Nat) (c : Chain), t[i]? = some c → (c.map (·.1)).Nodup

theorem hash_lt {k : Ptr} {h : Nat} (hk : hash k = some h) : h < hashTableSize := by
  unfold hash calcHash at hk
  cases hs : hashSum hashAddSigned hashAddend k with
  | none => simp [hs] at hk
  | some s =>
    simp only [hs, Option.map_some, Option.some.injEq] at hk
    subst hk
    unfold bucketOfSum
    exact Nat.mod_lt _ (by decide)

theorem wf_empty : WF empty := by
  have nil : ∀ {i : Nat} {c : Chain}, empty[i]? = some c → c = [] := fun hc =>
    List.eq_of_mem_replicate (List.mem_of_getElem? hc)
  refine ⟨List.length_replicate, fun i c hc p hp => ?_, fun i c hc => ?_⟩
  · rw [nil hc] at hp
    cases hp
  · rw [nil hc]
    exact List.nodup_nil

theorem chainAt_get (t : Table) (h : Nat) (hl : h < t.length) : t[h]? = some (chainAt t h) := by
  simp [chainAt, List.getElem?_eq_getElem hl]

theorem chainAt_set (t : Table) (h i : Nat) (c : Chain) (hl : h < t.length) :
    chainAt (t.set h c) i = if i = h then c else chainAt t i := by
  simp only [chainAt, List.getElem?_set]
  by_cases hi : h = i
  · subst hi; simp [hl]
  · have : ¬ i = h := fun e => hi e.symm
    simp [hi, this]

private theorem WF.lt {t : Table} (wf : WF t) {k : Ptr} {h : Nat} (hk : hash k = some h) : h < t.length :=
  wf.len ▸ hash_lt hk

private theorem WF.get {t : Table} (wf : WF t) {k : Ptr} {h : Nat} (hk : hash k = some h) :
    t[h]? = some (chainAt t h) :=
  chainAt_get t h (wf.lt hk)

private theorem getElem?_set_some {t : Table} {h i : Nat} {c c' : Chain} (hc : (t.set h c)[i]? = some c') :
    i = h ∧ c' = c ∨ t[i]? = some c' := by
  rw [List.getElem?_set] at hc
  split at hc
  · next hi =>
    split at hc
    · exact .inl ⟨hi.symm, (Option.some.inj hc).symm⟩
    · cases hc
  · exact .inr hc

/-- replacing one chain by a chain that is still at home and duplicate-free keeps `WF` -/
theorem wf_set {t : Table} (wf : WF t) {h : Nat} (hl : h < t.length) (c : Chain)
    (hhome : ∀ p ∈ c, hash p.1 = some h) (hnd : (c.map (·.1)).Nodup) : WF (t.set h c) := by
  have _ := hl
  refine ⟨by simp [wf.len], fun i c' hc => ?_, fun i c' hc => ?_⟩
  · rcases getElem?_set_some hc with ⟨rfl, rfl⟩ | hc
    · exact hhome
    · exact wf.home i c' hc
  · rcases getElem?_set_some hc with ⟨rfl, rfl⟩ | hc
    · exact hnd
    · exact wf.nodup i c' hc

theorem wf_insertAt {t : Table} (wf : WF t) {k v : Ptr} {h : Nat} (hk : hash k = some h) :
    WF (insertAt t h k v) := by
  have hget := wf.get hk
  unfold insertAt
  split
  · next hf =>
    apply wf_set wf (wf.lt hk)
    · intro p hp
      have hm : p.1 ∈ (setNode (chainAt t h) k v).map (·.1) := List.mem_map_of_mem hp
      rw [keys_setNode] at hm
      obtain ⟨q, hq, hq1⟩ := List.mem_map.mp hm
      rw [← hq1]
      exact wf.home _ _ hget q hq
    · rw [keys_setNode]; exact wf.nodup _ _ hget
  · next hf =>
    apply wf_set wf (wf.lt hk)
    · intro p hp
      rcases List.mem_cons.mp hp with rfl | hp
      · exact hk
      · exact wf.home _ _ hget p hp
    · simp only [List.map_cons, List.nodup_cons]
      refine ⟨?_, wf.nodup _ _ hget⟩
      intro hm
      exact hf ((findNode_isSome_iff _ _).mpr hm)

theorem wf_removeAt {t : Table} (wf : WF t) {k : Ptr} {h : Nat} (hk : hash k = some h) :
    WF (removeAt t h k) := by
  have hget := wf.get hk
  unfold removeAt
  split
  · have hsub := unlink_sublist (chainAt t h) k
    apply wf_set wf (wf.lt hk)
    · intro p hp; exact wf.home _ _ hget p (hsub.subset hp)
    · exact (wf.nodup _ _ hget).sublist (hsub.map _)
  · exact wf

/-- what the table means: the map from keys to stored values -/
def abs (t : Table) (k : Ptr) : Option Ptr :=
  match hash k with
  | some h => findNode (chainAt t h) k
  | none => none

/-- a bucket whose chain now finds `r` for `k` and what it found before for every other key -/
private theorem abs_set {t : Table} (wf : WF t) {k : Ptr} {h : Nat} (hk : hash k = some h) {c : Chain}
    {r : Option Ptr} (hc : ∀ k', findNode c k' = if k' = k then r else findNode (chainAt t h) k') (k' : Ptr)
    (hk' : (hash k').isSome) : abs (t.set h c) k' = if k' = k then r else abs t k' := by
  obtain ⟨h', hh'⟩ := Option.isSome_iff_exists.mp hk'
  simp only [abs, hh', chainAt_set _ _ _ _ (wf.lt hk)]
  by_cases eh : h' = h
  · rw [if_pos eh, eh, hc]
  · -- another bucket, so another key
    have : k' ≠ k := fun e => eh (Option.some.inj (by rw [← hh', e, hk]))
    rw [if_neg eh, if_neg this]

/-- **insert adds or overwrites, other keys untouched** (for every key the hash is defined on) -/
theorem abs_insert {t t' : Table} (wf : WF t) {k v : Ptr} (hi : insert t k v = some t') (k' : Ptr)
    (hk' : (hash k').isSome) :
    abs t' k' = if k' = k then some v else abs t k' := by
  obtain ⟨h, hk, rfl⟩ := Option.map_eq_some_iff.1 hi
  unfold insertAt
  split
  · next hf => exact abs_set wf hk (fun _ => findNode_setNode _ _ _ _ hf) k' hk'
  · exact abs_set wf hk (fun _ => by simp only [findNode, eq_comm]) k' hk'

/-- **remove deletes only that key** -/
theorem abs_remove {t t' : Table} (wf : WF t) {k : Ptr} (hi : remove t k = some t') (k' : Ptr)
    (hk' : (hash k').isSome) :
    abs t' k' = if k' = k then none else abs t k' := by
  obtain ⟨h, hk, rfl⟩ := Option.map_eq_some_iff.1 hi
  unfold removeAt
  split
  · exact abs_set wf hk (fun _ => findNode_unlink _ _ _ (wf.nodup _ _ (wf.get hk))) k' hk'
  · next hf =>
    split
    · next e => rw [e, abs, hk]; exact Option.not_isSome_iff_eq_none.1 hf
    · rfl

/-- **lookup returns the stored value or the not-found marker** -/
theorem lookup_eq_abs (t : Table) (k : Ptr) (h : Nat) (hk : hash k = some h) :
    lookup t k = some (abs t k) := by
  simp [lookup, abs, hk]

theorem abs_empty (k : Ptr) : abs empty k = none := by
  unfold abs
  cases hk : hash k with
  | none => rfl
  | some h =>
    have := hash_lt hk
    simp [empty, chainAt, this, findNode]

/-- **keys/values list exactly the current content**: `(k, v)` is a listed node iff the map
    sends `k` to `v`; -/
theorem mem_nodes_iff {t : Table} (wf : WF t) (k v : Ptr) :
    (k, v) ∈ nodes t ↔ abs t k = some v := by
  unfold nodes abs
  constructor
  · intro hm
    obtain ⟨c, hc, hp⟩ := List.mem_flatten.mp hm
    obtain ⟨i, hget⟩ := List.mem_iff_getElem?.mp hc
    rw [wf.home i c hget _ hp]
    simp only [chainAt, hget, Option.getD_some]
    exact (findNode_eq_some_iff c k v (wf.nodup i c hget)).mpr hp
  · intro hf
    cases hk : hash k with
    | none => simp [hk] at hf
    | some h =>
      simp only [hk] at hf
      have hget := wf.get hk
      have := (findNode_eq_some_iff _ k v (wf.nodup _ _ hget)).mp hf
      exact List.mem_flatten.mpr ⟨_, List.mem_of_getElem? hget, this⟩

/-- each key is listed at most once -/
theorem keys_nodup {t : Table} (wf : WF t) : (keys t).Nodup := by
  unfold keys nodes
  rw [List.map_flatten]
  unfold List.Nodup
  rw [List.pairwise_flatten]
  constructor
  · intro l hl
    obtain ⟨c, hc, rfl⟩ := List.mem_map.mp hl
    obtain ⟨i, hget⟩ := List.mem_iff_getElem?.mp hc
    exact wf.nodup i c hget
  · rw [List.pairwise_map, List.pairwise_iff_getElem]
    intro i j hi hj hij a ha b hb hab
    obtain ⟨p, hp, rfl⟩ := List.mem_map.mp ha
    obtain ⟨q, hq, hpq⟩ := List.mem_map.mp hb
    -- one key in two buckets would hash to both
    have h1 := wf.home i _ (List.getElem?_eq_getElem hi) p hp
    have h2 := wf.home j _ (List.getElem?_eq_getElem hj) q hq
    rw [hpq, ← hab, h1] at h2
    exact Nat.ne_of_lt hij (Option.some.inj h2)

theorem keys_values_zip (t : Table) : (keys t).zip (values t) = nodes t := by
  unfold keys values
  generalize nodes t = l
  induction l with
  | nil => rfl
  | cons p r ih => simp [ih]

/-- lookup by value through a compare function lists exactly the keys whose current value the function calls equal
    (`p x` = `func (x, val) == 0`), for any such function -/
theorem lookupByValueF_spec {t : Table} (wf : WF t) (p : Ptr → Bool) (k : Ptr) :
    k ∈ lookupByValueF t p ↔ ∃ v, abs t k = some v ∧ p v = true := by
  unfold lookupByValueF
  constructor
  · intro h
    obtain ⟨n, hn, rfl⟩ := List.mem_map.mp h
    have := List.mem_filter.mp hn
    exact ⟨n.2, (mem_nodes_iff wf n.1 n.2).mp this.1, this.2⟩
  · rintro ⟨v, hv, hp⟩
    exact List.mem_map.mpr ⟨(k, v), List.mem_filter.mpr ⟨(mem_nodes_iff wf k v).mpr hv, hp⟩, rfl⟩

/-- … each such key once -/
theorem lookupByValueF_nodup {t : Table} (wf : WF t) (p : Ptr → Bool) : (lookupByValueF t p).Nodup := by
  have h := keys_nodup wf
  unfold keys at h
  unfold lookupByValueF
  exact (List.filter_sublist.map _).nodup h

/-- without a function the comparison is pointer equality on the full word -/
theorem lookupByValue_eq_F (t : Table) (v : Ptr) : lookupByValue t v = lookupByValueF t (fun x => x = v) := by
  simp [lookupByValue, lookupByValueF]

theorem lookupByValue_spec {t : Table} (wf : WF t) (v k : Ptr) :
    k ∈ lookupByValue t v ↔ abs t k = some v := by
  rw [lookupByValue_eq_F, lookupByValueF_spec wf]
  simp

/-! ## whole operation sequences refine the map -/

inductive Op where
  | ins (k v : Ptr) | rem (k : Ptr) | get (k : Ptr)

def Spec := Ptr → Option Ptr
def specStep (m : Spec) : Op → Spec × Option (Option Ptr)
  | .ins k v => (fun k' => if k' = k then some v else m k', none)
  | .rem k => (fun k' => if k' = k then none else m k', none)
  | .get k => (m, some (m k))

def step (t : Table) : Op → Option (Table × Option (Option Ptr))
  | .ins k v => (insert t k v).map (·, none)
  | .rem k => (remove t k).map (·, none)
  | .get k => (lookup t k).map fun r => (t, some r)

def run (t : Table) : List Op → Option (Table × List (Option (Option Ptr)))
  | [] => some (t, [])
  | op :: ops => do
      let (t', o) ← step t op
      let (t'', os) ← run t' ops
      pure (t'', o :: os)

def specRun (m : Spec) : List Op → Spec × List (Option (Option Ptr))
  | [] => (m, [])
  | op :: ops =>
      let (m', o) := specStep m op
      let (m'', os) := specRun m' ops
      (m'', o :: os)

/-- the hash computation is defined (no undefined behaviour) for **every** key -/
theorem hash_no_ub (k : Ptr) : (hash k).isSome := by
  simp [hash, calcHash, hashSum, hashAddSigned]

/-! ### insert while the allocator fails -/

/-- the key is stored already: no allocation is needed, the insert overwrites as always -/
theorem insertOOM_present {t : Table} {k v : Ptr} {h : Nat} (hk : hash k = some h)
    (hp : (findNode (chainAt t h) k).isSome) : insertOOM t k v = insert t k v := by
  simp [insertOOM, insert, hk, insertAtOOM, insertAt, hp]

/-- a new key: nothing is added and nothing else changes — the table is the same table -/
theorem insertOOM_absent {t : Table} {k v : Ptr} {h : Nat} (hk : hash k = some h)
    (hp : (findNode (chainAt t h) k).isSome = false) : insertOOM t k v = some t := by
  simp [insertOOM, hk, insertAtOOM, hp]

/-- seen through the map: a failed allocation changes the map only by overwriting a key that is present -/
theorem abs_insertOOM {t t' : Table} (wf : WF t) {k v : Ptr} (hi : insertOOM t k v = some t') (k' : Ptr)
    (hk' : (hash k').isSome) :
    abs t' k' = if k' = k ∧ (abs t k).isSome then some v else abs t k' := by
  obtain ⟨h, hk, rfl⟩ := Option.map_eq_some_iff.1 hi
  have : abs t k = findNode (chainAt t h) k := by rw [abs, hk]
  rw [this]
  unfold insertAtOOM
  split
  · next hf =>
    rw [abs_set wf hk (fun _ => findNode_setNode _ _ _ _ hf) k' hk']
    simp [hf]
  · next hf => rw [if_neg fun e => hf e.2]

/-- well-formedness survives the failed insert -/
theorem wf_insertOOM {t t' : Table} (wf : WF t) {k v : Ptr} (hi : insertOOM t k v = some t') : WF t' := by
  obtain ⟨h, hk, rfl⟩ := Option.map_eq_some_iff.1 hi
  unfold insertAtOOM
  split
  · next hf =>
    have := wf_insertAt wf (v := v) hk
    rwa [insertAt, if_pos hf] at this
  · exact wf

private theorem step_refines {t : Table} {m : Spec} (wf : WF t) (hm : ∀ k, abs t k = m k) (op : Op) :
    ∃ t' o, step t op = some (t', o) ∧ WF t' ∧ (specStep m op).2 = o ∧ ∀ k, abs t' k = (specStep m op).1 k := by
  cases op with
  | ins k v =>
    obtain ⟨h, hk⟩ := Option.isSome_iff_exists.mp (hash_no_ub k)
    have hi : insert t k v = some (insertAt t h k v) := by rw [insert, hk]; rfl
    exact ⟨_, _, by rw [step, hi]; rfl, wf_insertAt wf hk, rfl,
      fun k' => by rw [abs_insert wf hi k' (hash_no_ub k'), hm]; rfl⟩
  | rem k =>
    obtain ⟨h, hk⟩ := Option.isSome_iff_exists.mp (hash_no_ub k)
    have hi : remove t k = some (removeAt t h k) := by rw [remove, hk]; rfl
    exact ⟨_, _, by rw [step, hi]; rfl, wf_removeAt wf hk, rfl,
      fun k' => by rw [abs_remove wf hi k' (hash_no_ub k'), hm]; rfl⟩
  | get k =>
    obtain ⟨h, hk⟩ := Option.isSome_iff_exists.mp (hash_no_ub k)
    exact ⟨_, _, by rw [step, lookup_eq_abs t k h hk, hm]; rfl, wf, rfl, hm⟩

/-- **Main refinement theorem**: every operation sequence on the empty table is UB-free, and
    gives exactly the outputs of the reference map, for all keys/values. -/
theorem run_refines (ops : List Op) (t : Table) (m : Spec) (wf : WF t) (hm : ∀ k, abs t k = m k) :
    ∃ t' outs, run t ops = some (t', outs) ∧ WF t' ∧ (specRun m ops).2 = outs ∧
      ∀ k, abs t' k = (specRun m ops).1 k := by
  induction ops generalizing t m with
  | nil => exact ⟨t, [], rfl, wf, rfl, hm⟩
  | cons op ops ih =>
    obtain ⟨t1, o, h1, wf1, ho1, hm1⟩ := step_refines wf hm op
    obtain ⟨t', outs, hr, hw, ho, ha⟩ := ih t1 _ wf1 hm1
    exact ⟨t', o :: outs, by simp [run, h1, hr], hw, by simp [specRun, ho1, ho], ha⟩

theorem run_refines_empty (ops : List Op) :
    ∃ t' outs, run empty ops = some (t', outs) ∧ WF t' ∧ (specRun (fun _ => none) ops).2 = outs := by
  obtain ⟨t', outs, h1, h2, h3, _⟩ := run_refines ops empty (fun _ => none) wf_empty abs_empty
  exact ⟨t', outs, h1, h2, h3⟩

/-- every bucket index is inside the table -/
theorem bucket_in_range (k : Ptr) (h : Nat) (hk : hash k = some h) : h < hashTableSize := hash_lt hk

/-! ## PList = sequence operations -/

theorem lRemove_eq_erase (l : PList) (d : Ptr) : lRemove l d = l.erase d := by
  induction l with
  | nil => rfl
  | cons x xs ih =>
    by_cases h : x = d
    · simp [lRemove, h]
    · simp [lRemove, h, ih]

theorem lRevLoop_eq (p c : PList) : lRevLoop p c = c.reverse ++ p := by
  induction c generalizing p with
  | nil => rfl
  | cons x xs ih => simp [lRevLoop, ih]

theorem lReverse_eq (l : PList) : lReverse l = l.reverse := by
  cases l with
  | nil => rfl
  | cons x xs => simp [lReverse, lRevLoop_eq]

theorem lLast_eq (l : PList) : lLast l = l.getLast? := by
  induction l with
  | nil => rfl
  | cons x xs ih =>
    cases xs with
    | nil => rfl
    | cons y ys => simp only [lLast, ih, List.getLast?_cons_cons]

/-- `p_list_foreach` hands every element to the callback, once, in list order -/
theorem lForeach_eq (l : PList) : lForeach l = l := by
  induction l with
  | nil => rfl
  | cons x xs ih => simp [lForeach, ih]

theorem lLength_eq (l : PList) : lLength l = l.length := by
  induction l with
  | nil => rfl
  | cons x xs ih =>
    cases xs with
    | nil => rfl
    | cons y ys => simp only [lLength, ih, List.length_cons]

/-! ## creation (`p_hash_table_new`) with scripted allocation results -/

/-- a creation whose handle or bucket-array allocation fails gives NULL and keeps no block (the handle is given back) -/
theorem newTable_failure_clean (handleOk arrayOk : Bool) (h : (handleOk && arrayOk) = false) :
    newTable handleOk arrayOk = (none, 0) := by
  cases handleOk <;> cases arrayOk <;> simp_all [newTable]

/-- a creation whose two allocations succeed gives the empty, well-formed table in which no key is found -/
theorem newTable_ok : ∃ t, newTable true true = (some t, 2) ∧ WF t ∧ ∀ k, abs t k = none :=
  ⟨empty, rfl, wf_empty, abs_empty⟩

/-- the source fact the translator pins (`tools/extract.py`, refusing any other text): every function of phashtable.c and
    plist.c is the text this model was written from, and neither file has file-scope state -/
theorem container_source_as_modelled : Generated.containerShapesAsModelled = true := by decide

example : WF empty := wf_empty
example : (run empty [.ins 0 5, .ins 0xFFFFFFFFFFFFFFFF 6, .ins 0x7FFFFFFF 7, .get 0x7FFFFFFF, .rem 0, .get 0]).isSome := by
  decide

/-! non-vacuity of the allocation-failure and compare-function statements: a new key under a failed allocation leaves the
    table alone, a present key is overwritten, and a (non-symmetric) compare function selects by the stored value -/
example : (insert empty 5 1).bind (fun t => insertOOM t 106 2) = insert empty 5 1 := by decide
example : (insert empty 5 1).bind (fun t => insertOOM t 5 2) = insert empty 5 2 := by decide
example : ((insert empty 7 0x109).bind (fun t => insert t 9 0x300)).map (fun t => lookupByValueF t (fun x => x >>> 8 == 1)) = some [7] := by decide
example : lForeach [1, 2, 3] = [1, 2, 3] := by decide
/-! non-vacuity of the creation statements: the second allocation failing, and both succeeding -/
example : newTable true false = (none, 0) := newTable_failure_clean true false rfl
example : (newTable true true).1.isSome = true := by decide

end PV.HT
