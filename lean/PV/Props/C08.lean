import PV.Model.ShmBuffer
import PV.Spec.Queue
import PV.Lemmas.ShmBuffer
import PV.Generated.ShmBuffer
/-!
# C08 — the shared-memory buffer is one bounded FIFO byte queue

`M` is the ring modulus (`buf->size`), the capacity is `S = M − 1`.  All theorems hold for every
capacity `1 ≤ S < 2^31 − 1`, every position of `rd`/`wr` (so every wrap-around), every length.
The `2^31` bound is the `(pint)` cast of the read result (API-inherent).
Last section: the error exits taken when `p_shm_lock` / `p_shm_unlock` fail (`writeL`, `readL`, … with a `LockScript`).
-/
namespace PV.SB

/-- **used + free = capacity**, always -/
theorem used_add_free {M : Nat} {s : Shared} (wf : WF M s) : usedSpace M s + freeSpace M s = M - 1 := by
  have := usedSpace_lt wf
  rw [freeSpace_eq wf]
  omega

/-- the space queries are the queue's -/
theorem used_is_length {M : Nat} {s : Shared} (wf : WF M s) : usedSpace M s = Queue.used (abs M s) := by
  have _ := wf
  exact (abs_length M s).symm

theorem free_is_capacity_minus_length {M : Nat} {s : Shared} (wf : WF M s) :
    freeSpace M s = Queue.free (M - 1) (abs M s) := by
  rw [freeSpace_eq wf, Queue.free, abs_length]

/-- **write**: never faults, keeps the state well-formed, and is exactly the queue's all-or-nothing append -/
theorem write_refines {M : Nat} {s : Shared} (wf : WF M s) (xs : List UInt8) :
    ∃ s' r, write M s xs = .ok s' r ∧ WF M s' ∧ (abs M s', r) = Queue.write (M - 1) (abs M s) xs := by
  have hfree := freeSpace_eq wf
  have hu := usedSpace_lt wf
  unfold Queue.write
  rw [abs_length]
  by_cases h0 : xs.length = 0
  · exact ⟨s, -1, by rw [write, if_pos h0], wf, by rw [if_pos h0]⟩
  by_cases h1 : freeSpace M s < xs.length
  · exact ⟨s, 0, by rw [write, if_neg h0, if_pos h1], wf, by rw [if_neg h0, if_neg (by omega)]⟩
  obtain ⟨s', e, wf', a⟩ := write_fits wf h0 (by omega)
  exact ⟨s', _, e, wf', by rw [if_neg h0, if_pos (by omega), a]⟩

/-- **read**: never faults, returns the oldest `min len used` bytes in order and removes them -/
theorem read_refines {M : Nat} {s : Shared} (wf : WF M s) (len : Nat) :
    ∃ s' out r, read M s len = .ok s' (out, r) ∧ WF M s' ∧ (abs M s', out, r) = Queue.read (abs M s) len := by
  unfold Queue.read
  by_cases h0 : len = 0
  · exact ⟨s, [], -1, by rw [read, if_pos h0], wf, by rw [if_pos h0]⟩
  by_cases h1 : s.rd = s.wr
  · have hnil : abs M s = [] := abs_nil (by rw [usedSpace_eq wf, if_pos (Nat.le_of_eq h1), h1, Nat.sub_self])
    exact ⟨s, [], 0, by rw [read, if_neg h0, if_pos h1], wf, by simp [h0, hnil]⟩
  obtain ⟨s', e, wf', a⟩ := read_takes wf h0 h1
  have hc : min len (usedSpace M s) < 2147483648 :=
    Nat.lt_of_le_of_lt (Nat.min_le_right ..) (Nat.lt_trans (usedSpace_lt wf) wf.mhi)
  exact ⟨s', _, _, e, wf', by rw [if_neg h0, a, abs_length, toPint_eq hc]⟩

/-- **clear** empties the queue -/
theorem clear_refines {M : Nat} {s : Shared} (wf : WF M s) : WF M (clear M s) ∧ abs M (clear M s) = [] := by
  have hM : 0 < M := Nat.lt_of_lt_of_le (by decide) wf.mlo
  exact abs_mk (r := 0) (u := 0) wf.mlo wf.mhi hM hM (by simp [wf.len])

/-- a freshly created (zero-filled) segment is an empty queue -/
theorem init_refines {M : Nat} (h1 : 2 ≤ M) (h2 : M < 2147483648) : WF M (init M) ∧ abs M (init M) = [] := by
  have hM : 0 < M := Nat.lt_of_lt_of_le (by decide) h1
  exact abs_mk (r := 0) (u := 0) h1 h2 hM hM List.length_replicate

/-! ## every operation sequence, through any handles that share the modulus -/

inductive Op where
  | write (xs : List UInt8) | read (len : Nat) | clear | used | free

inductive Out where
  | wrote (r : Int) | got (bytes : List UInt8) (r : Int) | done | num (n : Nat)
deriving DecidableEq

def step (M : Nat) (s : Shared) : Op → Option (Shared × Out)
  | .write xs => match write M s xs with | .ok s' r => some (s', .wrote r) | .fault => none
  | .read len => match read M s len with | .ok s' (o, r) => some (s', .got o r) | .fault => none
  | .clear => some (clear M s, .done)
  | .used => some (s, .num (usedSpace M s))
  | .free => some (s, .num (freeSpace M s))

def specStep (S : Nat) (q : Queue.Q) : Op → Queue.Q × Out
  | .write xs => let (q', r) := Queue.write S q xs; (q', .wrote r)
  | .read len => let (q', o, r) := Queue.read q len; (q', .got o r)
  | .clear => ([], .done)
  | .used => (q, .num (Queue.used q))
  | .free => (q, .num (Queue.free S q))

def run (M : Nat) (s : Shared) : List Op → Option (Shared × List Out)
  | [] => some (s, [])
  | op :: ops => do
      let (s', o) ← step M s op
      let (s'', os) ← run M s' ops
      pure (s'', o :: os)

def specRun (S : Nat) (q : Queue.Q) : List Op → Queue.Q × List Out
  | [] => (q, [])
  | op :: ops =>
      let (q', o) := specStep S q op
      let (q'', os) := specRun S q' ops
      (q'', o :: os)

private theorem step_refines {M : Nat} {s : Shared} (wf : WF M s) (op : Op) :
    ∃ s' o, step M s op = some (s', o) ∧ WF M s' ∧ specStep (M - 1) (abs M s) op = (abs M s', o) := by
  cases op with
  | write xs =>
    obtain ⟨s1, r, h1, wf1, e1⟩ := write_refines wf xs
    exact ⟨s1, .wrote r, by simp [step, h1], wf1, by simp [specStep, ← e1]⟩
  | read len =>
    obtain ⟨s1, o, r, h1, wf1, e1⟩ := read_refines wf len
    exact ⟨s1, .got o r, by simp [step, h1], wf1, by simp [specStep, ← e1]⟩
  | clear => exact ⟨_, _, rfl, (clear_refines wf).1, by rw [(clear_refines wf).2]; rfl⟩
  | used => exact ⟨_, _, rfl, wf, by rw [used_is_length wf]; rfl⟩
  | free => exact ⟨_, _, rfl, wf, by rw [free_is_capacity_minus_length wf]; rfl⟩

/-- **Main theorem.** For every capacity and every sequence of write/read/clear/space queries with
    every length, the buffer never touches memory outside its data area (`run` is `some`) and
    answers exactly as the FIFO queue of capacity `M − 1`. -/
theorem run_refines {M : Nat} (ops : List Op) (s : Shared) (wf : WF M s) :
    ∃ s' outs, run M s ops = some (s', outs) ∧ WF M s' ∧
      specRun (M - 1) (abs M s) ops = (abs M s', outs) := by
  induction ops generalizing s with
  | nil => exact ⟨s, [], rfl, wf, rfl⟩
  | cons op ops ih =>
    obtain ⟨s1, o, h1, wf1, e1⟩ := step_refines wf op
    obtain ⟨s', outs, h2, wf2, e2⟩ := ih s1 wf1
    exact ⟨s', o :: outs, by simp [run, h1, h2], wf2, by simp [specRun, e1, e2]⟩

/-! ## lengths far beyond the capacity

The driver answers `wz H LEN` (a write of `LEN` zero bytes, `LEN` up to 2^64 − 1) with `writeZeros`; it is the
same function as `write` on that input, for the model and for the reference queue alike, so `run_refines`
speaks about those calls too. -/
theorem setRange_length {d : List UInt8} {st : Nat} {xs d' : List UInt8} (h : setRange d st xs = some d') :
    d'.length = d.length := by
  by_cases hf : st + xs.length ≤ d.length
  · obtain ⟨_, e, hl, _⟩ := setRange_spec d st xs hf
    rw [e] at h
    cases h
    exact hl
  · rw [setRange, if_neg hf] at h
    cases h

/-- a write that passes the free-space test but is longer than data area + modulus runs out of the data area -/
theorem write_fault_of_too_long (M : Nat) (s : Shared) (xs : List UInt8) (h0 : xs.length ≠ 0)
    (hf : ¬ freeSpace M s < xs.length) (hl : s.data.length + M < xs.length) : write M s xs = .fault := by
  unfold write
  have h1 : ¬ (s.wr % M + xs.length ≤ M) := by omega
  simp only [h0, hf, h1, if_false]
  cases e1 : setRange s.data (s.wr % M) (List.take (M - s.wr % M) xs) with
  | none => rfl
  | some d1 =>
    have : setRange d1 0 (List.drop (M - s.wr % M) xs) = none :=
      if_neg (by rw [List.length_drop, setRange_length e1]; omega)
    simp only [this]

theorem writeZeros_eq_write (M : Nat) (s : Shared) (n : Nat) : writeZeros M s n = write M s (List.replicate n 0) := by
  unfold writeZeros
  by_cases h : n ≠ 0 ∧ freeSpace M s < n
  · unfold write; simp [h, List.length_replicate]
  · rw [if_neg h]
    by_cases hl : s.data.length + M < n
    · rw [if_pos hl]
      by_cases h0 : n = 0
      · omega
      · have hf : ¬ freeSpace M s < n := fun hh => h ⟨h0, hh⟩
        exact (write_fault_of_too_long M s (List.replicate n 0) (by simpa using h0) (by simpa using hf) (by simpa using hl)).symm
    · rw [if_neg hl]

theorem queue_writeZeros_eq_write (S : Nat) (q : Queue.Q) (n : Nat) :
    Queue.writeZeros S q n = Queue.write S q (List.replicate n 0) := by
  unfold Queue.writeZeros Queue.write
  by_cases h : n ≠ 0 ∧ ¬ n ≤ S - q.length
  · simp [h, List.length_replicate]
  · rw [if_neg h]

/-- a write longer than the capacity is refused whatever the state (so is every length ≥ 2^32) -/
theorem write_longer_than_capacity {M : Nat} {s : Shared} (wf : WF M s) (xs : List UInt8) (h : M - 1 < xs.length) :
    ∃ s', write M s xs = .ok s' 0 ∧ abs M s' = abs M s := by
  have := freeSpace_eq wf
  exact ⟨s, by rw [write, if_neg (by omega), if_pos (by omega)], rfl⟩

/-! ## the source text is the text the model was written from -/
theorem source_shape_as_modelled : Generated.shmBufferShapeAsModelled = true := by decide

/-! ## concurrent reads and writes are atomic with respect to each other

Every operation of `pshmbuffer.c` touches the shared segment only between `p_shm_lock` and
`p_shm_unlock` of the per-name lock, on every path (a fact the translator re-derives from the
current source by walking the statement tree of each function).  With the lock being one system-wide
mutex per name (C07 `lock_is_mutex`) concurrent operations are therefore serialised, and each one is
the sequential step proved above. -/
theorem ops_bracketed_by_lock : Generated.shmBufferOpsBracketed = true := by decide

/-! ## handles opened with a *different* size argument (finding F6)

The full-strength statement "every handle of a name sees the same queue" would need every handle
to use the same modulus.  `p_shm_buffer_new` derives the modulus from `p_shm_get_size`, which
`p_shm_new` clamps to the *requested* size when the existing segment is larger, so a second handle
opened with a smaller size argument uses a smaller modulus on the same header words.
The theorems above are therefore the `…_partial` form: they hold for all handles that share `M`.
The negation of the full statement, on a concrete witness: -/

/-- 20 bytes written through a handle of capacity 64 are read back *wrong* through a handle that was
    opened with size 16 (modulus 17): it wraps at 17 and returns bytes 0,1,2 in place of 17,18,19. -/
theorem handles_with_unequal_size_disagree :
    let xs : List UInt8 := (List.range 20).map (·.toUInt8)
    ∃ s1 s2 out r, write 65 (init 65) xs = .ok s1 20 ∧ read 17 s1 64 = .ok s2 (out, r) ∧ out ≠ xs := by
  intro xs
  refine ⟨{ rd := 0, wr := 20, data := xs ++ List.replicate 45 0 },
    { rd := 3, wr := 20, data := xs ++ List.replicate 45 0 },
    xs.take 17 ++ xs.take 3, 20, by decide, by decide, by decide⟩

example : WF 5 { rd := 3, wr := 1, data := [1, 2, 3, 4, 5] } := by
  refine ⟨by decide, by decide, by decide, by decide, by decide⟩

/-! ## the lock calls of every operation fail (scripted): error exits of read / write / clear / space queries -/

/-- without a scripted failure the locked operations are the plain ones -/
theorem locked_ops_without_failure (M : Nat) (s : Shared) (xs : List UInt8) (len : Nat) :
    writeL {} M s xs = write M s xs ∧ readL {} M s len = read M s len ∧ clearL {} M s = clear M s ∧
    freeSpaceL {} M s = freeSpace M s ∧ usedSpaceL {} M s = usedSpace M s := by
  refine ⟨?_, ?_, rfl, rfl, rfl⟩
  · by_cases h : xs.length = 0
    · rw [writeL, write, if_pos h, if_pos h]
    · rw [writeL, if_neg h]
      cases write M s xs <;> rfl
  · by_cases h : len = 0
    · rw [readL, read, if_pos h, if_pos h]
    · rw [readL, if_neg h]
      cases read M s len <;> rfl

/-- **a failing `p_shm_lock`**: the call reports −1 and the buffer (positions and bytes) is exactly as before -/
theorem lock_failure_no_effect (u : Bool) (M : Nat) (s : Shared) (xs : List UInt8) (len n : Nat) :
    writeL ⟨true, u⟩ M s xs = .ok s (-1) ∧ writeZerosL ⟨true, u⟩ M s n = .ok s (-1) ∧ readL ⟨true, u⟩ M s len = .ok s ([], -1) ∧
    clearL ⟨true, u⟩ M s = s ∧ freeSpaceL ⟨true, u⟩ M s = -1 ∧ usedSpaceL ⟨true, u⟩ M s = -1 := by
  refine ⟨?_, ?_, ?_, rfl, rfl, rfl⟩ <;> simp only [writeL, writeZerosL, readL] <;> split <;> rfl

/-- **a failing `p_shm_unlock`**: −1 is reported although the operation took effect — the queue is the one after the
    write / read (all-or-nothing append, oldest bytes removed), still well-formed -/
theorem unlock_failure_keeps_effect {M : Nat} {s : Shared} (wf : WF M s) (xs : List UInt8) (len : Nat)
    (hx : xs.length ≠ 0) (hl : len ≠ 0) :
    (∃ s', writeL ⟨false, true⟩ M s xs = .ok s' (-1) ∧ WF M s' ∧ abs M s' = (Queue.write (M - 1) (abs M s) xs).1) ∧
    (∃ s', readL ⟨false, true⟩ M s len = .ok s' ([], -1) ∧ WF M s' ∧ abs M s' = (Queue.read (abs M s) len).1) := by
  obtain ⟨s1, r1, h1, w1, e1⟩ := write_refines wf xs
  obtain ⟨s2, o2, r2, h2, w2, e2⟩ := read_refines wf len
  refine ⟨⟨s1, ?_, w1, ?_⟩, ⟨s2, ?_, w2, ?_⟩⟩
  · simp [writeL, hx, h1]
  · rw [← e1]
  · simp [readL, hl, h2]
  · rw [← e2]

example : writeL ⟨true, false⟩ 4 (init 4) [1, 2] = .ok (init 4) (-1) := by decide
example : writeL ⟨false, true⟩ 4 (init 4) [1, 2] = .ok ⟨0, 2, [1, 2, 0, 0]⟩ (-1) := by decide

end PV.SB
