import PV.Props.C12
import PV.Lemmas.Tree.Natural
/-!
# C14 — every key/value is destroyed exactly once, at the call that takes it out of the tree

The destroy log of every call is part of the outputs that C12 proves equal to the spec's
(`Out.ins _ d`, `Out.rem _ _ d`, `Out.cleared _ d`), and the spec destroys exactly
* on insert: the pair that was stored under an equal key (`SM.find`), nothing otherwise;
* on remove: the pair stored under that key, nothing when absent;
* on clear / free: everything stored.
What remains is the bookkeeping over whole histories.  Histories may contain inserts whose node allocation fails
(`Op.insf`): what entered the tree is `entered cmp l ops`, which follows the spec state — such an insert hands its pair
over only on the replace path (`failed_insert_owns_nothing`; `entered_eq_inserted` for histories without them).

Last clause ("without notifiers the tree never frees or alters user keys and values"), for the model: the operations are
NATURAL in the key and value objects (`run_natural`, `run_natural_values`): renaming every value object by any function
`g` (and every key object by any comparator-preserving `h`) commutes with every history, for the spec and for the three
variants — same shape, balance factors / colours, counts, flags, log order; the objects renamed.  So the operations never
look inside a value, never change one, never make one up; of a key they learn only what the comparator says.
`values_never_altered`: every object stored or shown after any history is literally one of the objects the caller passed.
-/
namespace PV.Tree
open Std

variable {κ ν : Type} {cmp : κ → κ → Ordering}

/-- over any history, *destroyed so far* together with *still stored* is exactly *inserted so far*
    (as multisets): nothing is destroyed twice, nothing stored was destroyed, nothing is lost -/
theorem spec_destroyed_perm [TransCmp cmp] (ops : List (Op κ ν)) (l : List (κ × ν)) (hs : SM.Sorted cmp l) :
    (destroyed (specRun cmp l ops).2 ++ (specRun cmp l ops).1).Perm (entered cmp l ops ++ l) := by
  induction ops generalizing l with
  | nil => simp [specRun, destroyed, entered]
  | cons op ops ih =>
    cases op with
    | ins k v =>
      have h := ih (SM.insert cmp l k v) (SM.sorted_insert hs k v)
      simp only [specRun, specStep, destroyed, entered, List.append_assoc]
      refine (h.append_left _).trans ?_
      refine List.perm_append_comm_assoc _ _ _ |>.trans ?_
      refine ((SM.perm_insert hs k v).append_left _).trans ?_
      exact List.perm_middle
    | insf k v =>
      by_cases hf : (SM.find cmp l k).isSome = true
      · -- replace path: exactly the `ins` case
        have h := ih (SM.insert cmp l k v) (SM.sorted_insert hs k v)
        simp only [specRun, specStep, destroyed, entered, hf, if_true, List.append_assoc, List.singleton_append]
        refine (h.append_left _).trans ?_
        refine List.perm_append_comm_assoc _ _ _ |>.trans ?_
        refine ((SM.perm_insert hs k v).append_left _).trans ?_
        exact List.perm_middle
      · -- new key: nothing entered, nothing destroyed, nothing stored changed
        have h := ih l hs
        have hf' : (SM.find cmp l k).isSome = false := by simpa using hf
        simpa only [specRun, specStep, destroyed, entered, hf', Bool.false_eq_true, if_false, List.nil_append] using h
    | rem k =>
      have h := ih (SM.erase cmp l k) (SM.sorted_erase hs k)
      simp only [specRun, specStep, destroyed, entered, List.append_assoc]
      refine (h.append_left _).trans ?_
      refine List.perm_append_comm_assoc _ _ _ |>.trans ?_
      exact (SM.perm_erase hs k).append_left _
    | get k => simpa only [specRun, specStep, destroyed, entered] using ih l hs
    | each j => simpa only [specRun, specStep, destroyed, entered] using ih l hs
    | clear =>
      have h := ih [] (by simp [SM.Sorted])
      simp only [specRun, specStep, destroyed, entered, List.append_assoc]
      rw [List.append_nil] at h
      exact (h.append_left l).trans List.perm_append_comm
    | count => simpa only [specRun, specStep, destroyed, entered] using ih l hs

/-- the same for the three implementations, from the empty tree -/
theorem bst_destroyed_perm [TransCmp cmp] (ops : List (Op κ ν)) :
    (destroyed (bstRun cmp (.nil, 0) ops).2 ++ (bstRun cmp (.nil, 0) ops).1.1.toList).Perm (entered cmp [] ops) := by
  have ⟨h1, h2⟩ := bst_run_refines (cmp := cmp) ops
  rw [h1, h2]
  simpa using spec_destroyed_perm (cmp := cmp) ops [] (by simp [SM.Sorted])

theorem avl_destroyed_perm [TransCmp cmp] (ops : List (Op κ ν)) :
    ∃ s outs, avlRun cmp (.nil, 0) ops = some (s, outs) ∧ (destroyed outs ++ s.1.toList).Perm (entered cmp [] ops) := by
  obtain ⟨s, h1, h2⟩ := avl_run_refines (cmp := cmp) ops
  refine ⟨s, _, h1, ?_⟩
  rw [h2]
  simpa using spec_destroyed_perm (cmp := cmp) ops [] (by simp [SM.Sorted])

theorem rb_destroyed_perm [TransCmp cmp] (ops : List (Op κ ν)) :
    ∃ s outs, rbRun cmp (.nil, 0) ops = some (s, outs) ∧ (destroyed outs ++ s.1.toList).Perm (entered cmp [] ops) := by
  obtain ⟨s, h1, h2⟩ := rb_run_refines (cmp := cmp) ops
  refine ⟨s, _, h1, ?_⟩
  rw [h2]
  simpa using spec_destroyed_perm (cmp := cmp) ops [] (by simp [SM.Sorted])

/-- for a history without failing inserts, what entered is simply every pair given to an insert, in call order: there
    `spec_destroyed_perm` reads *destroyed ++ stored* is a permutation of *inserted* -/
theorem entered_eq_inserted (ops : List (Op κ ν)) (l : List (κ × ν)) (h : ∀ k v, Op.insf k v ∉ ops) :
    entered cmp l ops = inserted ops := by
  induction ops generalizing l with
  | nil => rfl
  | cons op ops ih =>
    have ih' := fun l' => ih l' (fun k v hm => h k v (List.mem_cons_of_mem _ hm))
    cases op with
    | insf k v => exact absurd List.mem_cons_self (h k v)
    | ins k v => simp only [entered, inserted, ih']
    | rem k => simp only [entered, inserted, ih']
    | get k => simp only [entered, inserted, ih']
    | each j => simp only [entered, inserted, ih']
    | clear => simp only [entered, inserted, ih']
    | count => simp only [entered, inserted, ih']

/-- **an insert that fails for lack of memory takes nothing and destroys nothing**: when no equal key is stored and the
    node allocation fails, the pair the caller passed does not enter the tree (it is in no later destroy log unless it is
    inserted again: `entered` does not list it), no stored object is handed to a notifier at that call, and what is stored
    is unchanged — in the spec and, literally (same tree, same count), in all three variants.  The caller still owns the
    key and the value it passed. -/
theorem failed_insert_owns_nothing (k : κ) (v : ν) (l : List (κ × ν)) (ops : List (Op κ ν))
    (hf : (SM.find cmp l k).isSome = false) :
    entered cmp l (.insf k v :: ops) = entered cmp l ops ∧
    destroyed (specRun cmp l (.insf k v :: ops)).2 = destroyed (specRun cmp l ops).2 ∧
    (specRun cmp l (.insf k v :: ops)).1 = (specRun cmp l ops).1 ∧
    (∀ s : BT κ ν × Int, (s.1.lookup cmp k).isSome = false → bstStep cmp s (.insf k v) = (s, .ins s.2 [])) ∧
    (∀ s : AT κ ν × Int, (s.1.toBT.lookup cmp k).isSome = false → avlStep cmp s (.insf k v) = some (s, .ins s.2 [])) ∧
    (∀ s : RT κ ν × Int, (s.1.toBT.lookup cmp k).isSome = false → rbStep cmp s (.insf k v) = some (s, .ins s.2 [])) := by
  have e : specStep cmp l (.insf k v) = (l, .ins l.length []) := (failed_insert_is_identity (cmp := cmp) k v).1 l hf
  have h2 := failed_insert_is_identity (cmp := cmp) k v
  refine ⟨?_, ?_, ?_, h2.2.1, h2.2.2.1, h2.2.2.2⟩
  · simp only [entered, hf, Bool.false_eq_true, if_false, List.nil_append, e]
  · simp only [specRun, e, destroyed, List.nil_append]
  · simp only [specRun, e]

section natural
variable {κ' ν' : Type} {cmp' : κ' → κ' → Ordering} {h : κ → κ'} {g : ν → ν'}

/-- **naturality in the key and value objects.**  `h` renames key objects and preserves the comparator, `g` is ANY function on
    value objects.  Running the renamed history on the renamed state gives the renamed result — for the spec and for the
    plain BST literally, for AVL and red-black including whether the C code would dereference NULL (`none`).  `map` keeps
    the shape, the stored balance factors / colours, `nnodes`, the flags and the order of every destroy log and visit
    list; it only renames the objects. -/
theorem run_natural (hc : ∀ a b, cmp' (h a) (h b) = cmp a b) (ops : List (Op κ ν)) :
    (∀ l : List (κ × ν), specRun cmp' (mapPairs h g l) (ops.map (Op.map h g)) =
      (mapPairs h g (specRun cmp l ops).1, (specRun cmp l ops).2.map (Out.map h g))) ∧
    (∀ s : BT κ ν × Int, bstRun cmp' (s.1.map h g, s.2) (ops.map (Op.map h g)) =
      (((bstRun cmp s ops).1.1.map h g, (bstRun cmp s ops).1.2), (bstRun cmp s ops).2.map (Out.map h g))) ∧
    (∀ s : AT κ ν × Int, avlRun cmp' (s.1.map h g, s.2) (ops.map (Op.map h g)) =
      (avlRun cmp s ops).map fun r => ((r.1.1.map h g, r.1.2), r.2.map (Out.map h g))) ∧
    (∀ s : RT κ ν × Int, rbRun cmp' (s.1.map h g, s.2) (ops.map (Op.map h g)) =
      (rbRun cmp s ops).map fun r => ((r.1.1.map h g, r.1.2), r.2.map (Out.map h g))) :=
  ⟨fun l => specRun_map hc l ops,
   fun s => by simpa only [bstRun_eq, Option.map_some, Option.some.injEq] using Variant.run_map hc (bstV_hom hc) s ops,
   fun s => by simpa only [avlRun_eq] using Variant.run_map hc (avlV_hom hc) s ops,
   fun s => by simpa only [rbRun_eq] using Variant.run_map hc (rbV_hom hc) s ops⟩

/-- the same for a single call (any state, any operation) -/
theorem step_natural (hc : ∀ a b, cmp' (h a) (h b) = cmp a b) (op : Op κ ν) :
    (∀ l : List (κ × ν), specStep cmp' (mapPairs h g l) (op.map h g) =
      (mapPairs h g (specStep cmp l op).1, (specStep cmp l op).2.map h g)) ∧
    (∀ s : BT κ ν × Int, bstStep cmp' (s.1.map h g, s.2) (op.map h g) =
      (((bstStep cmp s op).1.1.map h g, (bstStep cmp s op).1.2), (bstStep cmp s op).2.map h g)) ∧
    (∀ s : AT κ ν × Int, avlStep cmp' (s.1.map h g, s.2) (op.map h g) =
      (avlStep cmp s op).map fun r => ((r.1.1.map h g, r.1.2), r.2.map h g)) ∧
    (∀ s : RT κ ν × Int, rbStep cmp' (s.1.map h g, s.2) (op.map h g) =
      (rbStep cmp s op).map fun r => ((r.1.1.map h g, r.1.2), r.2.map h g)) :=
  ⟨fun l => specStep_map hc l op,
   fun s => by simpa only [bstStep_eq, Option.map_some, Option.some.injEq] using Variant.step_map hc (bstV_hom hc) s op,
   fun s => by simpa only [avlStep_eq] using Variant.step_map hc (avlV_hom hc) s op,
   fun s => by simpa only [rbStep_eq] using Variant.step_map hc (rbV_hom hc) s op⟩

/-- **values are only moved around**: the keys and the comparator untouched (`h = id`), `g` any function on values, no
    hypothesis at all -/
theorem run_natural_values (g : ν → ν') (ops : List (Op κ ν)) :
    (∀ l : List (κ × ν), specRun cmp (mapPairs id g l) (ops.map (Op.map id g)) =
      (mapPairs id g (specRun cmp l ops).1, (specRun cmp l ops).2.map (Out.map id g))) ∧
    (∀ s : BT κ ν × Int, bstRun cmp (s.1.map id g, s.2) (ops.map (Op.map id g)) =
      (((bstRun cmp s ops).1.1.map id g, (bstRun cmp s ops).1.2), (bstRun cmp s ops).2.map (Out.map id g))) ∧
    (∀ s : AT κ ν × Int, avlRun cmp (s.1.map id g, s.2) (ops.map (Op.map id g)) =
      (avlRun cmp s ops).map fun r => ((r.1.1.map id g, r.1.2), r.2.map (Out.map id g))) ∧
    (∀ s : RT κ ν × Int, rbRun cmp (s.1.map id g, s.2) (ops.map (Op.map id g)) =
      (rbRun cmp s ops).map fun r => ((r.1.1.map id g, r.1.2), r.2.map (Out.map id g))) :=
  run_natural (cmp := cmp) (cmp' := cmp) (h := id) (g := g) (fun _ _ => rfl) ops

end natural

/-- any property of the objects the caller passed (e.g. "is a live allocation of the caller", "has content c") holds of
    everything stored and shown: for the spec, and for each variant through its renaming from the subtypes -/
theorem objects_keep_any_property (P : κ → Prop) (Q : ν → Prop) (ops : List (Op κ ν))
    (H : ∀ op ∈ ops, (∀ k ∈ op.keys, P k) ∧ ∀ v ∈ op.vals, Q v) :
    AllObjects P Q (specRun cmp [] ops).1 (specRun cmp [] ops).2 ∧
    AllObjects P Q (bstRun cmp (.nil, 0) ops).1.1.toList (bstRun cmp (.nil, 0) ops).2 ∧
    (∀ s outs, avlRun cmp (.nil, 0) ops = some (s, outs) → AllObjects P Q s.1.toList outs) ∧
    (∀ s outs, rbRun cmp (.nil, 0) ops = some (s, outs) → AllObjects P Q s.1.toList outs) :=
  ⟨specRun_allObjects P Q ops H,
   Variant.run_allObjects (bstV_hom fun _ _ => rfl) ops H _ _ (bstRun_eq ..),
   fun s outs hr => Variant.run_allObjects (avlV_hom fun _ _ => rfl) ops H s outs (avlRun_eq (cmp := cmp) .. ▸ hr),
   fun s outs hr => Variant.run_allObjects (rbV_hom fun _ _ => rfl) ops H s outs (rbRun_eq (cmp := cmp) .. ▸ hr)⟩

/-- **the tree never alters or fabricates a user object**: after any history from the empty tree, every key object and
    every value object that is stored in the tree, returned by a lookup, shown to a `foreach` callback or handed to a destroy
    notifier is literally one of the key objects / value objects the caller passed in that history (`passedVals`: the values
    given to `p_tree_insert`) — for the spec, the plain BST, and for every completed AVL / red-black run (all of them:
    `avl_run_refines`, `rb_run_refines`).  No comparator law is needed. -/
theorem values_never_altered (ops : List (Op κ ν)) :
    AllObjects (· ∈ passedKeys ops) (· ∈ passedVals ops) (specRun cmp [] ops).1 (specRun cmp [] ops).2 ∧
    AllObjects (· ∈ passedKeys ops) (· ∈ passedVals ops) (bstRun cmp (.nil, 0) ops).1.1.toList (bstRun cmp (.nil, 0) ops).2 ∧
    (∀ s outs, avlRun cmp (.nil, 0) ops = some (s, outs) →
      AllObjects (· ∈ passedKeys ops) (· ∈ passedVals ops) s.1.toList outs) ∧
    (∀ s outs, rbRun cmp (.nil, 0) ops = some (s, outs) →
      AllObjects (· ∈ passedKeys ops) (· ∈ passedVals ops) s.1.toList outs) :=
  objects_keep_any_property _ _ ops (passed_self ops)

/-- non-vacuity of `run_natural`: a renaming of keys that is not the identity and preserves the comparator (shift by one), with
    a non-injective renaming of values -/
example : ∀ a b : Nat, compare (a + 1) (b + 1) = compare a b := by
  intro a b; simp [compare, compareOfLessAndEq]

/-- non-vacuity: a history with rotations, a replace, a remove of an inner node and a clear, on the red-black tree: the values
    shown (destroyed, looked up, visited) and the values renamed by `g = (· % 10)` -/
example :
    ((rbRun (κ := Nat) (ν := Nat) compare (.nil, 0)
        [.ins 1 11, .ins 2 12, .ins 3 13, .ins 2 22, .get 3, .rem 2, .each 0, .clear]).map
      fun r => (r.1.1.toList, r.2.flatMap Out.vals)) = some ([], [12, 13, 22, 11, 13, 11, 13]) ∧
    ((rbRun (κ := Nat) (ν := Nat) compare (.nil, 0)
        ([.ins 1 11, .ins 2 12, .ins 3 13, .ins 2 22, .get 3, .rem 2, .each 0, .clear].map (Op.map id (· % 10)))).map
      fun r => (r.1.1.toList, r.2.flatMap Out.vals)) = some ([], [2, 3, 2, 1, 3, 1, 3]) ∧
    passedVals (κ := Nat) (ν := Nat) [.ins 1 11, .ins 2 12, .ins 3 13, .ins 2 22, .get 3, .rem 2, .each 0, .clear] =
      [11, 12, 13, 22] := by
  decide

/-- what the `*_destroyed_perm` theorems give when the objects that entered are pairwise distinct: no object is
    destroyed twice and no destroyed object is still stored -/
theorem exactly_once_of_perm {α : Type} {d s i : List α} (h : (d ++ s).Perm i) (hi : i.Nodup) :
    d.Nodup ∧ ∀ x ∈ d, x ∉ s := by
  have hn : (d ++ s).Nodup := h.nodup_iff.mpr hi
  have := List.nodup_append.mp hn
  exact ⟨this.1, fun x hx hs => (this.2.2 x hx x hs) rfl⟩

/-- clear / free empties the map and hands every stored pair to the notifiers, in order -/
theorem spec_clear_destroys_all (l : List (κ × ν)) :
    specStep cmp l .clear = ([], .cleared 0 l) := rfl

/-- non-vacuity: a failing insert of a new key enters nothing; of a stored key it enters its pair and the old pair is destroyed -/
example : entered (κ := Nat) (ν := Nat) compare [] [.ins 2 20, .insf 1 10, .insf 2 21] = [(2, 20), (2, 21)] ∧
    destroyed (specRun (κ := Nat) (ν := Nat) compare [] [.ins 2 20, .insf 1 10, .insf 2 21]).2 = [(2, 20)] := by
  decide

end PV.Tree
