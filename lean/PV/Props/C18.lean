import PV.Lemmas.Res.Balance
import PV.Generated.ResSites
/-! # C18 — allocation failure at any point

"Whichever single allocation (or allocation and all later ones) fails inside any library call, the call returns
normally with its failure value or a documented degraded result, the process does not crash or touch invalid
memory, nothing allocated during the failed call stays allocated once the objects involved are freed, and
objects that existed before the call remain valid and unchanged."

The statements range over **every** failure predicate `f : Nat → Bool` (consulted with the running allocation
index): a single failing allocation, failure from some index on, and any other pattern.  They are about the
model `PV.Model.Res` (allocation / acquisition skeletons of the library functions, with the repairs of findings
F10 / F12 applied); the tie to the C code is the exhaustive fault enumeration of `tools/props/c18.py`.

"For each modelled function" is quantification over the call tables `ctorRun`, `mutRun`, `deriveRun`,
`dtorRun` (one entry per library function, see `PV.Model.Res.Calls`) plus the library-state functions.

The tables also hold `p_realloc` (`MutK.strRealloc`), `p_mem_munmap` with a failing `munmap` (`MutK.mmapFree`),
`p_libsys_init_full` and invalid-argument calls of 37 entry points; the modelled functions include the error exits behind
a failing `fstat` (existing segment), `getsockopt` (`p_socket_new_from_fd`, `p_socket_accept`), `pthread_attr_init` /
`pthread_attr_setdetachstate`, and the name copy of `p_uthread_set_name_internal`.  The generic theorems cover them as
they cover every entry; `realloc_keeps_or_moves`, `munmap_failure_keeps_mapping`, `clean_fail_thread_start`,
`thread_name_copy_released` state what is specific to them. -/
namespace PV.Props.C18
open PV.Res List

/-! ## the generic predicates (all of them are consequences of `PV.Res.SpecG`) -/

/-- no fault (NULL dereference, use after free, double free, double close …) from any state that holds the
    arguments' footprint `pre` next to anything else, whatever fails -/
def Safe (pre : List R) (m : ResM α) : Prop :=
  ∀ (f : Nat → Bool) (s : St) (fr : List R), s.held ~ pre ++ fr → ∃ a s', m.run f s = .ok a s'

/-- what is held afterwards is exactly `post result` next to the untouched rest `fr` -/
def Accounts (pre : List R) (m : ResM α) (post : α → List R) : Prop :=
  ∀ (f : Nat → Bool) (s : St) (fr : List R) (a : α) (s' : St), s.held ~ pre ++ fr → m.run f s = .ok a s' →
    s'.held ~ post a ++ fr

theorem safe_of_spec {m : ResM α} (h : SpecG pre oi m post oo) : Safe pre m := by
  intro f s fr hs
  obtain ⟨a, s', hr, _⟩ := (h f s fr hs).run
  exact ⟨a, s', hr⟩

theorem accounts_of_spec {m : ResM α} (h : SpecG pre oi m post oo) : Accounts pre m post := by
  intro f s fr a s' hs hr
  exact ((h f s fr hs).of_run hr).1

/-- **pre_objects_intact**, generically: whatever else the process holds (`fr`: the resources of every object
    that is not an argument of the call) is still held afterwards (with its multiplicity) -/
theorem pre_objects_intact {m : ResM α} (h : SpecG pre oi m post oo) (f : Nat → Bool) (s : St) (fr : List R) (a : α)
    (s' : St) (hs : s.held ~ pre ++ fr) (hr : m.run f s = .ok a s') : ∀ r, List.count r fr ≤ List.count r s'.held := by
  intro r
  rw [(accounts_of_spec h f s fr a s' hs hr).count_eq r, List.count_append]
  omega

/-! ## constructors (`p_*_new*`, `p_strdup`, `p_ipc_get_platform_key`, …: every `CtorK`) -/

theorem safe_ctor (k : CtorK) (e : EP) : Safe e.foot (ctorRun k e) := safe_of_spec (ctorRun_spec k e).specG

/-- **clean_fail**: a constructor that returns no object leaves held exactly what was held before, plus the
    error object it handed back through the error pointer (which is only ever filled, never lost) -/
theorem clean_fail_ctor (k : CtorK) (e : EP) (f : Nat → Bool) (s : St) (fr : List R) (cls : Char) (e' : EP) (s' : St)
    (hs : s.held ~ e.foot ++ fr) (hr : (ctorRun k e).run f s = .ok (cls, none, e') s') :
    s'.held ~ e'.foot ++ fr ∧ EPle e e' := by
  have := (ctorRun_spec k e f s fr hs).of_run hr
  exact ⟨by simpa [optFoot] using this.1, this.2.2⟩

/-- a constructor that succeeds holds exactly the footprint of the new object more -/
theorem success_ctor (k : CtorK) (e : EP) (f : Nat → Bool) (s : St) (fr : List R) (cls : Char) (o : Obj) (e' : EP)
    (s' : St) (hs : s.held ~ e.foot ++ fr) (hr : (ctorRun k e).run f s = .ok (cls, some o, e') s') :
    s'.held ~ o.foot ++ e'.foot ++ fr ∧ o.ty = k.ty := by
  have h1 := accounts_of_spec (ctorRun_spec k e).specG f s fr _ s' hs hr
  exact ⟨by simpa [optFoot] using h1, (ctorRun_ty k e f s).of_run hr o rfl⟩

theorem pre_objects_intact_ctor (k : CtorK) (e : EP) (f : Nat → Bool) (s : St) (fr : List R) (r : Char × Option Obj × EP)
    (s' : St) (hs : s.held ~ e.foot ++ fr) (hr : (ctorRun k e).run f s = .ok r s') :
    ∀ x, List.count x fr ≤ List.count x s'.held :=
  pre_objects_intact (ctorRun_spec k e).specG f s fr r s' hs hr

/-! ## calls on an existing object (`p_list_append`, `p_tree_insert`, `p_hash_table_insert`, `p_ini_file_parse`,
    `p_error_set_*`, …: every `MutK`) -/

theorem safe_mut (k : MutK) (o : Obj) (e : EP) (m : ResM (Char × Option Obj × EP)) (hm : mutRun k o e = some m) :
    Safe (o.foot ++ e.foot) m := safe_of_spec (mutRun_spec k o e m hm).specG

/-- afterwards exactly the (possibly changed) object and the error pointer's object are held: whatever the call
    allocated and did not hand over is released again, on every path -/
theorem accounts_mut (k : MutK) (o : Obj) (e : EP) (m : ResM (Char × Option Obj × EP)) (hm : mutRun k o e = some m) :
    Accounts (o.foot ++ e.foot) m (fun r => optFoot r.2.1 ++ r.2.2.foot) := accounts_of_spec (mutRun_spec k o e m hm).specG

theorem pre_objects_intact_mut (k : MutK) (o : Obj) (e : EP) (m : ResM (Char × Option Obj × EP))
    (hm : mutRun k o e = some m) (f : Nat → Bool) (s : St) (fr : List R) (r : Char × Option Obj × EP) (s' : St)
    (hs : s.held ~ (o.foot ++ e.foot) ++ fr) (hr : m.run f s = .ok r s') :
    ∀ x, List.count x fr ≤ List.count x s'.held :=
  pre_objects_intact (mutRun_spec k o e m hm).specG f s fr r s' hs hr

/-! ## calls that derive a new object from an existing one (`p_hash_table_keys/values/lookup_by_value`,
    `p_ini_file_sections/keys/parameter_*`, `p_dir_get_next_entry`, `p_crypto_hash_get_string`,
    `p_socket_accept`, `p_socket_address_get_address`, …: every `DeriveK`) -/

theorem safe_derive (k : DeriveK) (o : Obj) (e : EP) (m : ResM (Char × Obj × Option Obj × EP))
    (hm : deriveRun k o e = some m) : Safe (o.foot ++ e.foot) m := safe_of_spec (deriveRun_spec k o e m hm).specG

theorem accounts_derive (k : DeriveK) (o : Obj) (e : EP) (m : ResM (Char × Obj × Option Obj × EP))
    (hm : deriveRun k o e = some m) :
    Accounts (o.foot ++ e.foot) m (fun r => r.2.1.foot ++ optFoot r.2.2.1 ++ r.2.2.2.foot) :=
  accounts_of_spec (deriveRun_spec k o e m hm).specG

/-! ## destructors -/

theorem safe_dtor (o : Obj) : Safe o.foot (dtorRun o) := safe_of_spec (dtorRun_spec o)

/-- a destructor releases exactly what its object holds -/
theorem released_dtor (o : Obj) : Accounts o.foot (dtorRun o) (fun _ => []) := accounts_of_spec (dtorRun_spec o)

/-! ## the library's own state and threads -/

theorem safe_lib_init (l : LibO) : Safe l.foot (libInit l) := safe_of_spec ((libInit_spec l).toG [] (fun _ => []) (by simp))
theorem safe_lib_shutdown (l : LibO) : Safe l.foot (libShutdown l) :=
  safe_of_spec ((libShutdown_spec l).toG [] (fun _ => []) (by simp))
theorem accounts_lib_shutdown (l : LibO) : Accounts l.foot (libShutdown l) LibO.foot :=
  accounts_of_spec ((libShutdown_spec l).toG [] (fun _ => []) (by simp))
theorem safe_uthread_current (l : LibO) : Safe l.foot (curThread l) :=
  safe_of_spec ((curThread_spec l).toG [] (fun _ => []) (by simp))
theorem safe_thread_run (l : LibO) (t : Option TlsO) (b : ThrOpt) : Safe (l.foot ++ optTls t) (threadRun l t b) :=
  safe_of_spec (threadRun_spec l t b).specG
theorem accounts_thread_run (l : LibO) (t : Option TlsO) (b : ThrOpt) :
    Accounts (l.foot ++ optTls t) (threadRun l t b) (fun r => optL ThreadO.foot r.1 ++ r.2.1.foot ++ optTls r.2.2) :=
  accounts_of_spec (threadRun_spec l t b).specG

/-! ## documented degraded results -/

/-- `p_list_append` / `p_list_prepend`: when the item cannot be allocated the *old list* is returned, unchanged,
    and nothing was allocated -/
theorem degraded_ok_list_add (l : ListO) (x : Nat) (pre : Bool) (f : Nat → Bool) (s : St) (c : Char) (l' : ListO) (s' : St)
    (hr : (listAdd l x pre).run f s = .ok (c, l') s') (hc : c = 'D') : l' = l ∧ s'.held = s.held := by
  simp only [listAdd, malloc, ResM.run, bind, ResM.bind, pure] at hr
  split at hr
  · simp only [Res.ok.injEq, Prod.mk.injEq] at hr
    obtain ⟨⟨_, rfl⟩, rfl⟩ := hr
    exact ⟨rfl, rfl⟩
  · simp only [Res.ok.injEq, Prod.mk.injEq] at hr
    obtain ⟨⟨rfl, _⟩, _⟩ := hr
    cases hc

/-- the (repaired) `p_dir_get_next_entry`: an entry whose type could not be determined (class `'D'`, type OTHER)
    is a complete entry — structure and name — accounted for like any other -/
theorem degraded_ok_dir_next (d : DirO) (e : EP) (f : Nat → Bool) (s : St) (fr : List R)
    (r : Char × DirO × Option DirentO × EP) (s' : St) (hs : s.held ~ (d.foot ++ e.foot) ++ fr)
    (hr : (dirNext d e).run f s = .ok r s') :
    s'.held ~ r.2.1.foot ++ optL DirentO.foot r.2.2.1 ++ r.2.2.2.foot ++ fr :=
  accounts_of_spec (dirNext_spec d e).specG f s fr r s' hs hr

/-- `p_hash_table_keys/values`: a list shorter than the table (some items could not be allocated) is a proper
    list, accounted for, and the table is untouched -/
theorem degraded_ok_ht_list (t : HtO) (sel : List Nat) (f : Nat → Bool) (s : St) (fr : List R) (r : Char × ListO) (s' : St)
    (hs : s.held ~ t.foot ++ fr) (hr : (htList t sel).run f s = .ok r s') : s'.held ~ r.2.foot ++ t.foot ++ fr :=
  accounts_of_spec ((htList_spec t sel).toG [] (fun _ => []) (by simp)) f s fr r s' hs hr

/-- the (repaired) `p_ini_file_parse`: whatever lines are lost to failed allocations, the file object holds
    exactly what was kept — nothing of the dropped sections and parameters stays allocated -/
theorem degraded_ok_ini_parse (o : IniO) (e : EP) (f : Nat → Bool) (s : St) (fr : List R) (r : Char × IniO × EP)
    (s' : St) (hs : s.held ~ (o.foot ++ e.foot) ++ fr) (hr : (iniParse o e).run f s = .ok r s') :
    s'.held ~ r.2.1.foot ++ r.2.2.foot ++ fr :=
  accounts_of_spec (iniParse_spec o e).specG f s fr r s' hs hr

/-! ## scenarios -/

/-- **balanced_scenario**: every scenario program of the harness (`PV.Model.Res.Scenarios`; the same call lines as
    the C scenario functions), run from the empty state under **any** failure predicate, returns normally and —
    after its own frees — holds no block, descriptor, mapping or TLS key, leaves no IPC name, and has closed every
    descriptor it opened exactly once. -/
theorem balanced_scenario (name : String) (cs : List Call) (h : (name, cs) ∈ scenarioCalls) (f : Nat → Bool) :
    ∃ rs env' s', (runCalls cs {}).run f {} = .ok (rs, env') s' ∧ s'.held = [] ∧ s'.names = [] ∧
      s'.closed ~ List.range' 1 s'.nextFd := by
  have hall : scenarioCalls.all (fun p => balancedB p.2) = true := by decide +kernel
  have := List.all_eq_true.1 hall (name, cs) h
  exact balanced_sound cs this f

/-- in particular (finding F12 repaired): `p_libsys_init` / `p_libsys_shutdown` pairs leave nothing allocated,
    whatever fails in between -/
theorem init_shutdown_neutral (f : Nat → Bool) :
    ∃ rs env' s', (runCalls [.glob .libInit none, .glob .libShutdown none, .glob .libInit none, .glob .libShutdown none] {}).run f {}
      = .ok (rs, env') s' ∧ s'.held = [] :=
  let ⟨rs, env', s', h1, h2, _⟩ := balanced_sound _ (by decide) f
  ⟨rs, env', s', h1, h2⟩

/-! ## the translator's part -/

/-- the allocation call sites of the current sources (regenerated by tools/extract.py on every run) are exactly those
    the model transliterates -/
theorem alloc_sites_as_modelled : PV.Generated.resSites = modelSites := by decide +kernel

/-! ## non-vacuity: the functions do succeed, and do fail -/

example : ∃ t s', (htNew).run (fun _ => false) {} = .ok (some t) s' ∧ s'.held = [.blk 2, .blk 1] := ⟨_, _, rfl, rfl⟩
example : ∃ s', (htNew).run (fun i => i == 2) {} = .ok none s' ∧ s'.held = [] := ⟨_, rfl, by decide⟩
example : (match (shmNew 0 1024 (some none)).run (fun i => i == 8) {} with
    | .ok (none, some (some _)) s => decide (s.held.length = 2 ∧ s.names = [])
    | _ => false) = true := by decide

/-! ## `p_realloc`, `p_mem_munmap`, failing thread start, long thread names: what is specific to them -/

/-- `p_realloc` of a block of the caller: when the allocator refuses (class `'F'`) the old block is still the
    caller's — same block, nothing else changed hands; when it succeeds the old block has become the new one and
    exactly one block is held for it (no copy is left behind) -/
theorem realloc_keeps_or_moves (b : Blk) (f : Nat → Bool) (s : St) (fr : List R) (c : Char) (b' : Blk) (s' : St)
    (hs : s.held ~ [.blk b] ++ fr) (hr : (strRealloc b).run f s = .ok (c, b') s') :
    s'.held ~ [.blk b'] ++ fr ∧ (c = 'F' → b' = b ∧ s'.held = s.held) := by
  refine ⟨accounts_of_spec ((strRealloc_spec b).toG [] (fun _ => []) (by simp)) f s fr _ s' hs hr, ?_⟩
  intro hc
  have hw : wp (strRealloc b) f s (fun r s' => r.1 = 'F' → r.2 = b ∧ s'.held = s.held) := by
    have hm : R.blk b ∈ s.held := hs.symm.subset (by simp)
    simp only [strRealloc, wp_bind, wp_malloc]
    split
    · simp
    · simp [hm]
  exact hw.of_run hr hc

/-- `p_mem_munmap`: a failing `munmap` is reported and the mapping is still held by the caller (it is neither lost
    nor counted as released); a successful one releases exactly the mapping -/
theorem munmap_failure_keeps_mapping (i len : Nat) (e : EP) :
    Accounts (.map i len :: e.foot) (mmapUnmap i len e) (fun r => (if r.1 then [] else [.map i len]) ++ r.2.foot) :=
  accounts_of_spec (mmapUnmap_spec i len e).specG

/-- `p_uthread_create` whose native start fails (`pthread_attr_init`, `pthread_attr_setdetachstate` or
    `pthread_create` — whichever is scripted to fail, whatever allocation fails): no thread object is returned and
    exactly the library's state and the caller's key are held afterwards — the structure is released on every exit -/
theorem clean_fail_thread_start (l : LibO) (t : Option TlsO) (o : ThrOpt) (f : Nat → Bool) (s : St) (fr : List R)
    (l' : LibO) (t' : Option TlsO) (s' : St) (hs : s.held ~ (l.foot ++ optTls t) ++ fr)
    (hr : (threadRun l t o).run f s = .ok (none, l', t') s') : s'.held ~ l'.foot ++ optTls t' ++ fr := by
  simpa [optL] using accounts_thread_run l t o f s fr _ s' hs hr

/-- the thread with a long name: the truncated copy `p_uthread_set_name_internal` works on is released again,
    whether or not it could be allocated -/
theorem thread_name_copy_released (long : Bool) (nm : Option Blk) : Accounts [] (threadSetName long nm) (fun _ => []) :=
  accounts_of_spec ((threadSetName_spec long nm).toG [] (fun _ => []) (by simp))

/-- non-vacuity: the refused reallocation keeps block 1; the granted one holds block 2 only -/
example : (match (strRealloc 1).run (fun i => i == 2) { held := [.blk 1], next := 1 } with
    | .ok (c, b') s => decide (c = 'F' ∧ b' = 1 ∧ s.held = [.blk 1]) | .fault _ => false) = true := by decide
example : (match (strRealloc 1).run (fun _ => false) { held := [.blk 1], next := 1 } with
    | .ok (c, b') s => decide (c = 'S' ∧ b' = 2 ∧ s.held = [.blk 2]) | .fault _ => false) = true := by decide
/-- … a scripted `munmap` failure leaves mapping 1 held and hands back an error (two blocks) -/
example : (match (mmapUnmap 1 4096 (some none)).run (fun _ => false) { held := [.map 1 4096], sysfail := ["munmap"] } with
    | .ok (ok, e') s => decide (ok = false ∧ e'.isSome ∧ s.held.length = 3 ∧ R.map 1 4096 ∈ s.held) | .fault _ => false) = true := by decide
/-- … each of the three native calls of a thread start can be the failing one: nothing is held afterwards -/
example : ["pthread_attr_init", "pthread_attr_setdetachstate", "pthread_create"].all (fun nm =>
    match (threadRun {} none ⟨true, true⟩).run (fun _ => false) { sysfail := [nm] } with
    | .ok (none, _, _) s => decide (s.held = [] ∧ s.sysfail = []) | _ => false) = true := by decide
/-- … and a started thread with a long name allocates structure, name and the truncated copy (three attempts), keeping two -/
example : (match (threadRun {} none ⟨false, true⟩).run (fun _ => false) {} with
    | .ok (some _, _, _) s => decide (s.next = 3 ∧ s.held.length = 2) | _ => false) = true := by decide
/-- … `fstat` failing on an existing segment: the second handle fails, its descriptor is closed, both names stay
    (they belong to the first handle), nothing but the first handle and the error is held -/
example : (match (runCalls [.glob .libInit none, .ctor (.shmNew 0 0) 0 none, .glob (.sysfail "fstat") none,
      .ctor (.shmNew 0 0) 1 (some 9)] {}).run (fun _ => false) {} with
    | .ok (rs, _) s => decide (rs = ['S', 'S', 'S', 'F'] ∧ s.fds = [] ∧ s.closed = [2, 1] ∧ s.names.length = 2 ∧ s.maps.length = 2)
    | .fault _ => false) = true := by decide
/-- … `getsockopt` failing in `p_socket_new_from_fd`: structure released, the caller closes its descriptor -/
example : (match (sockFromFd (some none)).run (fun _ => false) { sysfail := ["getsockopt"] } with
    | .ok (none, some (some _)) s => decide (s.fds = [] ∧ s.closed = [1] ∧ s.live.length = 2)
    | _ => false) = true := by decide

/-! ## the old behaviour (findings): what the repaired functions replaced

Each is the allocation skeleton of the function *before* the repair, with a `decide`-checked failing run.
The harness reproduces every one of them on the unpatched C code (scenario, mode, index in the comment). -/

def isFault : Res α → Bool
  | .fault _ => true
  | .ok _ _ => false

/-- F10a, `p_dir_new` before the repair: the copies of the path are used unchecked
    (`strlen (ret->path)`); harness: `dir_basic once 4`, NULL dereference in pdir-posix.c -/
def dirNewOld : ResM (Option DirO) := do
  let fd ← openFd
  let some a ← malloc | do closeFd fd; return none
  let p ← malloc
  let o ← malloc
  deref p
  match p, o with
  | some p, some o => return some ⟨a, p, o, fd, 0⟩
  | _, _ => return none

example : isFault (dirNewOld.run (fun i => i == 2) {}) = true := by decide

/-- F10a, `p_dir_get_next_entry` before the repair: `strlen (ret->name)` on a failed copy; harness:
    `cross_dir_hash once 7` -/
def dirNextOld : ResM Unit := do
  let some _a ← malloc | return ()
  let n ← malloc
  deref n

example : isFault (dirNextOld.run (fun i => i == 2) {}) = true := by decide

/-- F10b, `p_rwlock_new` of prwlock-general.c before the repair: no `return NULL` after releasing the structure;
    harness: `rwlock_general once 4` (heap-use-after-free) -/
def rwgNewOld : ResM (Option RwgO) := do
  let some a ← malloc | return none
  let m ← newInit "pthread_mutex_init"
  if m.isNone then freeB a
  deref (some a)                      -- `ret->read_cv = …` on the released block
  return none

example : isFault (rwgNewOld.run (fun i => i == 2) {}) = true := by decide

/-- F12, `p_uthread_local_free` before the repair releases only the reference: the native key and its block stay;
    harness: every scenario ended with one block and one key outstanding (`init_only none 0`: `lost=[3]`) -/
def tlsFreeOld (t : TlsO) : ResM Unit := freeB t.self

def tlsOldDemo : ResM Unit := do
  let some t ← tlsNew | return ()
  let (_, t') ← tlsSet t
  free (t'.slot.bind (·.value))
  tlsFreeOld t'

example : (match tlsOldDemo.run (fun _ => false) {} with
    | .ok _ s => decide (s.held = [.key 1, .blk 2])
    | .fault _ => false) = true := by decide

/-- `p_ipc_unix_get_temp_dir` before the repair: the copy of the directory name is used unchecked and never
    released; harness: `ipc_tmpdir once 3` (crash), `ipc_tmpdir none 0` (one block outstanding) -/
def ipcTmpDirOld : ResM (Option Blk) := do
  let str ← malloc
  deref str
  let some ret ← malloc | do free str; return none
  return some ret

example : isFault (ipcTmpDirOld.run (fun i => i == 1) {}) = true := by decide
example : (match ipcTmpDirOld.run (fun _ => false) {} with
    | .ok _ s => decide (s.held.length = 2)
    | .fault _ => false) = true := by decide

/-- `p_ini_file_parse` before the repair: a parameter whose list item cannot be allocated is lost with its three
    blocks; harness: `ini_parse_small once 9` (three blocks outstanding) -/
def addParamOld : ResM Unit := do
  let some _ ← paramNew | return ()
  let _ ← malloc
  return ()

example : (match addParamOld.run (fun i => i == 4) {} with
    | .ok _ s => decide (s.held.length = 3)
    | .fault _ => false) = true := by decide

/-- `p_uthread_current` before the repair: when the structure cannot be stored in thread-local storage it is
    handed out anyway and never released; harness: `cur_thread once 1` -/
def curThreadOld (l : LibO) : ResM Unit := do
  match l.tls with
  | none => do let _ ← malloc; return ()
  | some _ => return ()

example : (match (curThreadOld {}).run (fun _ => false) {} with
    | .ok _ s => decide (s.held.length = 1)
    | .fault _ => false) = true := by decide

end PV.Props.C18
