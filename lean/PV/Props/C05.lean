import PV.Lemmas.UThread
import PV.Lemmas.UThreadOwners
import PV.Lemmas.UThreadRefine
/-!
# C05 — threads: join / exit code, reference count, TLS destructors

Statements are about the history machine `PV.UThread` (`PV/Model/UThread.lean`): `Reach s` = `s` is
reached by some history (any number of threads, handles, keys; any interleaving) in which every event
was enabled; `DReach s` = reached by a history that in addition obeys the reference discipline
(`Permitted`: every holder uses only its own reference).

Reading guide (property text → theorem)
* "join returns only after the target has finished and yields the code given to exit (0 for a plain
  return)" → `join_code`, `exit_records_code`, `return_records_nothing` (join is *enabled* only after the
  target's `threadEnd`: the trusted `pthread_join` contract; that the thread's writes are visible
  afterwards is that same contract and is not a theorem here); a join issued early → `join_blocks_until_ended`,
  `early_join_code`; the source shape this rests on → `join_exit_source_shape`.
* "a handle stays valid while any reference exists and is released exactly once after the last one,
  whatever the order of unref, thread termination and join" → `refcount_is_holders`, `free_once`,
  `freed_iff_no_holder`, `free_only_by_unref`, `unref_frees_iff_last`, `threadEnd_frees_own_handle_only`,
  `no_use_after_free`, `no_use_after_free_run`.
* "a TLS key holds an independent value per thread" → `tls_independent`, `tls_get`.
* "the notifier runs exactly once for every non-NULL value left at thread exit or replaced, never for
  set" → `destructor_exactly_once` (three clauses) and `destructor_only_then`.
* lazy native-key creation → `key_race_single_winner`, `key_race_loser_cleans_up`, `tls_uses_published_key`.
* `p_uthread_init` / `p_uthread_shutdown` → `init_shutdown_neutral_threads`.
* `p_uthread_local_free` (repaired: deletes the native key, frees its block) → `local_free_releases_native_key`,
  `native_release_once`; source-shape obligations of the F10 repair → `proxy_checks_its_slot`.
* creation handshake → `fields_written_before_start`, `start_waits_for_creator`.
* failing native calls (gap round, coverage/threads.md): a creation whose `pthread_attr_init` / `pthread_attr_setdetachstate` /
  `pthread_create` fails → `create_fail_releases_once` (NULL, no thread, the block released exactly once inside the call),
  `freed_handle_not_permitted`; `pthread_join` reporting an error → `join_fail_code` (the call does not wait: the code recorded so
  far); the lazy `pthread_key_create` failing → `tls_fail_changes_nothing` (set / replace / get), `current_fail_releases_once`
  (`p_uthread_current`: NULL, the fresh block released once).  `free_only_by_unref` names these two frees as the only ones that are
  not an unref.
* the library thread whose own TLS store does not take (`pp_uthread_proxy`, `is_stored == FALSE`; events `startUnstored`, `retUnstored`;
  invariant `PInv`) → `start_unstored_keeps_reference`, `proxy_unstored_releases_once`, `unstored_thread_end_leaves_handle`; observations
  about the code as it is, under faults outside the property's quantifier: `exit_code_lost_when_slot_unstored`,
  `join_of_unstored_yields_zero` (`p_uthread_exit` in such a thread returns; the join yields 0) and — `pthread_setspecific` reporting an
  error (`storeFail`) — `replace_setspecific_failure_destroys_twice`, `set_setspecific_failure_is_noop`.
* the independent executable reference `PV/Spec/UThread.lean` (the spec column of the differential run) answers
  exactly as the machine does → `spec_refinement_step`, `spec_refinement`, `spec_refinement_disciplined`.
* references attributed to the threads that hold them (`PV.Model.UThreadOwners`) → `user_refs_are_held`,
  `refcount_is_outstanding_references`, `per_thread_discipline_implies_pooled`, `no_use_after_free_per_thread`.
-/
namespace PV.UThread
open PV.Generated.UThread

/-! ## reference count -/

/-- in every reachable state the `ref_count` of a handle that has not been freed is the number of
    outstanding references: the users' (creator's + explicit refs − unrefs) plus the thread's own -/
theorem refcount_is_holders {s : State} (hr : Reach s) (h : Nat) (hf : (s.hdl h).freed = false) :
    (s.hdl h).refCount = holders (s.hdl h) :=
  hr.inv.2.hR h hf

/-- a handle is freed at most once over any history, and the free log is exactly the set of freed handles -/
theorem free_once {s : State} (hr : Reach s) :
    s.freeLog.Nodup ∧ ∀ h, h ∈ s.freeLog ↔ (s.hdl h).freed = true :=
  ⟨hr.inv.2.fN, hr.inv.2.fL⟩

/-- along disciplined histories a fully created handle is freed exactly when no reference is
    outstanding — whatever the order of creator unref / explicit ref, unref / thread end / join that led there -/
theorem freed_iff_no_holder {s : State} (hr : DReach s) (h : Nat) (hw : (s.hdl h).written = true) :
    (s.hdl h).freed = true ↔ holders (s.hdl h) = 0 := by
  obtain ⟨_, hi, hf⟩ := hr.inv
  constructor
  · intro hfr; have := hf h hfr; simp [holders, this.1, this.2]
  · intro h0
    cases hfr : (s.hdl h).freed with
    | true => rfl
    | false => have := hi.hL h hw hfr; omega

/-- only `unref` — explicit, the library key's destructor at thread end, or the proxy's own unref when the thread's slot was
    never stored (`retUnstored`) — frees a handle anybody ever held; the only
    other frees are the ones inside a creation / a `p_uthread_current` that fails (`create_fail_releases_once`,
    `current_fail_releases_once`: a block nobody was given) -/
theorem free_only_by_unref {s s' : State} {e : Ev} (hs : step s e = .ok s') (hne : s'.freeLog ≠ s.freeLog) :
    (∃ a h, e = .unref a h) ∨ (∃ t, e = .threadEnd t) ∨ (∃ a, e = .createFail a) ∨ (∃ t, e = .currentFail t) ∨
    (∃ t h, e = .retUnstored t h) := by
  cases step_ok hs with
  | unref a h => exact .inl ⟨a, h, rfl⟩
  | threadEnd _ t => exact .inr (.inl ⟨t, rfl⟩)
  | createFail a => exact .inr (.inr (.inl ⟨a, rfl⟩))
  | currentFail t => exact .inr (.inr (.inr (.inl ⟨t, rfl⟩)))
  | retUnstored t h => exact .inr (.inr (.inr (.inr ⟨t, h, rfl⟩)))
  | _ => exact absurd rfl hne

/-- an explicit `unref` frees the handle iff it drops the last reference (the count it sees is 1 = the
    number of holders), and then it frees exactly that handle -/
theorem unref_frees_iff_last {s s' : State} {a h : Nat} (hr : Reach s) (hs : step s (.unref a h) = .ok s') :
    (s.hdl h).freed = false ∧
    s'.freeLog = (if holders (s.hdl h) = 1 then s.freeLog ++ [h] else s.freeLog) := by
  cases step_ok hs with | unref _ _ _ _ _ hfr => ?_
  refine ⟨hfr, ?_⟩
  have h1 := hr.inv.2.hR h hfr
  simp only [unrefFreesWhenOldIs, h1]
  by_cases c : holders (s.hdl h) = 1
  · simp [c]
  · have : ¬ ((holders (s.hdl h) : Int) = 1) := by omega
    simp [c, this]

/-- thread termination frees at most one handle: the one in the thread's library-key cell, and only
    when the thread's own reference was the last -/
theorem threadEnd_frees_own_handle_only {s s' : State} {t : Nat} (hr : Reach s) (hs : step s (.threadEnd t) = .ok s') :
    s'.freeLog = s.freeLog ∨
    ∃ n, (s.key 0).published = some n ∧ s.tls t n ≠ 0 ∧ holders (s.hdl (s.tls t n - 1)) = 1 ∧
      (s.hdl (s.tls t n - 1)).userRefs = 0 ∧ s'.freeLog = s.freeLog ++ [s.tls t n - 1] := by
  obtain ⟨hk, hi⟩ := hr.inv
  cases step_ok hs with | threadEnd s1 _ hp hrd => ?_
  have hl := runDtors_lib hk List.nodup_range hrd
  by_cases hex : ∃ n, n ∈ List.range s.nN ∧ (s.nkey n).owner = 0 ∧ dtorDue s t n
  · obtain ⟨n, hn, ho, hd⟩ := hex
    obtain ⟨hfr, _, hfl⟩ := hl.2 n hn ho hd
    by_cases hc : (s.hdl (s.tls t n - 1)).refCount = unrefFreesWhenOldIs
    · rw [if_pos hc] at hfl
      refine .inr ⟨n, by have := hk.kV t n hd.2.2; rw [ho] at this; exact this, hd.2.2, ?_, ?_, hfl⟩
      all_goals
        have h1 := hi.hR _ hfr
        simp only [holders, (hi.lT t n ho hd.2.2).2.1, unrefFreesWhenOldIs] at h1 hc ⊢
        simp at h1 ⊢; omega
    · rw [if_neg hc] at hfl; exact .inl hfl
  · exact .inl (hl.1 fun n hn x => hex ⟨n, hn, x⟩).2

/-- the discipline suffices: in a state reached by a disciplined history no permitted event reads or
    writes a freed `PUThread` block (the model's `useAfterFree` fault = what ASan reports on the C side) -/
theorem no_use_after_free {s : State} {e : Ev} (hr : DReach s) (hp : Permitted s e) :
    ∀ h, step s e ≠ .error (.useAfterFree h) := by
  obtain ⟨hk, hi, hf⟩ := hr.inv
  exact step_no_uaf hf hi hk hr.reach.pinv hp

/-- … hence a disciplined history never faults on a handle anywhere along the way -/
theorem no_use_after_free_run : ∀ {es : List Ev} {s : State}, DReach s → Disciplined s es → ∀ h, run s es ≠ .error (.useAfterFree h)
  | [], _, _, _, _, hs => by unfold run at hs; cases hs
  | e :: r, s, hr, hd, h, hs => by
    unfold run at hs
    split at hs
    · rename_i x hx; injection hs with hs; subst hs; exact no_use_after_free hr hd.1 h hx
    · rename_i s' hx; exact no_use_after_free_run (.step e hr hd.1 hx) (hd.2 s' hx) h hs

/-! ## failing native calls: creation that fails, `pthread_join` that reports an error -/

/-- `p_uthread_create*` whose native part fails (`pthread_attr_init`, `pthread_attr_setdetachstate` or `pthread_create`
    returns an error) gives NULL and leaves nothing behind: the block the call allocated (it takes the next handle id)
    is released exactly once inside the call — it was not in the free log before, it is its last entry afterwards —, it
    carries no reference of anybody, no thread came into being, the creation spinlock is free again, and no other
    handle, thread record, TLS cell, key or log changed -/
theorem create_fail_releases_once {s s' : State} {a : Nat} (hr : Reach s) (hs : step s (.createFail a) = .ok s') :
    s'.freeLog = s.freeLog ++ [s.nH] ∧ s.nH ∉ s.freeLog ∧ s'.freeLog.Nodup ∧
    (s'.hdl s.nH).freed = true ∧ holders (s'.hdl s.nH) = 0 ∧ (s'.hdl s.nH).ours = false ∧
    s'.nH = s.nH + 1 ∧ s'.nT = s.nT ∧ s'.thr = s.thr ∧ s.spin = none ∧ s'.spin = none ∧
    (∀ h, h ≠ s.nH → s'.hdl h = s.hdl h) ∧
    s'.tls = s.tls ∧ s'.key = s.key ∧ s'.nkey = s.nkey ∧ s'.dtorLog = s.dtorLog ∧ s'.joinLog = s.joinLog := by
  have hr' : Reach s' := .step _ hr hs
  cases step_ok hs with | createFail _ _ hspin => ?_
  have hnot := hr.inv.2.next_not_freed
  refine ⟨rfl, hnot, hr'.inv.2.fN, by simp, by simp [holders], by simp, rfl, rfl, rfl, hspin, hspin, ?_, rfl, rfl, rfl, rfl, rfl⟩
  intro h hne; simp only; rw [upd_ne _ _ hne]

/-- a handle that has been released — in particular the block of a failed creation — is named by no permitted event:
    along disciplined histories nobody holds a reference to it, so `ref`, `unref`, `join` of it are outside the discipline -/
theorem freed_handle_not_permitted {s : State} (hr : DReach s) {h : Nat} (hf : (s.hdl h).freed = true) (a : Nat) :
    ¬ Permitted s (.ref a h) ∧ ¬ Permitted s (.unref a h) ∧ ¬ Permitted s (.join a h) ∧ ¬ Permitted s (.joinFail a h) := by
  obtain ⟨_, _, hfi⟩ := hr.inv
  have := hfi h hf
  refine ⟨?_, ?_, ?_, ?_⟩ <;> simp [Permitted, this.1, this.2]

/-- what `ret_code` of a joinable handle holds: the handle describes a library thread — through the thread's record, or
    through its proxy when the thread's slot was never stored — and the code follows that thread's phase -/
private theorem joinable_code {s : State} (hr : Reach s) {h : Nat} (hw : (s.hdl h).written = true)
    (hj : (s.hdl h).joinable = true) :
    (s.hdl h).ours = true ∧
    ((s.thr (s.hdl h).thread).handle = some h ∨ (s.thr (s.hdl h).thread).proxy = some h) ∧
    (((s.thr (s.hdl h).thread).phase = .created ∨ (s.thr (s.hdl h).thread).phase = .running) → (s.hdl h).retCode = 0) ∧
    (((s.thr (s.hdl h).thread).phase = .finished ∨ (s.thr (s.hdl h).thread).phase = .ended) →
      (s.hdl h).retCode = ((s.thr (s.hdl h).thread).exitArg).getD 0) := by
  obtain ⟨_, hi⟩ := hr.inv
  have ho : (s.hdl h).ours = true := by
    cases ho : (s.hdl h).ours with
    | true => rfl
    | false => rw [hi.hJ h hw ho] at hj; cases hj
  cases hor : (s.hdl h).orphan with
  | false =>
    have hlink := hi.hO h ho hor
    have hjc := hi.jC _ h hlink
    exact ⟨ho, .inl hlink, fun hp => (hjc.1 hp).1, hjc.2⟩
  | true =>
    have hpx := hr.pinv.pO h hor
    have p8 := hr.pinv.proxy_retCode hpx
    exact ⟨ho, .inr hpx, fun _ => p8, fun _ => by rw [p8, (hr.pinv.proxy_record hpx).2.1]; rfl⟩

/-- `p_uthread_join` on a joinable handle whose `pthread_join` reports an error (`p_uthread_wait_internal` only logs it)
    does not wait: it yields what `ret_code` holds at that moment — 0 as long as the target has not left its function,
    the argument of its `p_uthread_exit` (0 for a plain return) once it has —, records no native join (a later
    `p_uthread_join` is still possible) and changes nothing else -/
theorem join_fail_code {s s' : State} {a h : Nat} (hr : Reach s) (hs : step s (.joinFail a h) = .ok s') :
    s'.joinLog = s.joinLog ++ [(a, h, (s.hdl h).retCode)] ∧
    (s.hdl h).joinable = true ∧ (s.hdl h).ours = true ∧
    ((s.thr (s.hdl h).thread).handle = some h ∨ (s.thr (s.hdl h).thread).proxy = some h) ∧
    (((s.thr (s.hdl h).thread).phase = .created ∨ (s.thr (s.hdl h).thread).phase = .running) → (s.hdl h).retCode = 0) ∧
    (((s.thr (s.hdl h).thread).phase = .finished ∨ (s.thr (s.hdl h).thread).phase = .ended) →
      (s.hdl h).retCode = ((s.thr (s.hdl h).thread).exitArg).getD 0) ∧
    s'.hdl = s.hdl ∧ s'.thr = s.thr ∧ s'.freeLog = s.freeLog ∧ s'.tls = s.tls ∧ s'.dtorLog = s.dtorLog := by
  cases step_ok hs with | joinFail _ _ _ _ hw _ hj => ?_
  obtain ⟨ho, hlink, h0, hc⟩ := joinable_code hr hw hj
  exact ⟨rfl, hj, ho, hlink, h0, hc, rfl, rfl, rfl, rfl, rfl⟩

/-- `p_uthread_current` of a thread without a stored handle, when the fresh handle cannot be stored (the lazy creation of
    the library key's native key fails): NULL, and the `PUThreadBase` block allocated meanwhile is released exactly once
    inside the call; the thread still has no handle, nothing else changed -/
theorem current_fail_releases_once {s s' : State} {t : Nat} (hr : Reach s) (hs : step s (.currentFail t) = .ok s') :
    s'.freeLog = s.freeLog ++ [s.nH] ∧ s.nH ∉ s.freeLog ∧ s'.freeLog.Nodup ∧
    (s'.hdl s.nH).freed = true ∧ holders (s'.hdl s.nH) = 0 ∧ valueOf s t 0 = 0 ∧ valueOf s' t 0 = 0 ∧
    s'.nH = s.nH + 1 ∧ s'.thr = s.thr ∧ s'.spin = s.spin ∧ (∀ h, h ≠ s.nH → s'.hdl h = s.hdl h) ∧
    s'.tls = s.tls ∧ s'.key = s.key ∧ s'.nkey = s.nkey ∧ s'.dtorLog = s.dtorLog ∧ s'.curLog = s.curLog := by
  have hr' : Reach s' := .step _ hr hs
  cases step_ok hs with | currentFail _ _ _ hv => ?_
  have hnot := hr.inv.2.next_not_freed
  refine ⟨rfl, hnot, hr'.inv.2.fN, by simp, by simp [holders], hv, hv, rfl, rfl, rfl, ?_, rfl, rfl, rfl, rfl, rfl⟩
  intro h hne; simp only; rw [upd_ne _ _ hne]

/-- a TLS call on a key without a native key whose `pthread_key_create` fails is a no-op: `set` / `replace` store nothing
    and call no notifier, `get` yields NULL (the cell is NULL: nothing was ever stored under that key); no native key
    exists afterwards, nothing is published (the next call tries again), no block is left -/
theorem tls_fail_changes_nothing {s s' : State} {t k : Nat} {g : Bool} (hs : step s (.tlsFail t k g) = .ok s') :
    (s.key k).published = none ∧ (∀ t', valueOf s t' k = 0) ∧
    s'.getLog = s.getLog ++ (if g then [(t, k, 0)] else []) ∧
    s'.dtorLog = s.dtorLog ∧ s'.tls = s.tls ∧ s'.key = s.key ∧ s'.nkey = s.nkey ∧ s'.nN = s.nN ∧
    s'.blockFreeLog = s.blockFreeLog ∧ s'.keyDelLog = s.keyDelLog ∧ s'.hdl = s.hdl ∧ s'.thr = s.thr ∧ s'.freeLog = s.freeLog := by
  cases step_ok hs with | tlsFail _ _ _ _ _ _ _ hp => ?_
  exact ⟨hp, fun t' => by simp [valueOf, hp], rfl, rfl, rfl, rfl, rfl, rfl, rfl, rfl, rfl, rfl, rfl⟩

/-! ## a library thread whose own TLS store does not take (`pp_uthread_proxy`, `is_stored == FALSE`) -/

/-- the proxy path on which nothing is stored: the thread runs its function with an empty library slot, still holding its
    reference to the handle (count and holders unchanged); for the library it is an unknown thread from now on -/
theorem start_unstored_keeps_reference {s s' : State} {t : Nat} (hr : Reach s) (hs : step s (.startUnstored t) = .ok s') :
    ∃ h, (s.thr t).handle = some h ∧ (s'.thr t).proxy = some h ∧ (s'.thr t).handle = none ∧ (s'.thr t).phase = .running ∧
      valueOf s' t 0 = 0 ∧ (s'.hdl h).refCount = (s.hdl h).refCount ∧ holders (s'.hdl h) = holders (s.hdl h) ∧
      (s'.hdl h).threadRef = true ∧ (s'.hdl h).freed = false ∧ s'.tls = s.tls ∧ s'.freeLog = s.freeLog := by
  have hr' : Reach s' := .step _ hr hs
  cases step_ok hs with | startUnstored _ h hph _ hh _ hv hf => ?_
  have hpx : ((upd s.thr t { s.thr t with phase := .running, handle := none, proxy := some h }) t).proxy = some h := by simp [upd]
  have := hr'.pinv.proxy_threadRef hpx (by simp [upd])
  refine ⟨h, hh, by simp [upd], by simp [upd], by simp [upd], hv, by simp [upd], by simp [upd, holders], this, by simp [upd, hf], rfl, rfl⟩

/-- **the handle of such a thread is released exactly once, whatever the order of creator unref / join / thread end.**
    When the thread function returns, the proxy gives up the thread's own reference itself (`retUnstored`): the handle was
    alive, the thread's reference disappears, the users' references are untouched, and the block is freed by this very step
    iff no user reference is outstanding — otherwise by the `unref` that drops the last one (`unref_frees_iff_last`,
    `freed_iff_no_holder`), never twice (`free_once`); no TLS destructor will ever see the handle
    (`unstored_thread_end_leaves_handle`) -/
theorem proxy_unstored_releases_once {s s' : State} {t h : Nat} (hr : Reach s) (hs : step s (.retUnstored t h) = .ok s') :
    (s.thr t).proxy = some h ∧ (s.hdl h).thread = t ∧ (s.hdl h).freed = false ∧ (s.hdl h).threadRef = true ∧
    (s'.hdl h).threadRef = false ∧ (s'.hdl h).userRefs = (s.hdl h).userRefs ∧
    s'.freeLog = (if (s.hdl h).userRefs = 0 then s.freeLog ++ [h] else s.freeLog) ∧
    ((s'.hdl h).freed = true ↔ (s.hdl h).userRefs = 0) ∧ s'.freeLog.Nodup ∧ h ∉ s.freeLog ∧
    (s'.thr t).phase = .finished ∧ s'.tls = s.tls ∧ s'.dtorLog = s.dtorLog := by
  have hr' : Reach s' := .step _ hr hs
  obtain ⟨hk, hi⟩ := hr.inv
  cases step_ok hs with | retUnstored _ _ hc hpx hf => ?_
  have p4 := hr.pinv.proxy_thread hpx
  have htr := hr.pinv.proxy_threadRef hpx hc.1
  have hR := hi.hR h hf
  have hnot : h ∉ s.freeLog := by intro hm; rw [(hi.fL h).mp hm] at hf; cases hf
  simp only [holders, htr, if_true] at hR
  -- the count the proxy's unref sees is 1 exactly when no user reference is left
  have h0 : (s.hdl h).refCount = unrefFreesWhenOldIs ↔ (s.hdl h).userRefs = 0 := by
    simp only [unrefFreesWhenOldIs]; omega
  refine ⟨hpx, p4, hf, htr, by simp [upd, unrefd], by simp [upd, unrefd], ?_, by simp [upd, unrefd, h0], hr'.inv.2.fN, hnot,
    by simp [upd], rfl, rfl⟩
  by_cases c : (s.hdl h).userRefs = 0 <;> simp [c, h0]

/-- the end of such a thread frees at most the handle in its library cell (one made by `p_uthread_current` meanwhile), never
    the handle it was created with: no destructor is registered for that one -/
theorem unstored_thread_end_leaves_handle {s s' : State} {t h : Nat} (hr : Reach s) (hpx : (s.thr t).proxy = some h)
    (hs : step s (.threadEnd t) = .ok s') : s'.freeLog = s.freeLog ∨ ∃ h', h' ≠ h ∧ s'.freeLog = s.freeLog ++ [h'] := by
  rcases threadEnd_frees_own_handle_only hr hs with h1 | ⟨n, hp, hv, _, _, hfl⟩
  · exact .inl h1
  · refine .inr ⟨_, ?_, hfl⟩
    intro e
    have := hr.pinv.pS t n (hr.inv.1.kP 0 n hp).2.1 hv
    rw [e, (hr.pinv.pP t h hpx).2.2.2.2.1] at this; cases this

/-! ## join and exit code -/

/-- `p_uthread_join` on a joinable handle is possible only once its thread has ended, and yields the
    argument of the `p_uthread_exit` call that ended it, 0 if the function simply returned; on a
    handle that is not joinable (detached, or a thread the library did not create) it yields −1.
    (A thread started by `startUnstored` has no record pointing to its handle: it is *proxied* for it; its `exitArg` is `none`
    and the code is 0, `join_of_unstored_yields_zero`.) -/
theorem join_code {s s' : State} {a h : Nat} (hr : Reach s) (hs : step s (.join a h) = .ok s') :
    s'.joinLog = s.joinLog ++ [(a, h, if (s.hdl h).joinable = true then ((s.thr (s.hdl h).thread).exitArg).getD 0 else -1)] ∧
    ((s.hdl h).joinable = true →
      (s.thr (s.hdl h).thread).phase = .ended ∧
      ((s.thr (s.hdl h).thread).handle = some h ∨ (s.thr (s.hdl h).thread).proxy = some h) ∧ (s.hdl h).ours = true) ∧
    ((s.hdl h).ours = false → (s.hdl h).joinable = false) := by
  obtain ⟨_, hi⟩ := hr.inv
  cases step_ok hs with | joinDetached _ _ _ _ hw _ hj => ?_ | joinEnded _ _ _ _ hw _ hj hph => ?_
  all_goals have hnotours : (s.hdl h).ours = false → (s.hdl h).joinable = false := hi.hJ h hw
  · exact ⟨by simp [hj], by simp [hj], hnotours⟩
  · obtain ⟨ho, hlink, _, hc⟩ := joinable_code hr hw hj
    exact ⟨by simp [hj, hc (.inr hph)], fun _ => ⟨hph, hlink, ho⟩, hnotours⟩

/-- `p_uthread_exit (code)` in a library thread records `code` for the joiner; in any other thread it returns -/
theorem exit_records_code {s s' : State} {t : Nat} {code : Int} (hr : Reach s) (hs : step s (.exit t code) = .ok s') :
    ((s.thr t).handle = none → (s'.thr t).phase = .running) ∧
    (∀ h, (s.thr t).handle = some h → (s'.thr t).phase = .finished ∧ (s'.thr t).exitArg = some code ∧ (s'.hdl h).retCode = code) := by
  obtain ⟨hk, hi⟩ := hr.inv
  -- `p_uthread_current` yields the handle of a library thread, which is `ours`
  have own : ∀ n h, canAct s t → (s.key 0).published = some n → (s.thr t).handle = some h →
      currentCore s t n = (s, h) ∧ (s.hdl h).ours = true := by
    intro n h hc hpub hh
    exact ⟨(hi.cell_of_running hc.1 hh hpub).2, hi.hW t h hh (hi.written_of_started hh (by rw [hc.1]; simp))⟩
  cases step_ok hs with
  | exitForeign _ n _ hc _ hpub _ hno =>
    refine ⟨fun _ => hc.1, fun h hh => ?_⟩
    obtain ⟨hcur, ho⟩ := own n h hc hpub hh
    rw [hcur] at hno; simp only at hno; rw [ho] at hno; cases hno
  | exitOurs _ n _ hc _ hpub _ ho =>
    refine ⟨fun hnone => ?_, fun h hh => ?_⟩
    · have := (hi.currentCore_inv hk hc hpub).hO _ ho (currentCore_orphan hr.pinv hk hpub)
      rw [(currentCore_handle hi hk (t := t) hpub).2.2] at this
      rw [show (s.withCurrent (currentCore s t n).1).thr = s.thr from rfl, hnone] at this; cases this
    · rw [(own n h hc hpub hh).1]; simp

/-- **observation about the code as it is** (a fault outside C05's quantifier: the library key's native key cannot be made
    when the thread starts): in such a thread `p_uthread_exit (c)` does not exit and records nothing — `p_uthread_current`
    finds an empty slot and makes a second handle that is not `ours`, so the call returns with the "unknown thread" warning —
    and a later join of the thread's handle yields 0, not `c` (`join_of_unstored_yields_zero`; concrete witness below) -/
theorem exit_code_lost_when_slot_unstored {s s' : State} {t h : Nat} {c : Int} (hr : Reach s) (hpx : (s.thr t).proxy = some h)
    (hs : step s (.exit t c) = .ok s') :
    (s'.thr t).phase = .running ∧ (s'.thr t).proxy = some h ∧ (s'.thr t).exitArg = none ∧ (s'.hdl h).retCode = 0 := by
  have hr' : Reach s' := .step _ hr hs
  have hrun := (exit_records_code hr hs).1 (hr.pinv.proxy_record hpx).1
  have hpx' : (s'.thr t).proxy = some h := by
    cases step_ok hs with
    | exitForeign => exact hpx
    | exitOurs => simp [upd] at hrun
  exact ⟨hrun, hpx', (hr'.pinv.proxy_record hpx').2.1, hr'.pinv.proxy_retCode hpx'⟩

theorem join_of_unstored_yields_zero {s s' : State} {a t h : Nat} (hr : Reach s) (hpx : (s.thr t).proxy = some h)
    (hs : step s (.join a h) = .ok s') :
    s'.joinLog = s.joinLog ++ [(a, h, if (s.hdl h).joinable = true then 0 else -1)] := by
  have := (join_code hr hs).1
  rw [hr.pinv.proxy_thread hpx, (hr.pinv.proxy_record hpx).2.1] at this; simpa using this

/-- a plain return records nothing: the joiner will see 0 -/
theorem return_records_nothing {s s' : State} {t : Nat} (hr : Reach s) (hs : step s (.ret t) = .ok s') :
    (s'.thr t).phase = .finished ∧ ∀ h, (s.thr t).handle = some h → (s'.thr t).exitArg = none ∧ (s'.hdl h).retCode = 0 := by
  cases step_ok hs with | ret _ hc => ?_
  refine ⟨by simp, fun h hh => ?_⟩
  have := (hr.inv.2.jC t h hh).1 (.inr hc.1)
  simp [this.1, this.2]

/-- creation handshake: when the proxy passes the spinlock every field of its handle has been written
    by the creator (the count is 2, `ours`, `joinable`, `func`, `data`, `name`) -/
theorem fields_written_before_start {s s' : State} {t : Nat} (hr : Reach s) (hs : step s (.start t) = .ok s') :
    ∃ h, (s.thr t).handle = some h ∧ (s.hdl h).written = true ∧ (s.hdl h).ours = true ∧ (s.hdl h).threadRef = true := by
  obtain ⟨_, hi⟩ := hr.inv
  cases step_ok hs with | start _ h n hph _ hh _ _ hspin => ?_
  obtain ⟨hw, htr⟩ := hi.created_handle hph hh hspin
  exact ⟨h, hh, hw, hi.hW t h hh hw, htr⟩

/-! ## TLS values -/

/-- a store (`set_local` or `replace_local`) by thread `t` through key `k` sets the cell `(t, k)` and
    leaves the cell of every other (thread, key) pair as it was; no other event except the end of
    thread `t` changes what `t` sees under a user key `k` -/
theorem tls_independent {s s' : State} (hr : Reach s) :
    (∀ t k v, step s (.setLocal t k v) = .ok s' →
        valueOf s' t k = v ∧ ∀ t' k', ¬ (t' = t ∧ k' = k) → valueOf s' t' k' = valueOf s t' k') ∧
    (∀ t k v, step s (.replaceLocal t k v) = .ok s' →
        valueOf s' t k = v ∧ ∀ t' k', ¬ (t' = t ∧ k' = k) → valueOf s' t' k' = valueOf s t' k') ∧
    (∀ e t k, step s e = .ok s' → k ≠ 0 → (∀ v, e ≠ .setLocal t k v) → (∀ v, e ≠ .replaceLocal t k v) → e ≠ .threadEnd t →
        valueOf s' t k = valueOf s t k) := by
  obtain ⟨hk, _⟩ := hr.inv
  refine ⟨?_, ?_, ?_⟩
  · intro t k v hs
    cases step_ok hs with | setLocal _ _ _ n _ _ _ _ hp => ?_
    exact valueOf_store hk hp _
  · intro t k v hs
    cases step_ok hs with | replaceLocal _ _ _ n _ _ _ _ hp => ?_
    exact valueOf_store hk hp _
  · intro e t k hs hk0 h1 h2 h3
    exact valueOf_frame hk hs hk0 h1 h2 h3

/-- `get_local` returns the cell of the calling thread and changes no cell -/
theorem tls_get {s s' : State} {t k : Nat} (hs : step s (.getLocal t k) = .ok s') :
    s'.getLog = s.getLog ++ [(t, k, valueOf s t k)] ∧ ∀ t' k', valueOf s' t' k' = valueOf s t' k' := by
  cases step_ok hs with | getLocal _ _ n _ _ _ _ hp => ?_
  exact ⟨by simp [valueOf_pub hp], fun _ _ => rfl⟩

/-- the notifier runs exactly once, with that value, for
    (1) the non-NULL value overwritten by `replace_local` (key with a notifier),
    (2) every non-NULL value a thread leaves, when it ends, under a key with a notifier that has not been
        released with `p_uthread_local_free` — one call per such key (the list of calls has no duplicates and is
        exactly that set), after which the cells are NULL and the thread is gone; values left under a key
        that was freed are dropped without a call, as `puthread.h` documents;
    and (3) never for `set_local`, whatever it overwrites -/
theorem destructor_exactly_once {s s' : State} (hr : Reach s) :
    (∀ t k v, step s (.replaceLocal t k v) = .ok s' →
        s'.dtorLog = s.dtorLog ++
          (if valueOf s t k ≠ 0 ∧ (s.key k).notifier = true then [(t, k, valueOf s t k)] else [])) ∧
    (∀ t, step s (.threadEnd t) = .ok s' →
        ∃ L, s'.dtorLog = s.dtorLog ++ L ∧ L.Nodup ∧
          (∀ t' k v, (t', k, v) ∈ L ↔
            t' = t ∧ (s.key k).notifier = true ∧ (s.key k).wrapperFreed = false ∧ v ≠ 0 ∧ valueOf s t k = v) ∧
          (∀ k, (s.key k).notifier = true → (s.key k).wrapperFreed = false → valueOf s' t k = 0) ∧
          (s'.thr t).phase = .ended) ∧
    (∀ t k v, step s (.setLocal t k v) = .ok s' → s'.dtorLog = s.dtorLog) := by
  obtain ⟨hk, _⟩ := hr.inv
  refine ⟨?_, ?_, ?_⟩
  · intro t k v hs
    cases step_ok hs with | replaceLocal _ _ _ n _ _ _ _ hp => ?_
    simp only [notifyOld, replaceCallsNotifier, valueOf_pub hp]
    by_cases c : s.tls t n ≠ 0 ∧ (s.key k).notifier = true
    · simp [c]
    · simp only [c, if_false]
      have : ¬ (s.tls t n ≠ 0 ∧ (s.key k).notifier = true) := c
      simp
  · intro t hs
    obtain ⟨L, h1, h2, h3, h4⟩ := threadEnd_dtor hk hs
    cases step_ok hs with | threadEnd => ?_
    exact ⟨L, h1, h2, h3, h4, by simp⟩
  · intro t k v hs
    cases step_ok hs with | setLocal => ?_
    simp [notifyOld, setCallsNotifier]

/-- no other event calls a notifier — except, under a fault, a `replace_local` whose native store fails (`storeFail`,
    see `replace_setspecific_failure_destroys_twice`) -/
theorem destructor_only_then {s s' : State} {e : Ev} (hs : step s e = .ok s')
    (h1 : ∀ t k v, e ≠ .replaceLocal t k v) (h2 : ∀ t, e ≠ .threadEnd t) (h4 : ∀ t k r, e ≠ .storeFail t k r) :
    s'.dtorLog = s.dtorLog := by
  cases step_ok hs with
  | threadEnd _ t => exact absurd rfl (h2 t)
  | replaceLocal t k v => exact absurd rfl (h1 t k v)
  | storeFail t k _ r => exact absurd rfl (h4 t k r)
  | setLocal => simp [notifyOld, setCallsNotifier]
  | _ => rfl

/-- **observation about the code as it is** (a fault outside C05's quantifier: `pthread_setspecific` reporting an error):
    `p_uthread_replace_local` passes the old non-NULL value to the notifier BEFORE it stores the new one; when the store fails
    the destroyed value stays in the slot, and if the thread then leaves its function and ends, the notifier is called with
    that same value a second time.  `p_uthread_set_local` with a failing store is a no-op (no notifier). -/
theorem replace_setspecific_failure_destroys_twice {s s1 s2 s3 : State} {t k : Nat} (hr : Reach s)
    (hs : step s (.storeFail t k true) = .ok s1) (hv : valueOf s t k ≠ 0) (hn : (s.key k).notifier = true)
    (h2 : step s1 (.ret t) = .ok s2) (h3 : step s2 (.threadEnd t) = .ok s3) :
    s1.dtorLog = s.dtorLog ++ [(t, k, valueOf s t k)] ∧ valueOf s1 t k = valueOf s t k ∧
    ∃ L, s3.dtorLog = s1.dtorLog ++ L ∧ (t, k, valueOf s t k) ∈ L := by
  have hr1 : Reach s1 := .step _ hr hs
  have hr2 : Reach s2 := .step _ hr1 h2
  cases step_ok hs with | storeFail _ _ n _ _ hk0 _ hwf hp => ?_
  cases step_ok h2 with | ret => ?_
  rw [valueOf_pub hp] at hv
  refine ⟨by simp [notifyOld, replaceCallsNotifier, valueOf_pub hp, hv, hn], rfl, ?_⟩
  obtain ⟨L, e1, _, e3, _⟩ := (destructor_exactly_once hr2).2.1 t h3
  refine ⟨L, e1, (e3 t k _).mpr ⟨rfl, hn, hwf, ?_, rfl⟩⟩
  simpa [valueOf_pub hp] using hv

/-- `p_uthread_set_local` whose native store fails changes nothing at all -/
theorem set_setspecific_failure_is_noop {s s' : State} {t k : Nat} (hs : step s (.storeFail t k false) = .ok s') : s' = s := by
  cases step_ok hs with | storeFail => ?_
  simp [notifyOld, setCallsNotifier]

/-! ## lazy creation of the native key -/

/-- after any interleaving of first uses of key `k`:
    * at most one native key is published, and — as long as the wrapper has not been released with
      `p_uthread_local_free` — it is alive with its block allocated (afterwards it is deleted and freed:
      `local_free_releases_native_key`);
    * every native key ever created for `k` is that one, or a loser — deleted and its block freed —, or
      still between `pthread_key_create` and its compare-and-exchange in some thread;
    * so once nobody is in the middle of the race and a native key was ever created, exactly one is
      published and all others are gone. -/
theorem key_race_single_winner {s : State} (hr : Reach s) (k : Nat) :
    (∀ n, (s.key k).published = some n →
      n < s.nN ∧ (s.nkey n).owner = k ∧
      ((s.key k).wrapperFreed = false → (s.nkey n).live = true ∧ (s.nkey n).blockFreed = false)) ∧
    (∀ n, n < s.nN → (s.nkey n).owner = k →
      (s.key k).published = some n ∨
      (n ∈ (s.key k).losers ∧ (s.nkey n).live = false ∧ (s.nkey n).blockFreed = true ∧ (s.key k).published ≠ some n) ∨
      ∃ t, (s.thr t).pend = some (k, n)) ∧
    ((∃ n, n < s.nN ∧ (s.nkey n).owner = k) → (∀ t n, (s.thr t).pend ≠ some (k, n)) →
      ∃ w, (s.key k).published = some w ∧
        ∀ n, n < s.nN → (s.nkey n).owner = k → n ≠ w → (s.nkey n).live = false ∧ (s.nkey n).blockFreed = true) := by
  obtain ⟨hk, _⟩ := hr.inv
  have cls : ∀ n, n < s.nN → (s.nkey n).owner = k →
      (s.key k).published = some n ∨
      (n ∈ (s.key k).losers ∧ (s.nkey n).live = false ∧ (s.nkey n).blockFreed = true ∧ (s.key k).published ≠ some n) ∨
      ∃ t, (s.thr t).pend = some (k, n) := by
    intro n hn ho
    have := hk.kC n hn; rw [ho] at this
    rcases this with h1 | h1 | h1
    · exact .inl h1
    · have := hk.kL k n h1; exact .inr (.inl ⟨h1, this.2.2.1, this.2.2.2.1, this.2.2.2.2⟩)
    · exact .inr (.inr h1)
  refine ⟨fun n hp => hk.kP k n hp, cls, ?_⟩
  rintro ⟨n0, hn0, ho0⟩ hnp
  have win : ∃ w, (s.key k).published = some w := by
    rcases cls n0 hn0 ho0 with h1 | ⟨hl, _⟩ | ⟨t, h1⟩
    · exact ⟨n0, h1⟩
    · exact hk.kW k n0 hl
    · exact absurd h1 (hnp t n0)
  obtain ⟨w, hw⟩ := win
  refine ⟨w, hw, fun n hn ho hne => ?_⟩
  rcases cls n hn ho with h1 | ⟨_, h2, h3, _⟩ | ⟨t, h1⟩
  · rw [hw] at h1; injection h1 with h1; exact absurd h1.symm hne
  · exact ⟨h2, h3⟩
  · exact absurd h1 (hnp t n)

/-- the loser of the publication race deletes its native key and frees its block; the winner's key stays -/
theorem key_race_loser_cleans_up {s s' : State} {t k : Nat} (hs : step s (.keyCas t k) = .ok s') :
    ∃ n, (s.thr t).pend = some (k, n) ∧ (s'.thr t).pend = none ∧
      ((s.key k).published = none → (s'.key k).published = some n ∧ (s'.nkey n) = (s.nkey n)) ∧
      (∀ w, (s.key k).published = some w →
        (s'.key k).published = some w ∧ n ∈ (s'.key k).losers ∧ (s'.nkey n).live = false ∧ (s'.nkey n).blockFreed = true) := by
  cases step_ok hs with | keyCasWin _ _ n hpd _ hpub => ?_ | keyCasLose _ _ n m hpd _ hpub => ?_
  · exact ⟨n, hpd, by simp, fun _ => by simp, fun w hw => by rw [hpub] at hw; cases hw⟩
  · refine ⟨n, hpd, by simp, fun hn => (by rw [hpub] at hn; cases hn), fun w hw => ?_⟩
    simp [hw, casLoserDeletesKey, casLoserFreesBlock]

/-- every access goes to the published native key (which is alive): whoever created a key of its own
    and lost, uses the winner's -/
theorem tls_uses_published_key {s s' : State} (hr : Reach s) :
    (∀ t k v, step s (.setLocal t k v) = .ok s' → ∃ n, (s.key k).published = some n ∧ (s.nkey n).live = true ∧ s'.tls t n = v) ∧
    (∀ t k v, step s (.replaceLocal t k v) = .ok s' → ∃ n, (s.key k).published = some n ∧ (s.nkey n).live = true ∧ s'.tls t n = v) ∧
    (∀ t k, step s (.getLocal t k) = .ok s' → ∃ n, (s.key k).published = some n ∧ (s.nkey n).live = true ∧
        s'.getLog = s.getLog ++ [(t, k, s.tls t n)]) := by
  obtain ⟨hk, _⟩ := hr.inv
  refine ⟨?_, ?_, ?_⟩
  · intro t k v hs
    cases step_ok hs with | setLocal _ _ _ n _ _ _ hwf hp => ?_
    exact ⟨n, hp, ((hk.kP k n hp).2.2 hwf).1, by simp⟩
  · intro t k v hs
    cases step_ok hs with | replaceLocal _ _ _ n _ _ _ hwf hp => ?_
    exact ⟨n, hp, ((hk.kP k n hp).2.2 hwf).1, by simp⟩
  · intro t k hs
    cases step_ok hs with | getLocal _ _ n _ _ _ hwf hp => ?_
    exact ⟨n, hp, ((hk.kP k n hp).2.2 hwf).1, rfl⟩

/-! ## `p_uthread_init` / `p_uthread_shutdown` -/

/-- `p_uthread_init` … any history … `p_uthread_shutdown` is neutral for the thread module's TLS resources:
    when the library is shut down (by a running thread `a`) in any reachable state in which nobody is inside a TLS
    call — in particular when no library thread is alive any more — the library key's wrapper is released and
    no native key and no native-key block of the library key remains (also when the key was never used: the
    `p_uthread_get_local` inside shutdown creates the native key and `p_uthread_local_free` releases it again);
    and if the user has released all of his keys, no native key and no block remains at all -/
theorem init_shutdown_neutral_threads {s s' : State} {a : Nat} (hr : Reach s) (hs : shutdown s a = .ok s')
    (hq : ∀ t, (s.thr t).pend = none) :
    (s'.key 0).wrapperFreed = true ∧
    (∀ n, n < s'.nN → (s'.nkey n).owner = 0 → (s'.nkey n).live = false ∧ (s'.nkey n).blockFreed = true) ∧
    ((∀ k, 0 < k → k < s.nK → (s.key k).wrapperFreed = true) →
      ∀ n, n < s'.nN → (s'.nkey n).live = false ∧ (s'.nkey n).blockFreed = true) :=
  shutdown_neutral hr.inv.1 hs hq

/-! ## the independent reference (`PV.Spec.UThread`) answers as the machine does -/

open PV.UThreadSpec in
/-- one event: from related states (`Abs`: the reference's handle table, thread→handle map, key table and cells
    are the machine's, seen through `absH` / `selfOf` / `cellOf`) an event the machine accepts leads to related
    states, and the API-visible answer — returned ids / join code / `get_local` value, live handles, handles
    released, notifier calls (sorted) — is the same on both sides -/
theorem spec_refinement_step {s s' : State} {sp : S} {e : Ev} (hr : Reach s) (ab : Abs s sp) (hs : step s e = .ok s') :
    Abs s' (specStep sp e).1 ∧ obsM s e s' = (specStep sp e).2 :=
  refine_step hr ab hs

open PV.UThreadSpec in
/-- every history, from the initial states: as far as the machine accepts the events the reference gives the
    same answers, and if the machine accepts all of them the two answer lists are equal (so the `SPECDIFF`
    column of the driver is empty on every history that does not fault) -/
theorem spec_refinement (es : List Ev) :
    obsRun init es = (specRun {} es).take (obsRun init es).length ∧
    (∀ s', run init es = .ok s' → obsRun init es = specRun {} es) := by
  have := refine_run es Reach.init Abs.init
  exact ⟨this.1, fun s' h => (this.2 s' h).1⟩

open PV.UThreadSpec in
/-- in particular for histories that obey the reference discipline: they never fault on a handle
    (`no_use_after_free_run`), and wherever they are enabled the reference agrees -/
theorem spec_refinement_disciplined (es : List Ev) (hd : Disciplined init es) :
    (∀ h, run init es ≠ .error (.useAfterFree h)) ∧
    obsRun init es = (specRun {} es).take (obsRun init es).length :=
  ⟨no_use_after_free_run .init hd, (spec_refinement es).1⟩

/-! ## references attributed to the threads that hold them -/

/-- along histories in which every thread uses only its own references the pooled ghost counter of a
    handle is the sum, over all threads, of the references each of them holds (the creator's included) -/
theorem user_refs_are_held {g : GState} (hr : TReach g) (h : Nat) : (g.s.hdl h).userRefs = heldBy g h :=
  hr.inv.2.oU h

/-- … so `refcount_is_holders` reads literally: `ref_count` = number of outstanding references =
    Σ over threads of the references they hold + the described thread's own one -/
theorem refcount_is_outstanding_references {g : GState} (hr : TReach g) (h : Nat) (hf : (g.s.hdl h).freed = false) :
    (g.s.hdl h).refCount = ((heldBy g h + (if (g.s.hdl h).threadRef then 1 else 0) : Nat) : Int) := by
  have := refcount_is_holders hr.inv.1.reach h hf
  rw [this, holders, user_refs_are_held hr h]

/-- the per-thread discipline is a special case of the pooled one (which also allows handing a reference
    from one thread to another) -/
theorem per_thread_discipline_implies_pooled {g : GState} {e : Ev} (hr : TReach g) (hp : PermittedT g e) :
    Permitted g.s e ∧ DReach g.s :=
  ⟨hp.permitted hr.inv.2, hr.inv.1⟩

/-- `no_use_after_free` for the per-thread discipline: when every thread uses only references it holds
    itself, no event reads or writes a freed `PUThread` block -/
theorem no_use_after_free_per_thread {g : GState} {e : Ev} (hr : TReach g) (hp : PermittedT g e) :
    ∀ h, gstep g e ≠ .error (.useAfterFree h) := by
  intro h hs
  unfold gstep at hs
  split at hs
  · cases hs
  · rename_i x hx; injection hs with hs; subst hs
    exact no_use_after_free hr.inv.1 (hp.permitted hr.inv.2) h hx

/-! ## `p_uthread_local_free` (repaired code) and the F10 repair -/

/-- `p_uthread_local_free (k)` releases the wrapper and, if `k` ever got a native key, exactly that one:
    it was alive with its block allocated (so this is no second delete / free), afterwards it is deleted
    and its block freed, both logs grow by exactly it; nothing else is touched — no other native key, no
    other wrapper, no handle, thread, TLS cell, notifier call or handle free -/
theorem local_free_releases_native_key {s s' : State} {a k : Nat} (hr : Reach s) (hs : step s (.localFree a k) = .ok s') :
    (s.key k).wrapperFreed = false ∧ (s'.key k).wrapperFreed = true ∧ (s'.key k).published = (s.key k).published ∧
    (∀ n, (s.key k).published = some n →
      (s.nkey n).live = true ∧ (s.nkey n).blockFreed = false ∧
      (s'.nkey n).live = false ∧ (s'.nkey n).blockFreed = true ∧
      s'.keyDelLog = s.keyDelLog ++ [n] ∧ s'.blockFreeLog = s.blockFreeLog ++ [n] ∧
      ∀ m, m ≠ n → s'.nkey m = s.nkey m) ∧
    ((s.key k).published = none → s'.nkey = s.nkey ∧ s'.keyDelLog = s.keyDelLog ∧ s'.blockFreeLog = s.blockFreeLog) ∧
    (∀ j, j ≠ k → s'.key j = s.key j) ∧
    s'.hdl = s.hdl ∧ s'.thr = s.thr ∧ s'.tls = s.tls ∧ s'.dtorLog = s.dtorLog ∧ s'.freeLog = s.freeLog ∧
    s'.nN = s.nN ∧ s'.nK = s.nK := by
  obtain ⟨hk, _⟩ := hr.inv
  cases step_ok hs with | localFreeUnused _ _ _ _ _ hwf hpub => ?_ | localFree _ _ n _ _ _ hwf hpub => ?_
  · refine ⟨hwf, by simp, by simp, ?_, fun _ => ⟨rfl, rfl, rfl⟩, ?_, rfl, rfl, rfl, rfl, rfl, rfl, rfl⟩
    · intro n hn; rw [hpub] at hn; cases hn
    · intro j hj; simp only; rw [upd_ne _ _ hj]
  · have hl := (hk.kP k n hpub).2.2 hwf
    refine ⟨hwf, by simp, by simp, ?_, ?_, ?_, rfl, rfl, rfl, rfl, rfl, rfl, rfl⟩
    · intro m hm
      rw [hpub] at hm; injection hm with hm; subst hm
      refine ⟨hl.1, hl.2, by simp [localFreeDeletesKey], by simp [localFreeFreesBlock],
        by simp [localFreeDeletesKey], by simp [localFreeFreesBlock], ?_⟩
      intro j hj; simp only; rw [upd_ne _ _ hj]
    · intro hn; rw [hpub] at hn; cases hn
    · intro j hj; simp only; rw [upd_ne _ _ hj]

/-- over any history every native key is deleted at most once and its block freed at most once (by the
    loser of the publication race or by `p_uthread_local_free`), and the two logs are exactly the native
    keys that are no longer alive / whose block is gone -/
theorem native_release_once {s : State} (hr : Reach s) :
    s.keyDelLog.Nodup ∧ s.blockFreeLog.Nodup ∧
    (∀ n, n ∈ s.keyDelLog ↔ n < s.nN ∧ (s.nkey n).live = false) ∧
    (∀ n, n ∈ s.blockFreeLog ↔ n < s.nN ∧ (s.nkey n).blockFreed = true) :=
  ⟨hr.ninv.dN, hr.ninv.bN, hr.ninv.dL, hr.ninv.bL⟩

/-- source-shape obligations of the F10 repair (facts regenerated from `puthread.c` on every run):
    the proxy reads its TLS slot back after storing the handle and drops the thread's own reference itself
    when the store did not take; `p_uthread_current` checks the store of a fresh handle.  The machine above
    assumes that the own reference of a started library thread is always given up — by the library key's
    destructor (`threadEnd`) when the slot holds the handle; these facts cover the case in which it does not
    (an allocation failure inside the lazy key creation, outside C05's histories). -/
theorem proxy_checks_its_slot :
    proxyReadsBack = true ∧ proxyUnrefsWhenNotStored = true ∧ currentChecksStore = true := by decide

/-! ## join before the target has ended; the creation handshake -/

/-- source-shape obligations behind the `join`, `exit` and `createBegin` events (facts regenerated from `puthread.c` /
    `puthread-posix.c` on every run).  The machine's `join` is enabled only once the target has ended and reads the code in
    that state: this is `p_uthread_join` only if the code is read AFTER `p_uthread_wait_internal` returned, that call is a
    plain `pthread_join` on the handle's native id, and nothing in the module detaches, cancels or joins with a time limit.
    `exit` records the code before the native exit; `p_uthread_create` is `p_uthread_create_full` with default priority and
    stack; the native thread is joinable iff the handle says so.  A gated history sees a violation of any of these only
    when a join is issued before the target ended (`jbegin` of the harness), so they are kept as obligations as well. -/
theorem join_exit_source_shape :
    joinWaitsBeforeReadingCode = true ∧ waitIsNativeJoin = true ∧ exitStoresCodeBeforeNativeExit = true ∧
    createIsCreateFullDefault = true ∧ nativeDetachStateFollowsJoinable = true := by decide

set_option linter.unusedSimpArgs false in
/-- a join issued before the target has ended does not complete, in any state: on a joinable handle whose thread has not
    ended the machine's `join` is not an enabled event (the caller stays inside `pthread_join`).  Together with
    `join_code`: whenever the join does complete, the thread has ended and the result is its exit code. -/
theorem join_blocks_until_ended {s : State} {a h : Nat} (hf : (s.hdl h).freed = false) (hj : (s.hdl h).joinable = true)
    (hp : (s.thr (s.hdl h).thread).phase ≠ .ended) : step s (.join a h) = .error .notEnabled := by
  simp only [step, join]
  split
  · rfl
  · simp [hf, hj, hp]

/-- … and a join that was issued early and completes later yields the code whatever happened in between: for every
    continuation `es` of the history after which the join is enabled, its answer is the argument of the target's `exit`
    (0 for a plain return) -/
theorem early_join_code {s s1 s' : State} {a h : Nat} (es : List Ev) (hr : Reach s) (hrun : run s es = .ok s1)
    (hj : (s1.hdl h).joinable = true) (hs : step s1 (.join a h) = .ok s') :
    (s1.thr (s1.hdl h).thread).phase = .ended ∧
    s'.joinLog = s1.joinLog ++ [(a, h, ((s1.thr (s1.hdl h).thread).exitArg).getD 0)] := by
  obtain ⟨hlog, hend, _⟩ := join_code (hr.run hrun) hs
  exact ⟨(hend hj).1, by simpa [hj] using hlog⟩

/-- the start-up handshake as an enabledness fact: the proxy does not get past the creation spinlock (into the thread
    function) while a creator is inside the critical section of `p_uthread_create_full` — the `create … x` histories of the
    harness put the child exactly there -/
theorem start_waits_for_creator {s s' : State} {t : Nat} (hs : step s (.start t) = .ok s') : s.spin = none := by
  cases step_ok hs with | start _ _ _ _ _ _ _ _ hspin => ?_
  exact hspin

/-! ## non-vacuity: concrete histories with two library threads

`demo`: a key with a notifier; a joinable thread T1 (handle 0) and a detached thread T2 (handle 1); both
proxies race on the first use of the library key (T2 wins, T1 deletes its key); the creator gives up the
detached handle while T2 runs; T1 stores 5, replaces it by 6, exits with −3; T2 stores 7 and returns; the
creator joins T1 and drops the last reference. -/

def demo : List Ev := [
  .localNew 0 true,
  .createBegin 0 true false, .createEnd 0,
  .createBegin 0 false false, .createEnd 0,
  .keyCreate 1 0, .keyCreate 2 0, .keyCas 2 0, .keyCas 1 0,
  .start 1, .start 2,
  .unref 0 1,
  .keyCreate 1 1, .keyCas 1 1, .setLocal 1 1 5, .replaceLocal 1 1 6,
  .setLocal 2 1 7, .getLocal 1 1, .getLocal 2 1,
  .exit 1 (-3), .threadEnd 1,
  .ret 2, .threadEnd 2,
  .join 0 0, .unref 0 0 ]

/-- free log, notifier log, join results, get results, published native key / losers of the library key -/
def obs (es : List Ev) :
    Option (List Nat × List (Nat × Nat × Nat) × List (Nat × Nat × Int) × List (Nat × Nat × Nat) × Option Nat × List Nat) :=
  match run init es with
  | .ok s => some (s.freeLog, s.dtorLog, s.joinLog, s.getLog, (s.key 0).published, (s.key 0).losers)
  | .error _ => none

/-- the history is enabled throughout; handle 1 is freed by T2's end, handle 0 by the last unref; the
    notifier ran for 5 (replaced) and for 6 and 7 (left at exit), never for the value `set` overwrote;
    join gives −3; each thread reads its own value; native key 1 won, key 0 lost -/
example : obs demo = some ([1, 0], [(1, 1, 5), (1, 0, 1), (1, 1, 6), (2, 0, 2), (2, 1, 7)], [(0, 0, -3)],
    [(1, 1, 6), (2, 1, 7)], some 1, [0]) := by rfl

/-- … and it obeys the reference discipline, so its final state is in `DReach` (the hypotheses of the
    theorems above are satisfiable by a history with two threads) -/
example : checkDisc init demo = true := by rfl

example : ∃ s, DReach s ∧ s.freeLog = [1, 0] ∧ (s.thr 1).phase = .ended ∧ (s.thr 2).phase = .ended := by
  cases h : run init demo with
  | error e => have : (obs demo).isSome = false := by simp [obs, h]
               exact absurd this (by rw [show obs demo = some _ from by rfl]; simp)
  | ok s =>
    refine ⟨s, DReach.run .init (checkDisc_sound (by rfl)) h, ?_, ?_, ?_⟩
    · have : (obs demo).map (·.1) = some [1, 0] := by rfl
      simpa [obs, h] using this
    · have : (match run init demo with | .ok s => decide ((s.thr 1).phase = .ended) | .error _ => false) = true := by rfl
      simpa [h] using this
    · have : (match run init demo with | .ok s => decide ((s.thr 2).phase = .ended) | .error _ => false) = true := by rfl
      simpa [h] using this

/-- an undisciplined history does hit a freed block: after the creator's reference is gone a second
    `unref` takes the thread's own, and the thread's end then touches freed memory -/
example : run init [.createBegin 0 false false, .createEnd 0, .keyCreate 1 0, .keyCas 1 0, .start 1,
    .unref 0 0, .unref 0 0, .ret 1, .threadEnd 1] = .error (.useAfterFree 0) := by rfl

/-- a join before the target ended is not enabled (created / running / finished-but-in-its-destructors), it is after the
    end and then yields the code; the proxy is not enabled inside the creator's critical section, though its lazy creation of
    the library key's native key is -/
example : (match run init [.createBegin 0 true false, .createEnd 0] with
    | .ok s => step s (.join 0 0) | .error e => .error e) = .error .notEnabled := by rfl
example : (match run init [.createBegin 0 true false, .createEnd 0, .keyCreate 1 0, .keyCas 1 0, .start 1, .exit 1 7] with
    | .ok s => step s (.join 0 0) | .error e => .error e) = .error .notEnabled := by rfl
example : (match run init [.createBegin 0 true false, .createEnd 0, .keyCreate 1 0, .keyCas 1 0, .start 1, .exit 1 7, .threadEnd 1, .join 0 0] with
    | .ok s => some s.joinLog | .error _ => none) = some [(0, 0, 7)] := by rfl
example : (match run init [.createBegin 0 true false, .keyCreate 1 0, .keyCas 1 0] with
    | .ok s => step s (.start 1) | .error e => .error e) = .error .notEnabled := by rfl
example : (match run init [.createBegin 0 true false, .keyCreate 1 0, .keyCas 1 0, .createEnd 0, .start 1] with
    | .ok s => some ((s.thr 1).phase, (s.hdl 0).refCount) | .error _ => none) = some (.running, 2) := by rfl

/-- creations that fail: handle ids 0 and 2 are the blocks of the two failed calls (released inside the call, in that
    order, once each), handle 1 is the thread made in between; nothing of the failed calls is alive, no thread 2 exists,
    the history obeys the discipline, and the reference answers the same -/
def demoFail : List Ev := [
  .createFail 0, .createBegin 0 true false, .createEnd 0, .createFail 0,
  .keyCreate 1 0, .keyCas 1 0, .start 1, .joinFail 0 1, .exit 1 7, .joinFail 0 1, .threadEnd 1, .join 0 1, .unref 0 1 ]

example : (match run init demoFail with
    | .ok s => some (s.freeLog, s.joinLog, s.nH, s.nT, (s.hdl 0).freed, (s.hdl 2).freed, s.spin.isNone)
    | .error _ => none) = some ([0, 2, 1], [(0, 1, 0), (0, 1, 7), (0, 1, 7)], 3, 2, true, true, true) := by rfl
example : checkDisc init demoFail = true := by rfl
example : checkDiscT ginit demoFail = true := by rfl
example : PV.UThreadSpec.obsRun init demoFail = PV.UThreadSpec.specRun {} demoFail := by rfl

/-- the block of a failed creation is dangling for everybody: naming it is a fault of the caller, and outside the discipline -/
example : (match run init [.createFail 0] with
    | .ok s => (step s (.ref 0 0), decide (Permitted s (.ref 0 0)), decide (Permitted s (.unref 0 0)))
    | .error e => (.error e, true, true)) = (.error (.useAfterFree 0), false, false) := by rfl

/-- a creation is not possible (also not a failing one) while another creator is inside the critical section -/
example : (match run init [.spawn, .createBegin 0 true false] with
    | .ok s => step s (.createFail 1) | .error e => .error e) = .error .notEnabled := by rfl

/-- the failing join is an event only for joinable handles (on a detached one the native call is not made) -/
example : (match run init [.createBegin 0 false false, .createEnd 0] with
    | .ok s => step s (.joinFail 0 0) | .error e => .error e) = .error .notEnabled := by rfl

/-- a key whose native key cannot be made: `set 5` stores nothing, `get` reads NULL, `replace` calls no notifier; once the
    creation works the key behaves as new.  `p_uthread_current` of the initial thread failing twice: handles 0 and 1 are
    the two released blocks, the third call yields handle 2 -/
example : (match run init [.localNew 0 true, .tlsFail 0 1 false, .tlsFail 0 1 true, .tlsFail 0 1 false, .keyCreate 0 1, .keyCas 0 1,
      .getLocal 0 1, .setLocal 0 1 5, .replaceLocal 0 1 6, .currentFail 0, .keyCreate 0 0, .keyCas 0 0, .currentFail 0, .current 0] with
    | .ok s => some (s.getLog, s.dtorLog, s.freeLog, s.curLog, s.nN)
    | .error _ => none) = some ([(0, 1, 0), (0, 1, 0)], [(0, 1, 5)], [0, 1], [(0, 2)], 2) := by rfl
example : PV.UThreadSpec.obsRun init [.localNew 0 true, .tlsFail 0 1 false, .tlsFail 0 1 true, .currentFail 0, .keyCreate 0 0, .keyCas 0 0,
      .currentFail 0, .current 0] =
    PV.UThreadSpec.specRun {} [.localNew 0 true, .tlsFail 0 1 false, .tlsFail 0 1 true, .currentFail 0, .keyCreate 0 0, .keyCas 0 0,
      .currentFail 0, .current 0] := by rfl

/-- neither failure is an event once the key has a native key / the thread has its handle stored -/
example : (match run init [.localNew 0 true, .keyCreate 0 1, .keyCas 0 1] with
    | .ok s => step s (.tlsFail 0 1 true) | .error e => .error e) = .error .notEnabled := by rfl
example : (match run init [.keyCreate 0 0, .keyCas 0 0, .current 0] with
    | .ok s => step s (.currentFail 0) | .error e => .error e) = .error .notEnabled := by rfl

/-- the witness: thread 1 (handle 0, joinable) starts without its slot stored, calls `p_uthread_exit (7)` — which returns (the
    call makes the foreign-style handle 1) —, returns from its function (the proxy drops the thread's reference: nothing is
    freed, the creator still holds one), ends (handle 1 goes with the library key's destructor); the join yields 0, not 7; the
    creator's unref frees handle 0: each handle exactly once.  With the creator's unref first, the proxy's unref is the one
    that frees. -/
def demoUnstored : List Ev := [
  .createBegin 0 true false, .createEnd 0, .startUnstored 1, .keyCreate 1 0, .keyCas 1 0, .exit 1 7, .retUnstored 1 0, .threadEnd 1,
  .join 0 0, .unref 0 0 ]

example : (match run init demoUnstored with
    | .ok s => some (s.joinLog, s.freeLog, s.dtorLog, (s.thr 1).phase, (s.hdl 0).retCode)
    | .error _ => none) = some ([(0, 0, 0)], [1, 0], [(1, 0, 2)], .ended, 0) := by rfl
example : checkDisc init demoUnstored = true := by rfl
example : checkDiscT ginit demoUnstored = true := by rfl
example : PV.UThreadSpec.obsRun init demoUnstored = PV.UThreadSpec.specRun {} demoUnstored := by rfl
example : (match run init [.createBegin 0 false false, .createEnd 0, .startUnstored 1, .unref 0 0, .retUnstored 1 0, .threadEnd 1] with
    | .ok s => some (s.freeLog, (s.hdl 0).refCount) | .error _ => none) = some ([0], 0) := by rfl

/-- a stored thread does not return through the proxy's unref, an unstored one not through the plain return -/
example : (match run init [.createBegin 0 true false, .createEnd 0, .startUnstored 1] with
    | .ok s => step s (.ret 1) | .error e => .error e) = .error .notEnabled := by rfl
example : (match run init [.createBegin 0 true false, .createEnd 0, .keyCreate 1 0, .keyCas 1 0, .start 1] with
    | .ok s => step s (.retUnstored 1 0) | .error e => .error e) = .error .notEnabled := by rfl

/-- the witness for `replace_setspecific_failure_destroys_twice`: thread 1 stores 5 under a key with a notifier; its
    `replace_local (6)` fails in the native store: the notifier has run for 5, the slot still holds 5 (`get` reads 5); at the
    thread's end the notifier runs for 5 again -/
example : (match run init [.localNew 0 true, .createBegin 0 true false, .createEnd 0, .keyCreate 1 0, .keyCas 1 0, .start 1,
      .keyCreate 1 1, .keyCas 1 1, .setLocal 1 1 5, .storeFail 1 1 true, .getLocal 1 1, .storeFail 1 1 false, .ret 1, .threadEnd 1] with
    | .ok s => some (s.dtorLog.filter (fun x => x.2.1 ≠ 0), s.getLog)
    | .error _ => none) = some ([(1, 1, 5), (1, 1, 5)], [(1, 1, 5)]) := by rfl

/-- a key released with `p_uthread_local_free` while a thread still holds a value under it: the native key is
    deleted and its block freed once, and the thread's end calls no notifier for the dropped value 5 (only the
    library key's own destructor runs) -/
example : (match run init [.localNew 0 true, .createBegin 0 true false, .createEnd 0, .keyCreate 1 0, .keyCas 1 0, .start 1,
      .keyCreate 1 1, .keyCas 1 1, .setLocal 1 1 5, .localFree 0 1, .ret 1, .threadEnd 1] with
    | .ok s => some (s.dtorLog, s.keyDelLog, s.blockFreeLog, (s.nkey 1).live, (s.nkey 1).blockFreed)
    | .error _ => none) = some ([(1, 0, 1)], [1], [1], false, true) := by rfl

/-- `demo` also obeys the per-thread discipline (the creator, thread 0, holds and gives up both user
    references); in its final state nobody holds anything -/
example : checkDiscT ginit demo = true := by rfl
example : (match grun ginit (demo.take 11) with
    | .ok g => some (g.owns 0 0, g.owns 0 1, g.owns 1 0, heldBy g 0, (g.s.hdl 0).refCount)
    | .error _ => none) = some (1, 1, 0, 1, 2) := by rfl

/-- the reference on `demo`: the same 25 answers as the machine, e.g. the last three (thread 2 ends: handle 1
    released, notifier for 7; join gives −3; last unref releases handle 0) -/
example : PV.UThreadSpec.obsRun init demo = PV.UThreadSpec.specRun {} demo := by rfl
example : ((PV.UThreadSpec.specRun {} demo).drop 22).map (fun o => (o.ret, o.live, o.freed, o.dtor)) =
    [([], [0], [1], [(2, 1, 7)]), ([-3], [0], [], []), ([], [], [0], [])] := by rfl

/-- init immediately followed by shutdown: the native key made by the `get_local` inside shutdown is released
    again; and shutdown after `demo` (all threads ended, but the user key 1 never released): the library key's
    native keys are gone, the user key's native key 2 is what remains -/
example : (match shutdown init 0 with
    | .ok s => some (s.nN, (s.nkey 0).live, (s.nkey 0).blockFreed, s.keyDelLog, s.blockFreeLog)
    | .error _ => none) = some (1, false, true, [0], [0]) := by rfl
example : (match run init demo with
    | .ok s => (match shutdown s 0 with
      | .ok s' => some ((List.range s'.nN).filter fun n => (s'.nkey n).live, s'.keyDelLog)
      | .error _ => none)
    | .error _ => none) = some ([2], [0, 1]) := by rfl

end PV.UThread
