import PV.Lemmas.Tree.AVL
import PV.Lemmas.Tree.RB
import PV.Generated.TreeLoops
/-!
# C13 — AVL and red-black trees stay balanced after every operation

Reachable = produced from the empty tree by any sequence of calls.  The bounds are in exact integer
form: AVL `fib (h+2) ≤ n+1` (which is the 1.4405·log2(n+2) bound), red-black `2^bh ≤ n+1 ∧ h ≤ 2·bh`
(hence `h ≤ 2·log2(n+1)`).  A lookup compares against at most `h` keys.
The op sequences include inserts whose node allocation fails (`Op.insf`, a step kind of `avlRun` / `rbRun`): such a call
leaves the tree literally as it was (`failed_insert_is_identity`, C12), so no balance factor or colour is half-updated.
`PV.Generated.TreeLoops` is imported for the tie only: the check reads the imports, so a refusal of the translator on
ptree.c blocks this property; the fact itself is `tree_source_as_modelled` (C12).
-/
namespace PV.Tree
open Std

variable {κ ν : Type} {cmp : κ → κ → Ordering}

theorem avl_reachable_balanced [TransCmp cmp] (ops : List (Op κ ν)) (s : AT κ ν × Int) (outs : List (Out κ ν))
    (h : avlRun cmp (.nil, 0) ops = some (s, outs)) : s.1.Inv := by
  obtain ⟨s', h1, _, h3⟩ := avlRun_refines (cmp := cmp) ops .nil List.Pairwise.nil trivial
  cases h1.symm.trans h
  exact h3

theorem avl_height_bound (t : AT κ ν) (hi : t.Inv) : fib (t.height + 2) ≤ t.size + 1 := by
  induction t with
  | nil => simp [fib]
  | node l k v b r ihl ihr =>
    obtain ⟨hil, hir, hb, hb1, hb2⟩ := hi
    have h1 := ihl hil
    have h2 := ihr hir
    simp only [AT.height_node, AT.size_node]
    by_cases hlr : r.height ≤ l.height
    · have hm : max l.height r.height = l.height := by omega
      have h3 : fib (l.height + 1) ≤ fib (r.height + 2) := fib_mono (by omega)
      have h4 : fib (l.height + 1 + 2) = fib (l.height + 1) + fib (l.height + 2) := by rw [fib]
      rw [hm, h4]
      omega
    · have hm : max l.height r.height = r.height := by omega
      have h3 : fib (r.height + 1) ≤ fib (l.height + 2) := fib_mono (by omega)
      have h4 : fib (r.height + 1 + 2) = fib (r.height + 1) + fib (r.height + 2) := by rw [fib]
      rw [hm, h4]
      omega

theorem rb_reachable_balanced [TransCmp cmp] (ops : List (Op κ ν)) (s : RT κ ν × Int) (outs : List (Out κ ν))
    (h : rbRun cmp (.nil, 0) ops = some (s, outs)) : s.1.Inv := by
  obtain ⟨s', h1, _, h3⟩ := rbRun_refines (cmp := cmp) ops .nil List.Pairwise.nil ⟨rfl, trivial⟩
  cases h1.symm.trans h
  exact h3

theorem rb_height_bound (t : RT κ ν) (hi : t.Inv) : 2 ^ t.bh ≤ t.size + 1 ∧ t.height ≤ 2 * t.bh :=
  ⟨RT.pow_bh_le_size t hi.2, RT.height_le_two_bh t hi⟩

/-- `2^⌈h/2⌉ ≤ n + 1`, i.e. `h ≤ 2·log2 (n+1)` -/
theorem rb_height_log (t : RT κ ν) (hi : t.Inv) : 2 ^ ((t.height + 1) / 2) ≤ t.size + 1 := by
  have ⟨h1, h2⟩ := rb_height_bound t hi
  exact Nat.le_trans (Nat.pow_le_pow_right (by decide) (by omega)) h1

theorem lookup_cost (t : BT κ ν) (k : κ) : (t.lookupPath cmp k).length ≤ t.height := by
  induction t with
  | nil => simp [BT.lookupPath, BT.height]
  | node l x v r ihl ihr =>
    simp only [BT.lookupPath, BT.height]
    cases cmp k x <;> simp only [List.length_cons, List.length_nil] <;> omega

/-- non-vacuity for histories with failing inserts: reachable, and balanced -/
example : ∃ s outs, rbRun (κ := Nat) (ν := Nat) compare (.nil, 0) [.ins 2 20, .insf 1 10, .ins 3 30, .insf 3 31, .ins 4 40, .rem 2] = some (s, outs) ∧ s.1.Inv := by
  obtain ⟨s, h1, _, h3⟩ := rbRun_refines (cmp := (compare : Nat → Nat → Ordering)) (ν := Nat)
    [.ins 2 20, .insf 1 10, .ins 3 30, .insf 3 31, .ins 4 40, .rem 2] .nil List.Pairwise.nil ⟨rfl, trivial⟩
  exact ⟨s, _, h1, h3⟩

example : (AT.node (.node .nil 1 1 0 .nil) 2 2 1 .nil : AT Nat Nat).Inv := by
  simp [AT.Inv, AT.height, AT.toBT, BT.height]

end PV.Tree
