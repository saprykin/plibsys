import PV.Model.Atomics
/-!
# N-thread transition systems of the lock implementations (C01) and of the bracketed atomics (C04)

Thread identifiers are natural numbers: *any* number of threads; a state maps every identifier to a
program counter.  Every relation below is an interleaving semantics: one step = one call of an atomic
builtin (lock-free models), one native pthread call (posix / sim), or one single load / store of the
shared word (bracketed bodies of `patomic-sim.c`).

(a) `SStep`   — CAS spinlock of `pspinlock-c11.c` / `pspinlock-sync.c`.  The steps are *defined through*
               `PV.Atomics.interp` of the generated records (`SpinImpl`): expected / desired values, the
               loop condition and the value stored by unlock are whatever the translator read off the
               source, not constants of this file.
(b) `MStep`   — abstract pthread mutex (`owner : Option Tid`; the POSIX contract, trusted) composed with
               the return-code mapping of the `pmutex-posix.c` wrappers (`MutexFn.ret`, generated).
               `pspinlock-sim.c` is the same machine through its delegation record.
(b') `PSStep`, `PMStep` — several lock objects: the product of copies of (a) / (b), one step on one object.
(c) `BStep`   — threads executing `lock; <body as separate loads and stores>; unlock` over one global
               mutex (`patomic-sim.c`); generic in the body (`Res`), reused wherever a lock brackets a
               read-modify-write.
(e) `LStep`   — lock-free back-ends of the atomics: one builtin call of a table record = one step.
(d) a small happens-before model for the visibility clause.
-/
namespace PV.Locks
open PV.Atomics

abbrev Tid := Nat

def upd {α : Type} (f : Tid → α) (t : Tid) (v : α) : Tid → α := fun u => if u = t then v else f u

@[simp] theorem upd_same {α : Type} (f : Tid → α) (t : Tid) (v : α) : upd f t v t = v := by simp [upd]
@[simp] theorem upd_other {α : Type} (f : Tid → α) (t u : Tid) (v : α) (h : u ≠ t) : upd f t v u = f u := by
  simp [upd, h]

theorem upd_eq_iff {α : Type} {f : Tid → α} {t u : Tid} {v y : α} :
    upd f t v u = y ↔ (u = t ∧ v = y) ∨ (u ≠ t ∧ f u = y) := by
  by_cases h : u = t <;> simp [upd, h]

/-! ## (a) CAS spinlock -/

abbrev W32 := BitVec 32

inductive PC | idle | spin | held
  deriving DecidableEq, Repr

structure SState where
  word : W32
  pc : Tid → PC

inductive Lbl
  | callLock (t : Tid)
  | cas (t : Tid) (ok : Bool)          -- one iteration of the spin loop
  | try_ (t : Tid) (ok : Bool)         -- a complete p_spinlock_trylock call
  | unlock (t : Tid)
  | rogueUnlock (t : Tid)
  deriving DecidableEq, Repr

/-- where a thread is after a CAS of the spin loop returned `b`: the loop repeats while the result
    equals the generated `loopWhile`; otherwise the function returns `lockRet` -/
def afterCas (p : SpinImpl) (b : Bool) : PC :=
  if b = p.loopWhile then .spin else if p.lockRet then .held else .idle

/-- `rogue = false`: the usage discipline (only a holder calls unlock); `rogue = true` additionally
    lets any non-holder call unlock. -/
inductive SStep (p : SpinImpl) (rogue : Bool) : SState → Lbl → SState → Prop
  | callLock (s : SState) (t : Tid) : s.pc t = .idle →
      SStep p rogue s (.callLock t) ⟨s.word, upd s.pc t .spin⟩
  | cas (s : SState) (t : Tid) (w' : W32) (b : Bool) : s.pc t = .spin →
      interp p.lockCas s.word 0 0 = some (w', .bool b) →
      SStep p rogue s (.cas t b) ⟨w', upd s.pc t (afterCas p b)⟩
  | casSpurious (s : SState) (t : Tid) : s.pc t = .spin → p.lockCas.weak = some true →
      SStep p rogue s (.cas t false) ⟨s.word, upd s.pc t (afterCas p false)⟩
  | try_ (s : SState) (t : Tid) (w' : W32) (b : Bool) : s.pc t = .idle →
      interp p.tryCas s.word 0 0 = some (w', .bool b) →
      SStep p rogue s (.try_ t b) ⟨w', upd s.pc t (if b then .held else .idle)⟩
  | trySpurious (s : SState) (t : Tid) : s.pc t = .idle → p.tryCas.weak = some true →
      SStep p rogue s (.try_ t false) ⟨s.word, upd s.pc t .idle⟩
  | unlock (s : SState) (t : Tid) (w' : W32) : s.pc t = .held →
      interp p.unlock s.word 0 0 = some (w', .void) →
      SStep p rogue s (.unlock t) ⟨w', upd s.pc t .idle⟩
  | rogueUnlock (s : SState) (t : Tid) (w' : W32) : rogue = true → s.pc t ≠ .held →
      interp p.unlock s.word 0 0 = some (w', .void) →
      SStep p rogue s (.rogueUnlock t) ⟨w', s.pc⟩

/-- `p_spinlock_new`: the word comes from `p_malloc0` (checked by the translator: `zeroInit`) -/
def sInit : SState := ⟨0, fun _ => .idle⟩

inductive SReach (p : SpinImpl) (rogue : Bool) : SState → Prop
  | init : SReach p rogue sInit
  | step {s s' : SState} {l : Lbl} : SReach p rogue s → SStep p rogue s l s' → SReach p rogue s'

/-- which store does a successful acquisition read?  Reachability with a ghost: the label of the last
    step that *wrote* the lock word -/
inductive SReachG (p : SpinImpl) : SState → Option Lbl → Prop
  | init : SReachG p sInit none
  | step {s s' : SState} {l : Lbl} {lw : Option Lbl} : SReachG p s lw → SStep p false s l s' →
      SReachG p s' (match l with
        | .cas _ true => some l
        | .try_ _ true => some l
        | .unlock _ => some l
        | _ => lw)

/-- lock returned / trylock returned TRUE, and unlock not yet called -/
def SState.holds (s : SState) (t : Tid) : Prop := s.pc t = .held

/-- What the exclusion proof needs from the generated records.  Each field is discharged on the
    concrete records in `PV.Props.C01`; if the source changes so that one of them is false, that
    instance no longer compiles. -/
structure SpinGood (p : SpinImpl) : Prop where
  lockCas0 : interp p.lockCas 0#32 0 0 = some (1#32, Ret.bool true)
  lockCasN : ∀ w : BitVec 32, w ≠ 0#32 → interp p.lockCas w 0 0 = some (w, Ret.bool false)
  tryCas0 : interp p.tryCas 0#32 0 0 = some (1#32, Ret.bool true)
  tryCasN : ∀ w : BitVec 32, w ≠ 0#32 → interp p.tryCas w 0 0 = some (w, Ret.bool false)
  unlock : ∀ w : BitVec 32, interp p.unlock w 0 0 = some (0#32, Ret.void)
  loop : p.loopWhile = false
  lockRet : p.lockRet = true
  tryStrong : p.tryCas.weak ≠ some true
  fresh : p.expectedFresh = true
  sameWord : p.sameWord = true
  zeroInit : p.zeroInit = true

/-! ### executable single-step functions (used by the driver; same `interp` as the relation) -/

/-- one complete `p_spinlock_lock` call by a thread running alone: `none` = it spins for ever -/
def lockAlone (p : SpinImpl) : Nat → W32 → Option (W32 × Bool)
  | 0, _ => none
  | fuel + 1, w =>
    match interp p.lockCas w 0 0 with
    | some (w', .bool b) => if b = p.loopWhile then lockAlone p fuel w' else some (w', p.lockRet)
    | _ => none

def tryAlone (p : SpinImpl) (w : W32) : Option (W32 × Bool) :=
  match interp p.tryCas w 0 0 with
  | some (w', .bool b) => some (w', b)
  | _ => none

def unlockAlone (p : SpinImpl) (w : W32) : Option (W32 × Bool) :=
  match interp p.unlock w 0 0 with
  | some (w', .void) => some (w', p.unlockRet)
  | _ => none

/-! ## (b) pthread mutex (trusted POSIX contract) + wrapper mapping -/

inductive MPC | idle | held
  deriving DecidableEq, Repr

structure MState where
  owner : Option Tid
  pc : Tid → MPC

inductive NativeFn | lock | trylock | unlock
  deriving DecidableEq, Repr

def nativeOf (name : String) : Option NativeFn :=
  if name = "pthread_mutex_lock" then some .lock
  else if name = "pthread_mutex_trylock" then some .trylock
  else if name = "pthread_mutex_unlock" then some .unlock
  else none

/-- POSIX `pthread_mutex_{lock,trylock,unlock}` on one valid mutex: `Native fn owner caller code owner'`.
    lock blocks (no step) while another thread owns the mutex; trylock answers EBUSY instead (and only then);
    an unsuccessful call (any non-zero code) leaves the mutex unchanged; unlock by the owner releases.
    (Relocking by the owner and unlocking by a non-owner are undefined for the default mutex type
    and have no rule.) -/
inductive Native (ebusy : Int) : NativeFn → Option Tid → Tid → Int → Option Tid → Prop
  | lockAcquire (t : Tid) : Native ebusy .lock none t 0 (some t)
  | lockFail (o : Option Tid) (t : Tid) (c : Int) : c ≠ 0 → Native ebusy .lock o t c o
  | tryAcquire (t : Tid) : Native ebusy .trylock none t 0 (some t)
  | tryBusy (u t : Tid) : Native ebusy .trylock (some u) t ebusy (some u)
  | tryFail (o : Option Tid) (t : Tid) (c : Int) : c ≠ 0 → c ≠ ebusy → Native ebusy .trylock o t c o
  | unlockRelease (t : Tid) : Native ebusy .unlock (some t) t 0 none
  | unlockFail (o : Option Tid) (t : Tid) (c : Int) : c ≠ 0 → Native ebusy .unlock o t c o

inductive MLbl
  | lock (t : Tid) (code : Int) (ret : Bool)
  | try_ (t : Tid) (code : Int) (ret : Bool)
  | unlock (t : Tid) (code : Int) (ret : Bool)
  deriving DecidableEq, Repr

inductive MStep (ebusy : Int) (m : MutexImpl) : MState → MLbl → MState → Prop
  | lock (s : MState) (t : Tid) (c : Int) (o' : Option Tid) (k : NativeFn) : s.pc t = .idle →
      nativeOf m.lock.native = some k → Native ebusy k s.owner t c o' →
      MStep ebusy m s (.lock t c (m.lock.ret c)) ⟨o', upd s.pc t (if m.lock.ret c then .held else .idle)⟩
  | try_ (s : MState) (t : Tid) (c : Int) (o' : Option Tid) (k : NativeFn) : s.pc t = .idle →
      nativeOf m.trylock.native = some k → Native ebusy k s.owner t c o' →
      MStep ebusy m s (.try_ t c (m.trylock.ret c)) ⟨o', upd s.pc t (if m.trylock.ret c then .held else .idle)⟩
  | unlock (s : MState) (t : Tid) (c : Int) (o' : Option Tid) (k : NativeFn) : s.pc t = .held →
      nativeOf m.unlock.native = some k → Native ebusy k s.owner t c o' →
      MStep ebusy m s (.unlock t c (m.unlock.ret c)) ⟨o', upd s.pc t .idle⟩

def mInit : MState := ⟨none, fun _ => .idle⟩

inductive MReach (ebusy : Int) (m : MutexImpl) : MState → Prop
  | init : MReach ebusy m mInit
  | step {s s' : MState} {l : MLbl} : MReach ebusy m s → MStep ebusy m s l s' → MReach ebusy m s'

def MState.holds (s : MState) (t : Tid) : Prop := s.pc t = .held

structure MutexGood (m : MutexImpl) : Prop where
  lockNative : nativeOf m.lock.native = some .lock
  tryNative : nativeOf m.trylock.native = some .trylock
  unlockNative : nativeOf m.unlock.native = some .unlock
  lockRet : ∀ c, m.lock.ret c = true ↔ c = 0
  tryRet : ∀ c, m.trylock.ret c = true ↔ c = 0
  unlockRet : ∀ c, m.unlock.ret c = true ↔ c = 0

/-- the wrappers reached through `pspinlock-sim.c` (each function returns the delegate's result) -/
def simSpinMutex (i : SimSpinImpl) (m : MutexImpl) : MutexImpl :=
  let pick (n : String) : MutexFn :=
    if n = "p_mutex_lock" then m.lock
    else if n = "p_mutex_trylock" then m.trylock
    else if n = "p_mutex_unlock" then m.unlock
    else { cname := n, native := "?", cmp := .ne, const := 0 }
  { lock := pick i.lockDelegate, trylock := pick i.tryDelegate, unlock := pick i.unlockDelegate }

/-! ### executable single-call functions (used by the driver) -/

/-- result code of a native call made by thread `t` on a mutex owned by `owner`, for a *valid* mutex
    (no spurious errors): `none` = the call does not return (lock on a held mutex) or is undefined
    (unlock by a non-owner, relock by the owner) -/
def nativeAlone (ebusy : Int) (fn : NativeFn) (owner : Option Tid) (t : Tid) : Option (Int × Option Tid) :=
  match fn, owner with
  | .lock, none => some (0, some t)
  | .lock, some _ => none
  | .trylock, none => some (0, some t)
  | .trylock, some u => some (ebusy, some u)
  | .unlock, some u => if u = t then some (0, none) else none
  | .unlock, none => none

/-- one wrapper call: (wrapper's return value, native code, new owner) -/
def wrapperAlone (ebusy : Int) (f : MutexFn) (owner : Option Tid) (t : Tid) : Option (Bool × Int × Option Tid) :=
  match nativeOf f.native with
  | none => none
  | some fn =>
    match nativeAlone ebusy fn owner t with
    | none => none
    | some (c, o') => some (f.ret c, c, o')

/-- `p_mutex_new` (hand transliteration): NULL when `pthread_mutex_init` reports an error -/
def mutexNewOk (initCode : Int) : Bool := initCode == 0

/-! ## (b') several lock objects

`p_spinlock_new` / `p_mutex_new` hand out objects with a lock word / native mutex of their own (c11 / sync: the
word is a member of the object; posix: `hdl` is a member; sim: `SimSpinImpl.freshMutex`, generated).  A program
using objects `0, 1, 2, …` is the product machine: every step is a step of exactly one object and leaves all the
others as they are.  Threads are shared: the same thread may hold several objects. -/

def updObj {σ : Type} (f : Nat → σ) (i : Nat) (v : σ) : Nat → σ := fun j => if j = i then v else f j

inductive PSStep (p : SpinImpl) : (Nat → SState) → (Nat → SState) → Prop
  | on (f : Nat → SState) (i : Nat) (l : Lbl) (s' : SState) : SStep p false (f i) l s' → PSStep p f (updObj f i s')

inductive PSReach (p : SpinImpl) : (Nat → SState) → Prop
  | init : PSReach p (fun _ => sInit)
  | step {f g : Nat → SState} : PSReach p f → PSStep p f g → PSReach p g

inductive PMStep (ebusy : Int) (m : MutexImpl) : (Nat → MState) → (Nat → MState) → Prop
  | on (f : Nat → MState) (i : Nat) (l : MLbl) (s' : MState) : MStep ebusy m (f i) l s' → PMStep ebusy m f (updObj f i s')

inductive PMReach (ebusy : Int) (m : MutexImpl) : (Nat → MState) → Prop
  | init : PMReach ebusy m (fun _ => mInit)
  | step {f g : Nat → MState} : PMReach ebusy m f → PMStep ebusy m f g → PMReach ebusy m g

/-! ## (c) bracketed bodies over one global mutex -/

inductive BPC (n : Nat) (ρ : Type)
  | idle
  | waiting (prog : Res n ρ)      -- inside `p_mutex_lock`, not yet acquired
  | inBody (r : Res n ρ)          -- holder; `r` is what remains of the body
  | unlocking (ret : ρ)           -- body finished, `p_mutex_unlock` not yet executed

structure BState (n : Nat) (ρ : Type) where
  word : BitVec n
  owner : Option Tid
  pc : Tid → BPC n ρ
  /-- ghost: operations in the order of their lock acquisitions -/
  acq : List (Tid × Res n ρ)
  /-- ghost: return values of the completed bodies, in completion order -/
  done : List (Tid × ρ)

/-- `Ops` restricts which programs a thread may start (e.g. "any `p_atomic_*` of the table") -/
inductive BStep {n : Nat} {ρ : Type} (Ops : Res n ρ → Prop) : BState n ρ → BState n ρ → Prop
  | call (s : BState n ρ) (t : Tid) (prog : Res n ρ) : s.pc t = .idle → Ops prog →
      BStep Ops s { s with pc := upd s.pc t (.waiting prog) }
  | lock (s : BState n ρ) (t : Tid) (prog : Res n ρ) : s.pc t = .waiting prog → s.owner = none →
      BStep Ops s { s with owner := some t, pc := upd s.pc t (.inBody prog), acq := s.acq ++ [(t, prog)] }
  | load (s : BState n ρ) (t : Tid) (k : BitVec n → Res n ρ) : s.pc t = .inBody (.load k) →
      BStep Ops s { s with pc := upd s.pc t (.inBody (k s.word)) }
  | store (s : BState n ρ) (t : Tid) (v : BitVec n) (k : Res n ρ) : s.pc t = .inBody (.store v k) →
      BStep Ops s { s with word := v, pc := upd s.pc t (.inBody k) }
  | fin (s : BState n ρ) (t : Tid) (r : ρ) : s.pc t = .inBody (.done r) →
      BStep Ops s { s with pc := upd s.pc t (.unlocking r), done := s.done ++ [(t, r)] }
  | unlock (s : BState n ρ) (t : Tid) (r : ρ) : s.pc t = .unlocking r →
      BStep Ops s { s with owner := none, pc := upd s.pc t .idle }

def bInit {n : Nat} {ρ : Type} (w0 : BitVec n) : BState n ρ := ⟨w0, none, fun _ => .idle, [], []⟩

inductive BReach {n : Nat} {ρ : Type} (Ops : Res n ρ → Prop) (w0 : BitVec n) : BState n ρ → Prop
  | init : BReach Ops w0 (bInit w0)
  | step {s s' : BState n ρ} : BReach Ops w0 s → BStep Ops s s' → BReach Ops w0 s'

/-- executing the operations one after the other, each indivisibly, from word `w`:
    final word and the list of return values -/
def seqRun {n : Nat} {ρ : Type} (w : BitVec n) : List (Tid × Res n ρ) → Option (BitVec n × List (Tid × ρ))
  | [] => some (w, [])
  | (t, prog) :: rest =>
    match runRes prog w with
    | none => none
    | some (w', r) =>
      match seqRun w' rest with
      | none => none
      | some (wf, rs) => some (wf, (t, r) :: rs)

/-! ## (e) lock-free back-ends: one builtin call = one step -/

/-- a logged operation of the lock-free models -/
structure LOp (n : Nat) where
  impl : AtomicImpl
  a : BitVec n
  b : BitVec n

structure LState (n : Nat) where
  word : BitVec n
  ops : List (LOp n)
  rets : List (Ret n)

/-- interleaving model of the lock-free back-ends: a step is one complete operation (= one builtin call)
    of some thread, with any arguments -/
inductive LStep (tbl : List AtomicImpl) {n : Nat} : LState n → LState n → Prop
  | op (s : LState n) (i : AtomicImpl) (a b w' : BitVec n) (r : Ret n) : i ∈ tbl →
      interp i s.word a b = some (w', r) → LStep tbl s ⟨w', s.ops ++ [⟨i, a, b⟩], s.rets ++ [r]⟩

inductive LReach (tbl : List AtomicImpl) {n : Nat} (w0 : BitVec n) : LState n → Prop
  | init : LReach tbl w0 ⟨w0, [], []⟩
  | step {s s' : LState n} : LReach tbl w0 s → LStep tbl s s' → LReach tbl w0 s'

/-- executing spec operations one after the other -/
def specRun {n : Nat} (w : BitVec n) : List (LOp n) → BitVec n × List (Ret n)
  | [] => (w, [])
  | o :: rest =>
    let x := spec o.impl.op w o.a o.b
    let y := specRun x.1 rest
    (y.1, x.2 :: y.2)

/-! ## (d) happens-before for one lock word

Events of an execution in which the lock is taken `k = 0, 1, 2, …` times (numbered in the order of the
successful acquisitions, which is the modification order of the lock word): the acquiring
read-modify-write `acq k`, the accesses `body k i` of the critical section, the releasing store `rel k`.
Program order relates the events of one critical section (they are executed by one thread in this
order).  `rel k` is read by `acq (k+1)` (`acquire_reads_release` in `PV.Lemmas.Locks` shows this for
the spinlock machine).  That pair *synchronises* iff the store is release-or-stronger and the RMW is
acquire-or-stronger.  This is a simplification of C11 adequate for one lock word (DESIGN C01). -/

inductive Ev
  | acq (k : Nat)
  | body (k i : Nat)
  | rel (k : Nat)
  deriving DecidableEq, Repr

inductive HB (relOK acqOK : Bool) : Ev → Ev → Prop
  | po_acq_body (k i : Nat) : HB relOK acqOK (.acq k) (.body k i)
  | po_body_body (k i j : Nat) : i < j → HB relOK acqOK (.body k i) (.body k j)
  | po_body_rel (k i : Nat) : HB relOK acqOK (.body k i) (.rel k)
  | po_acq_rel (k : Nat) : HB relOK acqOK (.acq k) (.rel k)
  | sw (k : Nat) : relOK = true → acqOK = true → HB relOK acqOK (.rel k) (.acq (k + 1))
  | trans {a b c : Ev} : HB relOK acqOK a b → HB relOK acqOK b c → HB relOK acqOK a c

/-- the critical section an event belongs to -/
def evCs : Ev → Nat
  | .acq k => k
  | .body k _ => k
  | .rel k => k

/-- memory model under which a record is judged -/
inductive MemModel
  | c11      -- portable C11 / GCC builtin contract
  | tso      -- x86-TSO hardware + volatile accesses not reordered by the compiler: every store is a
             -- release, every load an acquire; only store→load order needs a fence
  deriving DecidableEq, Repr

/-- is the unlock access of this record a release (or stronger)? -/
def relOK (mm : MemModel) (i : AtomicImpl) : Bool :=
  match i.builtin with
  | .atomicStore => match i.order with
    | some o => o.isRelease
    | none => false
  | .plainStore => i.fenceBefore || (mm == .tso && i.fenceAfter)
  | _ => false

/-- is the successful CAS of this record an acquire (or stronger)? -/
def acqOK (i : AtomicImpl) : Bool :=
  match i.builtin with
  | .atomicCas => match i.order with
    | some o => o.isAcquire
    | none => false
  | .syncBoolCas => true            -- `__sync_*` builtins are full barriers (GCC manual)
  | _ => false

end PV.Locks
