import PV.Lemmas.Socket
/-!
# Reasoning about computations in the scripted-syscall monad `M`

* observing a run without its trace (`Step.full`, `Step.val`, `seen`) and the congruences the script-erasure
  equalities of C09 need;
* `TrAll P m`: every native call `m` makes satisfies `P` — one rule per construct of `M`, `Only S m` for "calls of the
  kinds `S` only", the tactic `tr_all`;
* `ResAll P m`: whenever `m` returns, value and trace satisfy `P` — the same rules with the value, the tactic `res_all`.
-/
namespace PV.Socket
open PV.Generated.Socket

@[simp] theorem M.bind_apply {α β} (m : M α) (k : α → M β) (st : St) : (m >>= k) st = M.bind m k st := rfl
@[simp] theorem M.pure_apply {α} (a : α) (st : St) : (pure a : M α) st = .ok a st [] := rfl

theorem M.pure_bind {α β} (a : α) (k : α → M β) : (Pure.pure a >>= k) = k a := by
  funext st
  show M.bind (M.pure a) k st = k a st
  unfold M.bind M.pure
  simp only []
  cases k a st <;> simp

theorem M.bind_assoc {α β γ} (m : M α) (f : α → M β) (k : β → M γ) :
    ((m >>= f) >>= k) = (m >>= fun a => f a >>= k) := by
  funext st
  show M.bind (M.bind m f) k st = M.bind m (fun a => M.bind (f a) k) st
  unfold M.bind
  cases m st with
  | stop w => simp
  | ok a st' e1 =>
    simp only []
    cases f a st' with
    | stop w => simp
    | ok b st'' e2 =>
      simp only []
      cases k b st'' <;> simp [List.append_assoc]

theorem runM_ok {α} {m : M α} {script : Script} {e : Int} {a : α} {st : St} {evs : List Ev}
    (h : runM m script e = .ok (a, st, evs)) : m { script := script, errno := e } = .ok a st evs := by
  unfold runM at h
  cases hm : m { script := script, errno := e } with
  | stop w => simp [hm] at h
  | ok a' st' evs' => simpa [hm] using h

/-- `runM m` either stops or is a run of `m` -/
theorem runM_cases {α} (m : M α) (script : Script) (e : Int) :
    (∃ x, runM m script e = .error x) ∨
    ∃ a st evs, runM m script e = .ok (a, st, evs) ∧ m { script := script, errno := e } = .ok a st evs := by
  cases h : runM m script e with
  | error x => exact .inl ⟨x, rfl⟩
  | ok v => exact .inr ⟨v.1, v.2.1, v.2.2, rfl, runM_ok h⟩

theorem call_ok {s : Sock} {c : Call} {script : Script} {e : Int} {r : CallResult}
    (h : call s c script e = .ok r) :
    callM s c { script := script, errno := e } = .ok (r.sock, r.out) { script := r.rest, errno := r.errno } r.tr := by
  unfold call at h
  cases hm : callM s c { script := script, errno := e } with
  | stop w => simp [hm] at h
  | ok a st evs =>
    simp only [hm] at h
    injection h with h
    subst h
    rfl

def Step.full {α} : Step α → Except Stop (α × St)
  | .ok a st _ => .ok (a, st)
  | .stop w => .error w

def Step.val {α} : Step α → Except Stop α
  | .ok a _ _ => .ok a
  | .stop w => .error w

theorem Step.val_of_full {α} {x y : Step α} (h : x.full = y.full) : x.val = y.val := by
  cases x <;> cases y <;> simp_all [Step.full, Step.val]

theorem bind_full_congr {α β} (m m' : M α) (k : α → M β) (st st' : St)
    (h : (m st).full = (m' st').full) : ((m >>= k) st).full = ((m' >>= k) st').full := by
  show (M.bind m k st).full = (M.bind m' k st').full
  unfold M.bind
  cases hm : m st <;> cases hm' : m' st' <;> simp_all [Step.full]
  · obtain ⟨h1, h2⟩ := h
    subst h1; subst h2
    rename_i a st1 evs evs'
    cases k a st1 <;> simp

theorem bind_val_congr {α β} (m m' : M α) (k : α → M β) (st st' : St)
    (h : (m st).full = (m' st').full) : ((m >>= k) st).val = ((m' >>= k) st').val :=
  Step.val_of_full (bind_full_congr m m' k st st' h)

theorem bind_pure_val {α β} (m : M α) (f : α → β) (st : St) :
    ((m >>= fun a => pure (f a)) st).val = ((m st).val).map f := by
  show (M.bind m (fun a => M.pure (f a)) st).val = _
  unfold M.bind M.pure
  cases m st <;> simp [Step.val, Except.map]

theorem liftLoop_full (l l' : List Res → Int → LoopR) (st st' : St)
    (h : (l st.script st.errno).obs = (l' st'.script st'.errno).obs) :
    (liftLoop l st).full = (liftLoop l' st').full := by
  simp only [LoopR.obs, Prod.mk.injEq] at h
  obtain ⟨h1, h2, h3⟩ := h
  unfold liftLoop
  simp only [h1, h2, h3]
  cases (l' st'.script st'.errno).fin <;> simp [Step.full]

/-- what `call` lets one see when the trace and the unconsumed script are ignored -/
def seen (r : Except Stop CallResult) : Except Stop (Sock × Outcome) := r.map fun x => (x.sock, x.out)

theorem seen_call (s : Sock) (c : Call) (script : Script) (e : Int) :
    seen (call s c script e) = (callM s c { script := script, errno := e }).val := by
  unfold call seen
  cases callM s c { script := script, errno := e } <;> simp [Step.val, Except.map]

/-- every trace entry of `m`, on every script, satisfies `P` -/
def TrAll {α} (P : Ev → Prop) (m : M α) : Prop :=
  ∀ st, match m st with
    | .ok _ _ evs => ∀ ev ∈ evs, P ev
    | .stop _ => True

/-- whenever `m` returns, its value and the native calls it made satisfy `P` -/
def ResAll {α} (P : α → List Ev → Prop) (m : M α) : Prop :=
  ∀ st, match m st with
    | .ok a _ evs => P a evs
    | .stop _ => True

theorem ResAll.pure {α} {P : α → List Ev → Prop} (a : α) (h : P a []) : ResAll P (Pure.pure a : M α) := by
  intro st; simpa [Pure.pure, M.pure] using h

theorem ResAll.stopWith {α} {P : α → List Ev → Prop} (w : Stop) : ResAll P (stopWith w : M α) := by
  intro st; simp [PV.Socket.stopWith]

theorem ResAll.mono {α} {P P' : α → List Ev → Prop} {m : M α} (h : ∀ a evs, P a evs → P' a evs)
    (hm : ResAll P m) : ResAll P' m := by
  intro st
  have := hm st
  cases hms : m st with
  | stop w => simp
  | ok a st' evs => simp only [hms] at this ⊢; exact h _ _ this

theorem ResAll.and {α} {P Q : α → List Ev → Prop} {m : M α} (h1 : ResAll P m) (h2 : ResAll Q m) :
    ResAll (fun a evs => P a evs ∧ Q a evs) m := by
  intro st
  have a := h1 st
  have b := h2 st
  cases hm : m st <;> simp_all

theorem ResAll.bind {α β} {Q : α → List Ev → Prop} {P : β → List Ev → Prop} {m : M α} {k : α → M β}
    (hm : ResAll Q m) (hk : ∀ a, ResAll (fun b e2 => ∀ e1, Q a e1 → P b (e1 ++ e2)) (k a)) :
    ResAll P (m >>= k) := by
  intro st
  have h1 := hm st
  show match M.bind m k st with | .ok a _ evs => P a evs | .stop _ => True
  unfold M.bind
  cases hms : m st with
  | stop w => simp
  | ok a st' evs =>
    simp only [hms] at h1
    have h2 := hk a st'
    simp only []
    cases hks : k a st' with
    | stop w => simp
    | ok b st'' evs' =>
      simp only [hks] at h2
      exact h2 evs h1

/-- a bind whose first part is not looked at -/
theorem ResAll.bind_any {α β} {P : β → List Ev → Prop} {m : M α} {k : α → M β}
    (hk : ∀ a, ResAll (fun b e2 => ∀ e1 : List Ev, P b (e1 ++ e2)) (k a)) : ResAll P (m >>= k) := by
  refine ResAll.bind (Q := fun _ _ => True) ?_ ?_
  · intro st; cases m st <;> simp
  · intro a; exact ResAll.mono (fun b e2 h e1 _ => h e1) (hk a)

theorem ResAll.of_sys (c : Issued) : ResAll (fun r evs => evs = [⟨c, r⟩]) (sys c) := by
  intro st
  unfold PV.Socket.sys
  cases st.script with
  | nil => simp
  | cons r s => by_cases hs : r.sys = c.sys <;> simp [hs]

theorem ResAll.bind_sys {α} {P : α → List Ev → Prop} (c : Issued) (k : Res → M α)
    (hk : ∀ r, ResAll (fun b e2 => P b (⟨c, r⟩ :: e2)) (k r)) : ResAll P (sys c >>= k) :=
  ResAll.bind (ResAll.of_sys c) fun r => ResAll.mono (fun b e2 h e1 he => by subst he; exact h) (hk r)

/-- a computation that reads the state and issues nothing (`errnoErr`, `getErrno`) -/
theorem ResAll.bind_read {α β} {P : β → List Ev → Prop} {f : St → α} {m : M α} (hm : m = fun st => .ok (f st) st [])
    (k : α → M β) (hk : ∀ st, ResAll P (k (f st))) : ResAll P (m >>= k) := by
  subst hm
  intro st
  show match M.bind _ k st with | .ok a _ evs => P a evs | .stop _ => True
  unfold M.bind
  simp only []
  have := hk st st
  cases hks : k (f st) st with
  | stop w => simp
  | ok x st'' evs' => simp only [hks] at this; simpa using this

theorem ResAll.bind_errnoErr {α} {P : α → List Ev → Prop} (msg : String) (b : Bool) (k : PErr → M α)
    (hk : ∀ e : PErr, e.msg = msg → ResAll P (k e)) : ResAll P (errnoErr msg b >>= k) :=
  ResAll.bind_read (m := errnoErr msg b) rfl k fun _ => hk _ rfl

theorem ResAll.bind_getErrno {α} {P : α → List Ev → Prop} (k : Int → M α)
    (hk : ∀ e : Int, ResAll P (k e)) : ResAll P (getErrno >>= k) :=
  ResAll.bind_read (m := getErrno) rfl k fun _ => hk _

theorem ResAll.bind_pure {α β} {P : β → List Ev → Prop} (a : α) (k : α → M β)
    (hk : ResAll P (k a)) : ResAll P (Pure.pure a >>= k) := by
  rw [M.pure_bind]; exact hk

theorem ResAll.bind_assoc {α β γ} {P : γ → List Ev → Prop} (m : M α) (f : α → M β) (k : β → M γ)
    (h : ResAll P (m >>= fun a => f a >>= k)) : ResAll P ((m >>= f) >>= k) := by
  rw [M.bind_assoc]; exact h

theorem ResAll.ite {α} {P : α → List Ev → Prop} {c : Prop} [Decidable c] {a b : M α}
    (ha : c → ResAll P a) (hb : ¬c → ResAll P b) : ResAll P (if c then a else b) := by
  split
  · exact ha ‹_›
  · exact hb ‹_›

theorem ResAll.bind_ite {α β} {P : β → List Ev → Prop} {c : Prop} [Decidable c] {a b : M α} {k : α → M β}
    (ha : c → ResAll P (a >>= k)) (hb : ¬c → ResAll P (b >>= k)) : ResAll P ((if c then a else b) >>= k) := by
  split
  · exact ha ‹_›
  · exact hb ‹_›

theorem ResAll.elim {α} {P : α → List Ev → Prop} {m : M α} (h : ResAll P m) {st st' : St} {a : α} {evs : List Ev}
    (hm : m st = .ok a st' evs) : P a evs := by
  have := h st
  rw [hm] at this
  exact this

theorem ResAll.liftLoop (l : List Res → Int → LoopR) :
    ResAll (fun x evs => ∃ sc e, evs = (l sc e).evs ∧
      match x with | .ok r => (l sc e).fin = .done r | .error pe => (l sc e).fin = .fail pe) (liftLoop l) := by
  intro st
  unfold PV.Socket.liftLoop
  cases hf : (l st.script st.errno).fin with
  | stop w => simp only [hf]
  | done x => simp only [hf]; exact ⟨_, _, rfl, hf⟩
  | fail pe => simp only [hf]; exact ⟨_, _, rfl, hf⟩

theorem ResAll.of_trAll {α} {p : Ev → Prop} {m : M α} (h : TrAll p m) : ResAll (fun _ evs => ∀ ev ∈ evs, p ev) m := h

/-! `TrAll` is `ResAll` for a property of the trace alone, entry by entry; its rules are those of `ResAll`. -/

theorem TrAll.pure {α} {P : Ev → Prop} (a : α) : TrAll P (pure a : M α) :=
  ResAll.pure (P := fun _ evs => ∀ ev ∈ evs, P ev) a (by simp)

theorem TrAll.bind {α β} {P : Ev → Prop} {m : M α} {k : α → M β} (hm : TrAll P m) (hk : ∀ a, TrAll P (k a)) :
    TrAll P (m >>= k) :=
  ResAll.bind hm fun a => ResAll.mono (fun _ _ h _ h1 ev hev => (List.mem_append.1 hev).elim (h1 ev) (h ev)) (hk a)

theorem TrAll.sys {P : Ev → Prop} (c : Issued) (h : ∀ r, P ⟨c, r⟩) : TrAll P (sys c) :=
  ResAll.mono (fun r _ he ev hev => by subst he; exact List.mem_singleton.1 hev ▸ h r) (ResAll.of_sys c)

theorem TrAll.liftLoop {P : Ev → Prop} (l : List Res → Int → LoopR) (h : ∀ s e, ∀ ev ∈ (l s e).evs, P ev) :
    TrAll P (liftLoop l) :=
  ResAll.mono (fun _ _ ⟨sc, e, he, _⟩ => he ▸ h sc e) (ResAll.liftLoop l)

theorem TrAll.getErrno {P : Ev → Prop} : TrAll P getErrno := by intro st; simp [PV.Socket.getErrno]
theorem TrAll.errnoErr {P : Ev → Prop} (msg : String) (b : Bool) : TrAll P (errnoErr msg b) := by
  intro st; simp [PV.Socket.errnoErr]
theorem TrAll.stopWith {α} {P : Ev → Prop} (w : Stop) : TrAll P (stopWith w : M α) :=
  ResAll.stopWith (α := α) (P := fun _ evs => ∀ ev ∈ evs, P ev) w

theorem TrAll.ite {α} {P : Ev → Prop} {c : Prop} [Decidable c] {a b : M α} (ha : c → TrAll P a) (hb : ¬c → TrAll P b) :
    TrAll P (if c then a else b) := ResAll.ite ha hb

theorem TrAll.mono {α} {P Q : Ev → Prop} {m : M α} (h : TrAll P m) (hPQ : ∀ ev, P ev → Q ev) : TrAll Q m :=
  ResAll.mono (fun _ _ h ev hev => hPQ ev (h ev hev)) h

theorem TrAll.elim {α} {P : Ev → Prop} {m : M α} (h : TrAll P m) {st st' : St} {a : α} {evs : List Ev}
    (hm : m st = .ok a st' evs) : ∀ ev ∈ evs, P ev := ResAll.elim h hm

theorem TrAll.of_call {P : Ev → Prop} (s : Sock) (c : Call) (h : TrAll P (callM s c)) (script : Script) (e : Int)
    (r : CallResult) (hr : call s c script e = .ok r) : ∀ ev ∈ r.tr, P ev := h.elim (call_ok hr)

/-- `m` makes native calls of the kinds `S` only.  Most properties of a trace hold of every event whose kind is
    outside a short list (`Only.trAll`), so for a helper function this is the one fact about its trace. -/
abbrev Only (S : List Sys) {α} (m : M α) : Prop := TrAll (fun ev => ev.call.sys ∈ S) m

theorem Only.trAll {α} {S : List Sys} {m : M α} {P : Ev → Prop} (h : Only S m) (bad : List Sys)
    (hP : ∀ ev : Ev, ev.call.sys ∉ bad → P ev) (hd : ∀ x ∈ S, x ∉ bad := by decide) : TrAll P m :=
  h.mono fun ev hev => hP ev (hd _ hev)

theorem Only.mono {α} {S S' : List Sys} {m : M α} (h : Only S m) (hS : ∀ x ∈ S, x ∈ S' := by decide) : Only S' m :=
  TrAll.mono h fun _ hev => hS _ hev

attribute [irreducible] TrAll ResAll

/-- walk down the `do` block of a `TrAll` goal; `t` proves the property for one native call.  Sub-computations the
    rules do not know are left as goals.  `let`s become local definitions (their values do not matter to a trace, and
    substituting them multiplies every `if` they contain); one that is itself a computation is unfolded where it is run. -/
macro "tr_all" "(" t:tactic ")" : tactic => `(tactic|
  repeat' (first
    | intro _
    | extract_lets
    | with_reducible apply TrAll.bind
    | with_reducible apply TrAll.pure
    | with_reducible apply TrAll.errnoErr
    | with_reducible apply TrAll.getErrno
    | with_reducible apply TrAll.stopWith
    | ((with_reducible apply TrAll.sys); intro _; $t; done)
    | with_reducible apply TrAll.ite
    | split
    | dsimp +zetaDelta only))

/-- walk down the `do` block of a `ResAll` goal whose binds are native calls; `t` proves the property at a `pure` leaf.
    `let`s become local definitions, so that a leaf sees each value once. -/
macro "res_all" "(" t:tactic ")" : tactic => `(tactic|
  repeat' (first
    | intro _
    | extract_lets
    | with_reducible apply ResAll.bind_sys
    | with_reducible apply ResAll.bind_errnoErr
    | with_reducible apply ResAll.bind_getErrno
    | with_reducible apply ResAll.bind_pure
    | with_reducible apply ResAll.bind_assoc
    | with_reducible apply ResAll.bind_ite
    | ((with_reducible apply ResAll.pure); $t; done)
    | with_reducible apply ResAll.stopWith
    | with_reducible apply ResAll.ite
    | split
    | dsimp only
    | with_reducible apply ResAll.bind_any))

end PV.Socket
