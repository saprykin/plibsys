import PV.Lemmas.IPCSysVInv
/-! Per-step value lemmas for `p_semaphore_new` in flight (any initial value): the calls before SETVAL on a bound name, the
SETVAL on a live set. -/
namespace PV.SysV
open PV.Generated.IPCSysV

/-- a `p_semaphore_new` of mode `m` in flight before its SETVAL decision -/
def SemSt.opening (s : SemSt) (m : Mode) : Prop :=
  s.api = .new ∧ s.h.mode = m ∧ (s.pc = .cOpen ∨ s.pc = .cStat ∨ s.pc = .cFtok ∨ s.pc = .cGetExcl ∨ s.pc = .cGetPlain)

/-- one system call of such a machine on the bound name leaves the set alone; the machine stays in `opening`, or — CREATE mode —
    reaches `cSetval` with `sem_hdl = id`, or — OPEN mode — returns the struct with `sem_hdl = id` -/
theorem new_step_value (p : Pid) (intr : Bool) (nm : Nat) (s : SemSt) (os : OS) (f : KeyFile) (i : Ino) (id : SemId) (m : Mode)
    (hb : Bound os f i id) (hf : s.h.file = f) (hi : s.inv f i id) (ho : s.opening m) :
    (sysStep p intr s.next os nm).1.sems id = os.sems id ∧
    (match s.after (sysStep p intr s.next os nm).2 with
     | .cont s' => s'.h.file = f ∧ s'.h.init = s.h.init ∧ s'.inv f i id ∧
         (s'.opening m ∨ (m = .create ∧ s'.pc = .cSetval ∧ s'.api = .new ∧ s'.h.hdl = some id))
     | .done (h, r) => m = .open ∧ r = .ok () ∧ h.hdl = some id ∧ h.file = f) := by
  obtain ⟨r1, r2, r3, r4, r5, -⟩ := sem_answers_own p intr nm s os f i id hb hf hi
  obtain ⟨api, h, pc, built, failing, recreated⟩ := s
  obtain ⟨rfl, rfl, hp⟩ := ho
  cases hf
  have hi' := (if_pos rfl).mp hi
  constructor
  · -- none of the five calls is a `semctl` / `semop`, an `unlink` or an IPC_RMID
    refine (sysStep_bound p intr _ os nm _ i id hb ?_ ?_).2 ?_ ?_ <;> intros <;>
      rcases hp with hp | hp | hp | hp | hp <;> cases hp <;> nofun
  rcases hp with hp | hp | hp | hp | hp <;> cases hp
  · rw [r1 rfl]
    exact ⟨rfl, rfl, (if_pos rfl).mpr hi', .inl ⟨rfl, rfl, .inr (.inl rfl)⟩⟩
  · rw [r2 rfl]
    exact ⟨rfl, rfl, (if_pos rfl).mpr hi', .inl ⟨rfl, rfl, .inr (.inr (.inl rfl))⟩⟩
  · rw [r3 rfl]
    exact ⟨rfl, rfl, (if_pos rfl).mpr ⟨hi'.1, hi'.2.1, hi'.2.2, rfl⟩, .inl ⟨rfl, rfl, .inr (.inr (.inr (.inl rfl)))⟩⟩
  · rw [r4 rfl]
    exact ⟨rfl, rfl, (if_pos rfl).mpr hi', .inl ⟨rfl, rfl, .inr (.inr (.inr (.inr rfl)))⟩⟩
  · rw [r5 rfl]
    -- SETVAL follows iff the mode is CREATE (`sem_created` is false)
    obtain ⟨fc, sc, uk, file, hdl, mode, init⟩ := h
    cases hi'.2.2.1
    cases mode
    · exact ⟨rfl, rfl, rfl, rfl⟩
    · exact ⟨rfl, rfl, (if_pos rfl).mpr ⟨rfl, hi'.2.1, rfl, rfl⟩, .inr ⟨rfl, rfl, rfl, rfl⟩⟩

/-- the SETVAL of a CREATE-mode `p_semaphore_new` whose `sem_hdl` is the live set `id`: the set gets exactly the given value
    (any value up to SEMVMX),
    every SEM_UNDO adjustment is cleared, and the call returns the struct -/
theorem setval_step (p : Pid) (intr : Bool) (nm : Nat) (s : SemSt) (os : OS) (id : SemId)
    (hl : (os.sems id).alive = true) (hpc : s.pc = .cSetval) (ha : s.api = .new) (hh : s.h.hdl = some id) (hv : s.h.init ≤ SEMVMX) :
    ((sysStep p intr s.next os nm).1.sems id).value = s.h.init ∧ ((sysStep p intr s.next os nm).1.sems id).alive = true ∧
    (∀ q, ((sysStep p intr s.next os nm).1.sems id).adj q = 0) ∧
    s.after (sysStep p intr s.next os nm).2 = .done (s.h, .ok ()) := by
  obtain ⟨api, h, pc, built, failing, recreated⟩ := s
  simp only at hpc ha hh hv
  subst hpc ha
  have : ¬ h.init > SEMVMX := by omega
  simp [SemSt.next, hh, sysStep, Sys.interruptible, semctlF, semAlive, hl, semSetvalCmd, SETVAL, this, OS.setSem,
    SemSt.after, SemSt.created]

end PV.SysV
