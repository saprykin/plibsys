import PV.Lemmas.CondVarPC
/-! Reachability, deadlock freedom and the termination measure of the bounded-buffer client (C03). -/
namespace PV.CondVar

/-- admissible thread tables: everybody at `start`; `K` items are to be produced and `K` consumed -/
def InitOK (K : Nat) (thr : List Thr) : Prop :=
  (∀ t, t ∈ thr → t.pc = .start) ∧ sumOver (remOf .producer) thr = K ∧ sumOver (remOf .consumer) thr = K

inductive Reach (cfg : Cfg) (K : Nat) : PCState → Prop where
  | init (thr : List Thr) : InitOK K thr → Reach cfg K (initState thr)
  | step {s s' : PCState} {l : Label} : Reach cfg K s → exec cfg s l = some s' → Reach cfg K s'

theorem inv_init {cfg : Cfg} {K : Nat} {thr : List Thr} (h : InitOK K thr) : Inv cfg K (initState thr) := by
  obtain ⟨hs, hp, hc⟩ := h
  have hget : ∀ {j : Nat} {t : Thr}, thr[j]? = some t → t.pc = .start := fun ht => hs _ (List.mem_of_getElem? ht)
  have hz : ∀ r pc, pc ≠ PC.start → cnt (isAt r pc) thr = 0 := fun r pc hne =>
    cnt_eq_zero fun t ht => by simpa [isAt, hs t ht] using fun _ => Ne.symm hne
  exact
    { owner_cs := fun j => ⟨nofun, fun ⟨t, ht, hcs⟩ => by simp [hget ht, PC.inCS] at hcs⟩
      wait_mem := fun j cv hj => by simp [initState, Mon.init] at hj
      in_wait := fun j t ht hp => by simp [hget ht] at hp
      nodup := fun cv => List.nodup_nil
      cnt_wait := fun r => hz r _ (by simp)
      rem_pos := fun t ht hp => by simp [hs t ht] at hp
      fifo := rfl
      cap := Nat.zero_le _
      acc_p := hp
      acc_c := hc
      tok := fun r hw => by simp [initState, Mon.init] at hw
      bad := rfl }

theorem reach_inv {cfg : Cfg} {K : Nat} {s : PCState} (hrc : cfg.recheck = true) (h : Reach cfg K s) :
    Inv cfg K s := by
  induction h with
  | init thr hi => exact inv_init hi
  | step _ hs ih => exact inv_step ih hrc hs

theorem remOf_pos {r : Role} {t : Thr} (h : 0 < remOf r t) : t.role = r ∧ 0 < t.rem := by
  unfold remOf at h
  split at h
  · next e => exact ⟨e, h⟩
  · omega

/-- with the mutex free an unfinished thread, or a woken one, can move; failing that it is blocked in
    its wait-set with no wake-up pending and nobody in the critical section, so `Inv.tok` makes the
    need of its role zero -/
theorem moves_or_blocked {cfg : Cfg} {K : Nat} {s : PCState} (hrc : cfg.recheck = true) (hI : Inv cfg K s)
    (ho : s.mon.owner = none) {j : Tid} {t : Thr} (ht : s.thr[j]? = some t) (hnf : t.finished = false) :
    (∃ l s', l.isSpurious = false ∧ exec cfg s l = some s') ∨ (0 < t.rem ∧ need cfg t.role s.buf = 0) := by
  have hnocs : ∀ (k : Tid) (u : Thr), s.thr[k]? = some u → u.pc.inCS = false := fun k u hu =>
    Bool.eq_false_iff.mpr fun hcs => by simpa [ho] using (hI.owner_cs k).mpr ⟨u, hu, hcs⟩
  cases hp : t.pc with
  | start =>
    have hrem : 0 < t.rem := by simpa [Thr.finished, hp, Nat.pos_iff_ne_zero] using hnf
    exact .inl ⟨_, _, rfl, (Step.lock ht hp hrem ho).exec⟩
  | check | sig | unl => simpa [hp, PC.inCS] using hnocs j t ht
  | inwait =>
    cases hwk : s.mon.woken t.role.waitCv with
    | cons k rest =>
      have hk : k ∈ s.mon.woken t.role.waitCv := by simp [hwk]
      obtain ⟨tk, htk, hpk, hrk⟩ := hI.wait_mem k _ (.inr hk)
      exact .inl ⟨_, _, rfl, (Step.reacquire htk hpk (hrk ▸ hk) ho hrc).exec⟩
    | nil =>
      refine .inr ⟨hI.rem_pos t (List.mem_of_getElem? ht) (.inr hp), ?_⟩
      have hne : s.mon.wset t.role.waitCv ≠ [] := by
        rcases hI.in_wait j t ht hp with h | h
        · exact List.ne_nil_of_mem h
        · simp [hwk] at h
      have hz : ∀ r pc, pc.inCS = true → cnt (isAt r pc) s.thr = 0 := fun r pc hcs =>
        cnt_eq_zero fun u hu => by
          obtain ⟨k, hk⟩ := List.getElem?_of_mem hu
          have := hnocs k u hk
          simp only [isAt, decide_eq_false_iff_not, not_and]
          rintro - rfl
          simp [hcs] at this
      simpa [hwk, hz _ .check rfl, hz _ .sig rfl] using hI.tok t.role hne

/-- `S r`: the items role `r` still has to exchange; what is produced and not yet consumed is in the
    buffer -/
theorem needs_not_all_zero {cfg : Cfg} {buf : List Item} {S : Role → Nat} {np nc K : Nat} (hcap : 0 < cfg.cap)
    (hp : S .producer + np = K) (hc : S .consumer + nc = K) (hfifo : np = nc + buf.length)
    (hneed : ∀ r, 0 < S r → need cfg r buf = 0) {r : Role} (hr : 0 < S r) : False := by
  -- consumers have at least as much left as producers, so they have something left
  have hc0 : 0 < S .consumer := by cases r <;> omega
  -- hence the buffer is empty and producers have as much left: but they need the whole capacity
  have hlen : buf.length = 0 := hneed .consumer hc0
  have hcap0 : cfg.cap - buf.length = 0 := hneed .producer (by omega)
  omega

/-- **no deadlock**: a state satisfying the invariant that is not final has an enabled step which
    is not a spurious wake-up -/
theorem no_deadlock_of_inv {cfg : Cfg} {K : Nat} {s : PCState} (hcap : 0 < cfg.cap)
    (hrc : cfg.recheck = true) (hI : Inv cfg K s) (hnf : isFinal s = false) :
    ∃ l s', l.isSpurious = false ∧ exec cfg s l = some s' := by
  cases ho : s.mon.owner with
  | some j =>
    obtain ⟨th, hth, hcs⟩ := (hI.owner_cs j).mp ho
    cases hp : th.pc <;> simp [hp, PC.inCS] at hcs
    · cases hb : blocked cfg th.role s.buf
      · exact ⟨_, _, rfl, (Step.act hth hp hb).exec⟩
      · exact ⟨_, _, rfl, (Step.wait hth hp hb ho).exec⟩
    · cases hbc : cfg.bcast
      · cases hw : s.mon.wset th.role.sigCv with
        | nil => exact ⟨_, _, rfl, (Step.signalNone hth hp hbc hw).exec⟩
        | cons x rest => exact ⟨_, _, rfl, (Step.signal (x := x) hth hp hbc (by simp [hw])).exec⟩
      · exact ⟨_, _, rfl, (Step.broadcast hth hp hbc).exec⟩
    · exact ⟨_, _, rfl, (Step.unlock hth hp ho).exec⟩
  | none =>
    apply Classical.byContradiction
    intro hno
    -- nobody can move, so every role that still has items to exchange finds its need at zero
    have hneed : ∀ r, 0 < sumOver (remOf r) s.thr → need cfg r s.buf = 0 := by
      intro r hpos
      obtain ⟨u, hu, hurem⟩ := sumOver_pos hpos
      obtain ⟨hur, hurem⟩ := remOf_pos hurem
      obtain ⟨k, hk⟩ := List.getElem?_of_mem hu
      have hf : u.finished = false := by simp [Thr.finished]; omega
      exact hur ▸ ((moves_or_blocked hrc hI ho hk hf).resolve_left hno).2
    obtain ⟨t, ht, hf⟩ : ∃ t, t ∈ s.thr ∧ t.finished = false := by simpa [isFinal] using hnf
    obtain ⟨j, hj⟩ := List.getElem?_of_mem ht
    have hrem := ((moves_or_blocked hrc hI ho hj hf).resolve_left hno).1
    have hpos : 0 < sumOver (remOf t.role) s.thr :=
      Nat.lt_of_lt_of_le (by simpa [remOf] using hrem) (le_sumOver_of_mem ht)
    exact needs_not_all_zero (S := fun r => sumOver (remOf r) s.thr) hcap hI.acc_p hI.acc_c
      (by simpa using congrArg List.length hI.fifo) hneed hpos

/-- The budget behind `mu`, in which a pending wake-up counts 3.  Into `wait`: `start` 3, `check` 2,
    `inwait` 0.  Out of it: re-acquiring turns a pending wake-up into `check` (3 to 2) and leaves 2 for
    waiting once more.  The put / take pays the `3 n + 4` of one item for `sig`; from `sig` at `5 + 3 n` a
    signal or broadcast goes to `unl` 4 and has `3 n` left for the at most `n` threads it wakes; `unl` 4,
    `start` 3. -/
def phi (n : Nat) : PC → Nat
  | .start => 3
  | .check => 2
  | .inwait => 0
  | .sig => 5 + 3 * n
  | .unl => 4

/-- a thread's share: every remaining item pays for a whole round including the re-checks of
    everybody its signal / broadcast may wake -/
def weight (n : Nat) (t : Thr) : Nat := (3 * n + 4) * t.rem + phi n t.pc

def wokT (m : Mon) : Nat := (m.woken 0).length + (m.woken 1).length

/-- the measure: strictly decreasing on every step that is not a spurious wake-up -/
def mu (s : PCState) : Nat := sumOver (weight s.thr.length) s.thr + 3 * wokT s.mon

theorem cv01_wait (r : Role) : r.waitCv = 0 ∨ r.waitCv = 1 := by cases r <;> simp [Role.waitCv]
theorem cv01_sig (r : Role) : r.sigCv = 0 ∨ r.sigCv = 1 := by cases r <;> simp [Role.sigCv]

theorem wokT_upd {m m' : Mon} {c : CvId} {l : List Tid} (hc : c = 0 ∨ c = 1)
    (h : m'.woken = upd m.woken c l) : wokT m' + (m.woken c).length = wokT m + l.length := by
  rcases hc with rfl | rfl <;> simp [wokT, h, upd] <;> omega

theorem wokT_wake (m : Mon) {c : CvId} (x : Tid) (hc : c = 0 ∨ c = 1) : wokT (m.wake c x) = wokT m + 1 := by
  have := wokT_upd (m' := m.wake c x) hc rfl
  rw [List.length_append, List.length_singleton] at this
  omega

theorem mu_move_lt {s : PCState} {i : Tid} {th : Thr} {pc : PC} {m : Mon} (hth : s.thr[i]? = some th)
    (h : phi s.thr.length pc + 3 * wokT m < phi s.thr.length th.pc + 3 * wokT s.mon) :
    mu (s.move i th pc m) < mu s := by
  have := sumOver_set (f := weight s.thr.length) { th with pc := pc } hth
  simp only [mu, List.length_set, weight] at this ⊢
  omega

/-- the put / take pays one item's worth, which covers the way from `check` to `sig` -/
theorem mu_act {cfg : Cfg} {s : PCState} {i : Tid} {th : Thr} (hth : s.thr[i]? = some th)
    (hpc : th.pc = .check) (hrem : 0 < th.rem) : mu (act cfg s i th) < mu s := by
  have := sumOver_set (f := weight s.thr.length) { th with pc := .sig, rem := th.rem - 1 } hth
  obtain ⟨k, hk⟩ : ∃ k, th.rem = k + 1 := ⟨th.rem - 1, by omega⟩
  simp only [mu, act_thr, act_mon, List.length_set, weight, hk, Nat.add_sub_cancel, Nat.mul_succ, hpc, phi]
    at this ⊢
  omega

theorem mu_step {cfg : Cfg} {K : Nat} {s s' : PCState} {l : Label} (hI : Inv cfg K s)
    (hrc : cfg.recheck = true) (h : exec cfg s l = some s') :
    (l.isSpurious = false → mu s' < mu s) ∧ (l.isSpurious = true → mu s' = mu s + 3) := by
  cases Step.of_exec h with
  | lock hth hpc | wait hth hpc | unlock hth hpc =>
    exact ⟨fun _ => mu_move_lt hth (by simp [hpc, phi, wokT]), nofun⟩
  | act hth hpc _ =>
    exact ⟨fun _ => mu_act hth hpc (hI.rem_pos _ (List.mem_of_getElem? hth) (.inl hpc)), nofun⟩
  | @broadcast i th hth hpc _ =>
    -- at most everybody else is woken, and `phi` at `sig` has room for all of them
    have hlen : (s.mon.wset th.role.sigCv).length ≤ s.thr.length := by
      rw [← other_waitCv]
      have := hI.cnt_wait th.role.other
      have := cnt_le_length (isAt th.role.other .inwait) s.thr
      omega
    have := wokT_upd (m' := s.mon.broadcast th.role.sigCv) (cv01_sig th.role) rfl
    rw [List.length_append] at this
    refine ⟨fun _ => mu_move_lt hth ?_, nofun⟩
    simp only [hpc, phi]
    omega
  | signalNone hth hpc _ _ => exact ⟨fun _ => mu_move_lt hth (by simp only [hpc, phi]; omega), nofun⟩
  | @signal i th x hth hpc _ _ =>
    have hn : 0 < s.thr.length := Nat.zero_lt_of_lt (List.getElem?_eq_some_iff.mp hth).1
    refine ⟨fun _ => mu_move_lt hth ?_, nofun⟩
    simp only [hpc, phi, wokT_wake _ _ (cv01_sig th.role)]
    omega
  | @reacquire i th hth hpc hw _ _ =>
    have := wokT_upd (m' := s.mon.reacquired th.role.waitCv i) (cv01_wait th.role) rfl
    have := length_erase_add_one hw
    refine ⟨fun _ => mu_move_lt hth ?_, nofun⟩
    simp only [hpc, phi]
    omega
  | reacquireAct _ _ _ _ hf => rw [hrc] at hf; cases hf
  | @spurious i th _ _ _ =>
    refine ⟨nofun, fun _ => ?_⟩
    simp only [mu, wokT_wake _ _ (cv01_wait th.role)]
    omega

def nonSpur (ls : List Label) : Nat := (ls.filter (fun l => !l.isSpurious)).length
def spur (ls : List Label) : Nat := (ls.filter Label.isSpurious).length

theorem runLabels_cons {cfg : Cfg} {s s' : PCState} {l : Label} {ls : List Label} :
    runLabels cfg s (l :: ls) = some s' ↔ ∃ s1, exec cfg s l = some s1 ∧ runLabels cfg s1 ls = some s' := by
  simp only [runLabels]
  split <;> simp [*]

theorem run_preserves {cfg : Cfg} {P : PCState → Prop}
    (hstep : ∀ {s s' l}, P s → exec cfg s l = some s' → P s') {ls : List Label} {s s' : PCState}
    (h0 : P s) (h : runLabels cfg s ls = some s') : P s' := by
  induction ls generalizing s with
  | nil => cases h; exact h0
  | cons l ls ih =>
    obtain ⟨s1, hs, h⟩ := runLabels_cons.mp h
    exact ih (hstep h0 hs) h

theorem run_inv {cfg : Cfg} {K : Nat} {ls : List Label} {s s' : PCState} (hrc : cfg.recheck = true)
    (hI : Inv cfg K s) (h : runLabels cfg s ls = some s') : Inv cfg K s' :=
  run_preserves (fun hI hs => inv_step hI hrc hs) hI h

theorem reach_of_run {cfg : Cfg} {K : Nat} {ls : List Label} {s s' : PCState} (hR : Reach cfg K s)
    (h : runLabels cfg s ls = some s') : Reach cfg K s' :=
  run_preserves Reach.step hR h

theorem run_bound {cfg : Cfg} {K : Nat} {ls : List Label} {s s' : PCState} (hrc : cfg.recheck = true)
    (hI : Inv cfg K s) (h : runLabels cfg s ls = some s') :
    nonSpur ls + mu s' ≤ mu s + 3 * spur ls := by
  induction ls generalizing s with
  | nil => cases h; simp [nonSpur, spur]
  | cons l ls ih =>
    obtain ⟨s1, hs, h⟩ := runLabels_cons.mp h
    have hb := ih (inv_step hI hrc hs) h
    obtain ⟨h1, h2⟩ := mu_step hI hrc hs
    cases hl : l.isSpurious
    · have := h1 hl
      simp [nonSpur, spur, hl] at hb ⊢
      omega
    · have := h2 hl
      simp [nonSpur, spur, hl] at hb ⊢
      omega

theorem final_exchanged {cfg : Cfg} {K : Nat} {s : PCState} (hI : Inv cfg K s) (hf : isFinal s = true) :
    s.consumed = s.produced ∧ s.produced.length = K ∧ s.buf = [] := by
  have hz : ∀ r, sumOver (remOf r) s.thr = 0 := fun r => sumOver_eq_zero fun t ht => by
    have := List.all_eq_true.mp hf t ht
    simp [Thr.finished] at this
    simp [remOf, this.2]
  have hp := hI.acc_p
  have hc := hI.acc_c
  have hfifo := congrArg List.length hI.fifo
  rw [hz] at hp hc
  rw [List.length_append] at hfifo
  have hb : s.buf = [] := List.eq_nil_of_length_eq_zero (by omega)
  exact ⟨by simpa [hb] using hI.fifo.symm, by omega, hb⟩

/-- no execution goes on for ever with only finitely many spurious wake-ups -/
theorem no_infinite_run {cfg : Cfg} {K : Nat} (hrc : cfg.recheck = true) (σ : Nat → PCState) (ℓ : Nat → Label)
    (h0 : Inv cfg K (σ 0)) (hstep : ∀ k, exec cfg (σ k) (ℓ k) = some (σ (k + 1)))
    (B : Nat) (hB : ∀ k, B ≤ k → (ℓ k).isSpurious = false) : False := by
  have hinv : ∀ k, Inv cfg K (σ k) := by
    intro k
    induction k with
    | zero => exact h0
    | succ k ih => exact inv_step ih hrc (hstep k)
  have hdec : ∀ j, mu (σ (B + j)) + j ≤ mu (σ B) := by
    intro j
    induction j with
    | zero => exact Nat.le_refl _
    | succ j ih =>
      have := (mu_step (hinv (B + j)) hrc (hstep (B + j))).1 (hB (B + j) (Nat.le_add_right B j))
      show mu (σ (B + j + 1)) + (j + 1) ≤ _
      omega
  have := hdec (mu (σ B) + 1)
  omega

end PV.CondVar
