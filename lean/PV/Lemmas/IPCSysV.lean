import PV.Model.IPCSysV
/-! Helper lemmas for the System V model (`PV.Model.IPCSysV`): steps, logs, EINTR transparency, and what the invariants
of `IPCSysVInv` / `IPCSysVSeg` have in common (`G.All`). -/
namespace PV.SysV
open PV.Generated.IPCSysV

/-- (`split` on a goal with several `if`s is far dearer to check than this) -/
theorem ite_ind {α : Sort _} {P : α → Prop} {c : Prop} [Decidable c] {a b : α} (ha : c → P a) (hb : ¬c → P b) :
    P (if c then a else b) := by
  split
  · exact ha ‹c›
  · exact hb ‹¬c›

theorem ite_prop {c A B : Prop} [Decidable c] (ha : c → A) (hb : ¬c → B) : if c then A else B :=
  ite_ind (P := id) ha hb

theorem ite_both {α : Sort _} {P : α → Prop} {c : Prop} [Decidable c] {a b : α} (ha : P a) (hb : P b) : P (if c then a else b) :=
  ite_ind (fun _ => ha) fun _ => hb

theorem semAlive_some {os : OS} {h : Option SemId} {j : SemId} (ha : semAlive os h = some j) :
    h = some j ∧ (os.sems j).alive = true := by
  cases h with
  | none => cases ha
  | some j' =>
    simp only [semAlive] at ha
    split at ha
    · cases ha; exact ⟨rfl, ‹_›⟩
    · cases ha

theorem segAlive_some {os : OS} {h : Option SegId} {j : SegId} (ha : segAlive os h = some j) :
    h = some j ∧ (os.segs j).alive = true := by
  cases h with
  | none => cases ha
  | some j' =>
    simp only [segAlive] at ha
    split at ha
    · cases ha; exact ⟨rfl, ‹_›⟩
    · cases ha

theorem store_eq {os os' : OS} {p : Pid} {a off : Nat} {b : UInt8} (h : os.store p a off b = some os') :
    ∃ j, os' = os.setSeg j { (os.segs j) with bytes := (os.segs j).bytes.set off b } := by
  simp only [OS.store] at h
  split at h
  · split at h
    · cases h; exact ⟨_, rfl⟩
    · cases h
  · cases h


abbrev CallOut := Out Call (Ret × Option (Hid × Option Handle))

/-- the `semop` of an acquire on a live set: it waits at 0, else takes one unit and records it in the caller's SEM_UNDO adjustment -/
theorem semop_acquire (os : OS) (p : Pid) (i : SemId) (nm : Nat) (hl : (os.sems i).alive = true) :
    sysStep p false (.semop (some i) acquireBuf.1 acquireBuf.2.1 acquireBuf.2.2) os nm =
      if (os.sems i).value = 0 then (os, .block)
      else (os.setSem i { (os.sems i) with value := (os.sems i).value - 1,
                                           adj := fun q => if q = p then (os.sems i).adj p + 1 else (os.sems i).adj q }, .ok 0) := by
  by_cases hv : (os.sems i).value = 0 <;>
    simp [sysStep, Sys.interruptible, semopF, semAlive, hl, hv, acquireBuf, hasFlag, SEM_UNDO]

/-- the `semop` of a release on a live set below SEMVMX: one unit more, taken back from the caller's SEM_UNDO adjustment -/
theorem semop_release (os : OS) (p : Pid) (i : SemId) (nm : Nat) (hl : (os.sems i).alive = true) (hm : (os.sems i).value < SEMVMX) :
    sysStep p false (.semop (some i) releaseBuf.1 releaseBuf.2.1 releaseBuf.2.2) os nm =
      (os.setSem i { (os.sems i) with value := (os.sems i).value + 1,
                                      adj := fun q => if q = p then (os.sems i).adj p - 1 else (os.sems i).adj q }, .ok 0) := by
  have : ¬ ((os.sems i).value + 1 > SEMVMX) := by omega
  simp [sysStep, Sys.interruptible, semopF, semAlive, hl, releaseBuf, hasFlag, SEM_UNDO, this]

theorem kill_hs {g : G} {p q : Pid} {h : Hid} {x : Handle} (hx : (g.kill p).hs h = some (q, x)) :
    g.hs h = some (q, x) ∧ q ≠ p := by
  simp only [G.kill] at hx
  split at hx
  · rename_i q' x' hq
    split at hx <;> cases hx
    exact ⟨hq, ‹_›⟩
  · cases hx

theorem kill_calls {g : G} {p : Pid} {t : Tid} {c : Call} (hc : (g.kill p).calls t = some c) :
    g.calls t = some c ∧ g.pidOf t ≠ p := by
  simp only [G.kill] at hc
  split at hc
  · cases hc
  · exact ⟨hc, ‹_›⟩

theorem startOut_os (g : G) (t : Tid) (o : CallOut) : (startOut g t o).os = g.os := by
  unfold startOut; split
  · rfl
  · split <;> rfl

theorem startOut_log (g : G) (t : Tid) (o : CallOut) : (startOut g t o).log = g.log := by
  unfold startOut; split
  · rfl
  · split <;> rfl

theorem startOut_pidOf (g : G) (t : Tid) (o : CallOut) : (startOut g t o).pidOf = g.pidOf := by
  unfold startOut; split
  · rfl
  · split <;> rfl

theorem startOut_calls {g : G} {t t' : Tid} {o : CallOut} {c : Call} (h : (startOut g t o).calls t' = some c) :
    g.calls t' = some c ∨ (t' = t ∧ o = .cont c) := by
  unfold startOut at h
  split at h
  · simp only [G.setCall] at h
    split at h
    · exact .inr ⟨‹_›, congrArg Out.cont (Option.some.inj h)⟩
    · exact .inl h
  · split at h <;> exact .inl h

theorem startOut_hs_shm {g : G} {t : Tid} {o : CallOut} {h : Hid} {p : Pid} {m : PShm}
    (hm : (startOut g t o).hs h = some (p, .shm m)) :
    g.hs h = some (p, .shm m) ∨ ∃ ret, o = .done (ret, some (h, some (.shm m))) ∧ p = g.pidOf t := by
  unfold startOut at hm
  split at hm
  · exact .inl hm
  · split at hm
    · simp only [G.setHandle, G.setRet] at hm
      split at hm
      · cases hm; exact .inr ⟨_, by rw [‹h = _›], rfl⟩
      · exact .inl hm
    · simp only [G.setHandle, G.setRet] at hm
      split at hm
      · cases hm
      · exact .inl hm
    · exact .inl hm

theorem step_none (g : G) (t : Tid) (i : Bool) (h : g.calls t = none) : g.step t i = g := by
  simp [G.step, h]

theorem step_eq (g : G) (t : Tid) (i : Bool) (c : Call) (h : g.calls t = some c) :
    g.step t i =
      let r := sysStep (g.pidOf t) i c.next g.os c.name
      startOut ({ g with os := r.1, log := ⟨t, g.pidOf t, c.next, r.2, c.file⟩ :: g.log }.setCall t none) t (c.after r.2) := by
  simp only [G.step, h]
  cases c.after (sysStep (g.pidOf t) i c.next g.os c.name).2 with
  | cont c' =>
    simp only [startOut, G.setCall]
    congr 1
    funext t'
    split <;> rfl
  | done x => rfl

theorem step_log (g : G) (t : Tid) (i : Bool) (c : Call) (h : g.calls t = some c) :
    (g.step t i).log = ⟨t, g.pidOf t, c.next, (sysStep (g.pidOf t) i c.next g.os c.name).2, c.file⟩ :: g.log := by
  rw [step_eq g t i c h, startOut_log]; rfl

theorem step_os (g : G) (t : Tid) (i : Bool) (c : Call) (h : g.calls t = some c) :
    (g.step t i).os = (sysStep (g.pidOf t) i c.next g.os c.name).1 := by
  rw [step_eq g t i c h, startOut_os]; rfl


/-- equal up to the ghost log -/
def G.Same (g g' : G) : Prop :=
  g.os = g'.os ∧ g.pidOf = g'.pidOf ∧ g.hs = g'.hs ∧ g.calls = g'.calls ∧ g.ret = g'.ret

theorem G.Same.refl (g : G) : g.Same g := ⟨rfl, rfl, rfl, rfl, rfl⟩

theorem G.Same.trans {a b c : G} (h1 : a.Same b) (h2 : b.Same c) : a.Same c :=
  ⟨h1.1.trans h2.1, h1.2.1.trans h2.2.1, h1.2.2.1.trans h2.2.2.1, h1.2.2.2.1.trans h2.2.2.2.1, h1.2.2.2.2.trans h2.2.2.2.2⟩

/-- the only interruptible call site is the `semop` loop, and an EINTR there re-issues the call -/
theorem sem_after_eintr (s : SemSt) (h : s.next.interruptible = true) : s.after (.err .EINTR) = .cont s := by
  obtain ⟨api, hd, pc, built, failing, recreated⟩ := s
  cases pc <;> simp [SemSt.next, Sys.interruptible] at h
  cases api <;> simp [SemSt.after, Errno.num, acquireRetryErrno, releaseRetryErrno, PV.Generated.IPCSysV.EINTR]

theorem shm_after_eintr (s : ShmSt) (h : s.next.interruptible = true) : s.after (.err .EINTR) = .cont s := by
  obtain ⟨isNew, hd, req, pc, built, isExists, failing⟩ := s
  cases pc with
  | cSem st =>
    have := sem_after_eintr st (by simpa [ShmSt.next] using h)
    simp [ShmSt.after, this]
  | kSem st =>
    have := sem_after_eintr st (by simpa [ShmSt.next] using h)
    simp [ShmSt.after, this]
  | _ => simp [ShmSt.next, Sys.interruptible] at h

theorem after_eintr (c : Call) (h : c.next.interruptible = true) : c.after (.err .EINTR) = .cont c := by
  cases c <;> simp only [Call.after, Call.next] at h ⊢ <;> first | rw [sem_after_eintr _ h] | rw [shm_after_eintr _ h]

theorem step_intr_same (g : G) (t : Tid) (c : Call) (hc : g.calls t = some c) (hi : c.next.interruptible = true) :
    (g.step t true).Same g := by
  have hs : sysStep (g.pidOf t) true c.next g.os c.name = (g.os, .err .EINTR) := by simp [sysStep, hi]
  simp only [G.step, hc, hs, after_eintr c hi, G.setCall]
  refine ⟨rfl, rfl, rfl, ?_, rfl⟩
  funext t'
  by_cases e : t' = t
  · subst e; simp [hc]
  · simp [e]

theorem intr_steps_same (n : Nat) : ∀ (g : G) (t : Tid) (c : Call), g.calls t = some c → c.next.interruptible = true →
    ((List.replicate n (Action.step t true)).foldl exec g).Same g := by
  induction n with
  | zero => intro g t c _ _; exact G.Same.refl g
  | succ n ih =>
    intro g t c hc hi
    simp only [List.replicate_succ, List.foldl_cons, exec]
    have h1 := step_intr_same g t c hc hi
    have hc' : (g.step t true).calls t = some c := by rw [h1.2.2.2.1]; exact hc
    exact (ih (g.step t true) t c hc' hi).trans h1

theorem startOut_same {g g' : G} (t : Tid) (o : CallOut) (h : g.Same g') : (startOut g t o).Same (startOut g' t o) := by
  obtain ⟨h1, h2, h3, h4, h5⟩ := h
  unfold startOut
  split
  · exact ⟨h1, h2, h3, by simp only [G.setCall, h4], h5⟩
  · split <;> simp only [G.Same, G.setRet, G.setHandle, h1, h2, h3, h4, h5, and_self]

/-- `step` does not look at the log -/
theorem step_same (g g' : G) (t : Tid) (i : Bool) (h : g.Same g') :
    (g.step t i).Same (g'.step t i) ∧ ((g.step t i).log.head?.map (·.res) = (g'.step t i).log.head?.map (·.res) ∨ g.calls t = none) := by
  cases hc : g.calls t with
  | none =>
    rw [step_none g t i hc, step_none g' t i (h.2.2.2.1 ▸ hc)]
    exact ⟨h, .inr rfl⟩
  | some c =>
    have hc' : g'.calls t = some c := h.2.2.2.1 ▸ hc
    obtain ⟨h1, h2, h3, h4, h5⟩ := h
    refine ⟨?_, .inl ?_⟩
    · rw [step_eq g t i c hc, step_eq g' t i c hc', h1, h2]
      exact startOut_same t _ ⟨rfl, rfl, h3, by simp only [G.setCall, h4], h5⟩
    · rw [step_log g t i c hc, step_log g' t i c hc', h1, h2]; rfl

theorem runCall_same (fuel : Nat) : ∀ (g g' : G) (t : Tid) (sc : List Nat), g.Same g' →
    (runCall g t sc fuel).Same (runCall g' t [] fuel) := by
  induction fuel with
  | zero => intro g g' t sc h; exact h
  | succ f ih =>
    intro g g' t sc h
    cases hc : g.calls t with
    | none =>
      have hc' : g'.calls t = none := by rw [← h.2.2.2.1]; exact hc
      simp only [runCall, hc, hc']; exact h
    | some c =>
      have hc' : g'.calls t = some c := by rw [← h.2.2.2.1]; exact hc
      simp only [runCall, hc, hc', List.headD_nil, ite_self, List.replicate_zero, List.foldl_nil, List.tail_nil]
      generalize hn : (if c.next.interruptible = true then sc.headD 0 else 0) = n
      have h1 : ((List.replicate n (Action.step t true)).foldl exec g).Same g := by
        by_cases hi : c.next.interruptible = true
        · exact intr_steps_same n g t c hc hi
        · have : n = 0 := by simp [hi] at hn; exact hn.symm
          subst this; exact G.Same.refl g
      have h2 := step_same _ g' t false (h1.trans h)
      have hcc : ((List.replicate n (Action.step t true)).foldl exec g).calls t = some c := by
        rw [h1.2.2.2.1]; exact hc
      have hlog := h2.2.resolve_right (by rw [hcc]; simp)
      rw [step_log _ t false c hcc, step_log g' t false c hc'] at hlog
      rw [step_log _ t false c hcc, step_log g' t false c hc']
      simp only [List.head?_cons, Option.map_some, Option.some.injEq] at hlog
      rw [hlog]
      generalize (sysStep (g'.pidOf t) false c.next g'.os c.name).2 = R
      cases R with
      | block => exact h2.1
      | ok v => exact ih _ _ t sc.tail h2.1
      | stat a b => exact ih _ _ t sc.tail h2.1
      | err e => exact ih _ _ t sc.tail h2.1

theorem eintr_transparent (g : G) (t : Tid) (op : Op) (script : List Nat) :
    (g.call t op script).Same (g.call t op []) :=
  runCall_same seqFuel _ _ t script (G.Same.refl _)

/-! ## invariants that speak of the OS, of every struct at rest and of every call in flight

`Inv` (one set per name) and `SegInv` (one segment per name) have this shape; what `G.step`, `G.start` and `G.kill` do to the
handle table and to the calls in flight is dealt with once, here. -/

/-- what a transition hands on: the next state of the call, or the struct it stores -/
def CallOut.All (H : Handle → Prop) (C : Call → Prop) : CallOut → Prop
  | .cont c' => C c'
  | .done (_, some (_, some x)) => H x
  | .done _ => True

structure G.All (B : OS → Prop) (H : Handle → Prop) (C : Call → Prop) (g : G) : Prop where
  os : B g.os
  hs : ∀ h p x, g.hs h = some (p, x) → H x
  calls : ∀ t c, g.calls t = some c → C c

theorem handleOf_hs (g : G) (t : Tid) (h : Hid) (x : Handle) (hx : g.handleOf t h = some x) : g.hs h = some (g.pidOf t, x) := by
  simp only [G.handleOf] at hx
  split at hx
  · rename_i p y hy
    split at hx
    · rename_i hp
      rw [hy, hp, Option.some.inj hx]
    · cases hx
  · cases hx

/-- what `G.start` needs: the first state of every call satisfies `C` (given `H` of the struct it is started on),
    `take_ownership` keeps `H`, a store keeps `B` -/
structure StartOK (B : OS → Prop) (H : Handle → Prop) (C : Call → Prop) : Prop where
  newSem : ∀ hid n init m,
    C (.semNew hid { api := .new, h := { file := .sem n, hdl := some 0, mode := m, init := init }, pc := .cOpen })
  newShm : ∀ hid n size ro, C (.shmNew hid { isNew := true, h := { name := n, size := size, ro := ro }, req := size, pc := .cOpen })
  semOp : ∀ hid s api, api ≠ .new → H (.sem s) → C (.semOp hid { api := api, h := s, pc := .op })
  lockOp : ∀ hid m s api, api ≠ .new → H (.shm m) → m.sem = some s → C (.lockOp hid m { api := api, h := s, pc := .op })
  ownSem : ∀ s, H (.sem s) → H (.sem { s with semCreated := true })
  ownShm : ∀ m, H (.shm m) →
    H (.shm { m with fileCreated := true, sem := m.sem.map fun s => { s with semCreated := true } })
  freeSem : ∀ s, H (.sem s) → CallOut.All H C (semFreeStart s)
  freeShm : ∀ m, H (.shm m) → CallOut.All H C (shmFreeStart m)
  store : ∀ os p a off b os', B os → os.store p a off b = some os' → B os'

namespace G.All
variable {B : OS → Prop} {H : Handle → Prop} {C : Call → Prop} {g : G}

theorem setRet (hi : g.All B H C) (t : Tid) (r : Ret) : (g.setRet t r).All B H C := ⟨hi.os, hi.hs, hi.calls⟩

theorem setCall (hi : g.All B H C) (t : Tid) (c : Call) (hc : C c) : (g.setCall t (some c)).All B H C := by
  refine ⟨hi.os, hi.hs, fun t' c' h' => ?_⟩
  simp only [G.setCall] at h'
  split at h'
  · cases h'; exact hc
  · exact hi.calls t' c' h'

theorem clearCall (hi : g.All B H C) (t : Tid) : (g.setCall t none).All B H C := by
  refine ⟨hi.os, hi.hs, fun t' c' h' => ?_⟩
  simp only [G.setCall] at h'
  split at h'
  · cases h'
  · exact hi.calls t' c' h'

theorem setHandle (hi : g.All B H C) (h : Hid) (p : Pid) (x : Handle) (hx : H x) : (g.setHandle h (some (p, x))).All B H C := by
  refine ⟨hi.os, fun h' p' x' hx' => ?_, hi.calls⟩
  simp only [G.setHandle] at hx'
  split at hx'
  · cases hx'; exact hx
  · exact hi.hs h' p' x' hx'

theorem dropHandle (hi : g.All B H C) (h : Hid) : (g.setHandle h none).All B H C := by
  refine ⟨hi.os, fun h' p' x' hx' => ?_, hi.calls⟩
  simp only [G.setHandle] at hx'
  split at hx'
  · cases hx'
  · exact hi.hs h' p' x' hx'

theorem startOut (hi : g.All B H C) (t : Tid) (o : CallOut) (ho : CallOut.All H C o) : (startOut g t o).All B H C := by
  unfold PV.SysV.startOut
  split
  · exact hi.setCall t _ ho
  · split
    · exact (hi.setRet t _).setHandle _ _ _ ho
    · exact (hi.setRet t _).dropHandle _
    · exact hi.setRet t _

theorem step (hi : g.All B H C) (t : Tid) (intr : Bool)
    (hstep : ∀ c, g.calls t = some c →
      B (sysStep (g.pidOf t) intr c.next g.os c.name).1 ∧ CallOut.All H C (c.after (sysStep (g.pidOf t) intr c.next g.os c.name).2)) :
    (g.step t intr).All B H C := by
  cases hc : g.calls t with
  | none => rw [step_none g t intr hc]; exact hi
  | some c =>
    rw [step_eq g t intr c hc]
    exact (All.clearCall (g := { g with os := _, log := _ }) ⟨(hstep c hc).1, hi.hs, hi.calls⟩ t).startOut t _ (hstep c hc).2

theorem kill (hi : g.All B H C) (p : Pid) (hB : B (g.os.kill p)) : (g.kill p).All B H C :=
  ⟨hB, fun h q x hx => hi.hs h q x (kill_hs hx).1, fun t c hc => hi.calls t c (kill_calls hc).1⟩

theorem start (hi : g.All B H C) (ok : StartOK B H C) (t : Tid) (op : Op) : (g.start t op).All B H C := by
  have at_rest : ∀ {h x}, g.handleOf t h = some x → H x := fun hx => hi.hs _ _ _ (handleOf_hs g t _ _ hx)
  unfold G.start
  split
  · exact hi.setRet t _
  · cases op with
    | newSem h n init m => exact ite_both (hi.setRet t _) (hi.setCall t _ (ok.newSem ..))
    | newShm h n size ro => exact ite_both (hi.setRet t _) (hi.setCall t _ (ok.newShm ..))
    | acq h | rel h =>
      simp only; split
      · exact hi.setCall t _ (ok.semOp _ _ _ nofun (at_rest ‹_›))
      · exact hi.setRet t _
    | lock h | unlock h =>
      simp only; split
      · split
        · exact hi.setCall t _ (ok.lockOp _ _ _ _ nofun (at_rest ‹_›) ‹_›)
        · exact hi.setRet t _
      · exact hi.setRet t _
    | own h =>
      simp only; split
      · exact (hi.setHandle h _ _ (ok.ownSem _ (at_rest ‹_›))).setRet t _
      · exact (hi.setHandle h _ _ (ok.ownShm _ (at_rest ‹_›))).setRet t _
      · exact hi.setRet t _
    | free h =>
      simp only; split
      · exact (hi.dropHandle h).startOut t _ (ok.freeSem _ (at_rest ‹_›))
      · exact (hi.dropHandle h).startOut t _ (ok.freeShm _ (at_rest ‹_›))
      · exact hi.setRet t _
    | size h => simp only; split <;> exact hi.setRet t _
    | rd h off => simp only; (repeat' split) <;> exact hi.setRet t _
    | wr h off b =>
      simp only; split
      · split
        · rename_i m _ _ os' hos
          refine All.setRet (g := { g with os := os' }) ⟨?_, hi.hs, hi.calls⟩ t _
          cases ha : addrOpt m.addr with
          | none => rw [ha] at hos; cases hos
          | some a => rw [ha] at hos; exact ok.store _ _ _ _ _ _ hi.os hos
        · exact hi.setRet t _
      · exact hi.setRet t _

end G.All

/-- induction along an action list for an invariant `P` kept by every action under a side condition `Q` that holds
    all along the run (`R`) -/
theorem execAll_ind {P Q : G → Prop} {R : G → List Action → Prop} (hR : ∀ g a as, R g (a :: as) → Q g ∧ R (exec g a) as)
    (hstep : ∀ g a, P g → Q g → P (exec g a)) : ∀ as g, P g → R g as → P (execAll g as) := by
  intro as
  induction as with
  | nil => exact fun g h _ => h
  | cons a as ih => exact fun g h hr => ih (exec g a) (hstep g a h (hR g a as hr).1) (hR g a as hr).2

end PV.SysV
