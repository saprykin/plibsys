import PV.Model.UThreadOwners
import PV.Lemmas.UThread
/-! Invariants of the per-thread ownership layer: the pooled ghost counter `userRefs h` is the sum of
what the individual threads hold, so the per-thread discipline implies the pooled one. -/
namespace PV.UThread
open PV.Generated.UThread

theorem gstep_ok {g g' : GState} {e : Ev} (h : gstep g e = .ok g') : step g.s e = .ok g'.s ∧ g'.owns = ownsAfter g e := by
  unfold gstep at h
  split at h
  · rename_i s' hs; injection h with h; subst h; exact ⟨hs, rfl⟩
  · cases h

theorem sumTo_congr {f f' : Nat → Nat} : ∀ {n : Nat}, (∀ t, t < n → f t = f' t) → sumTo f n = sumTo f' n
  | 0, _ => rfl
  | n + 1, h => by
    unfold sumTo
    rw [sumTo_congr (fun t ht => h t (by omega)), h n (by omega)]

theorem sumTo_zero {f : Nat → Nat} : ∀ {n : Nat}, (∀ t, t < n → f t = 0) → sumTo f n = 0
  | 0, _ => rfl
  | n + 1, h => by unfold sumTo; rw [sumTo_zero (fun t ht => h t (by omega)), h n (by omega)]

theorem le_sumTo {f : Nat → Nat} : ∀ {n t : Nat}, t < n → f t ≤ sumTo f n
  | n + 1, t, h => by
    unfold sumTo
    by_cases e : t = n
    · subst e; omega
    · have := le_sumTo (f := f) (n := n) (t := t) (by omega); omega

/-- changing the summand at one index below the bound -/
theorem sumTo_update {f f' : Nat → Nat} : ∀ {n t : Nat}, t < n → (∀ t', t' ≠ t → f' t' = f t') →
    sumTo f' n + f t = sumTo f n + f' t
  | n + 1, t, h, hne => by
    unfold sumTo
    by_cases e : t = n
    · subst e
      rw [sumTo_congr (f := f') (f' := f) (fun t' ht' => hne t' (by omega))]; omega
    · have := sumTo_update (f := f) (f' := f') (n := n) (t := t) (by omega) hne
      rw [hne n (Ne.symm e)]; omega

structure OInv (g : GState) : Prop where
  oT : ∀ t h, g.s.nT ≤ t → g.owns t h = 0
  oH : ∀ t h, g.s.nH ≤ h → g.owns t h = 0
  oS : ∀ c, g.s.spin = some c → c.by_ < g.s.nT
  /-- the pooled counter is what the threads hold together -/
  oU : ∀ h, (g.s.hdl h).userRefs = heldBy g h

theorem OInv.init : OInv ginit := by
  refine ⟨fun _ _ _ => rfl, fun _ _ _ => rfl, ?_, ?_⟩
  · intro c hc; simp [ginit, PV.UThread.init] at hc
  · intro h; simp [ginit, PV.UThread.init, heldBy, sumTo]

theorem currentCore_userRefs (s : State) (t n : Nat) (hB : ∀ h, s.nH ≤ h → s.hdl h = {}) :
    (∀ h', ((currentCore s t n).1.hdl h').userRefs = (s.hdl h').userRefs) ∧ s.nH ≤ (currentCore s t n).1.nH := by
  unfold currentCore; split
  · exact ⟨fun _ => rfl, Nat.le_refl _⟩
  · refine ⟨fun h' => ?_, by simp⟩
    by_cases e : h' = s.nH
    · subst e; simp [hB _ (Nat.le_refl _)]
    · simp only; rw [upd_ne _ _ e]

/-- events that touch neither the counters nor the thread / handle bounds downwards -/
theorem OInv.frame {g : GState} {s' : State} (ho : OInv g) (e1 : ∀ h, (s'.hdl h).userRefs = (g.s.hdl h).userRefs)
    (e2 : s'.nT = g.s.nT) (e3 : g.s.nH ≤ s'.nH) (e4 : s'.spin = g.s.spin) : OInv { s := s', owns := g.owns } := by
  refine ⟨fun t h ht => ho.oT t h (e2 ▸ ht), fun t h hh => ho.oH t h (by simp only at hh; omega), ?_, ?_⟩
  · intro c hc; simp only at hc ⊢; rw [e4] at hc; rw [e2]; exact ho.oS c hc
  · intro h; simp only [heldBy]; rw [e1, e2]; exact ho.oU h

theorem OInv.step {g g' : GState} {e : Ev} (ho : OInv g) (hk : KInv g.s) (hi : HInv g.s) (hp : PermittedT g e)
    (hs : gstep g e = .ok g') : OInv g' := by
  obtain ⟨hst, hown⟩ := gstep_ok hs
  obtain ⟨s', owns'⟩ := g'
  simp only at hst hown
  subst hown
  clear hs
  -- the map after `a` took or gave one reference to `h`, against a counter that moved by the same amount
  have moved : ∀ {a h : Nat} (f : Nat → Nat) (x' : Handle) (s1 : State), a < g.s.nT → h < g.s.nH →
      s1.nT = g.s.nT → s1.nH = g.s.nH → s1.hdl = upd g.s.hdl h x' → x'.userRefs + g.owns a h = (g.s.hdl h).userRefs + f (g.owns a h) →
      (∀ c, s1.spin = some c → c.by_ < g.s.nT) → OInv { s := s1, owns := bump g.owns a h f } := by
    intro a h f x' s1 ha hf0 e1 e2 e3 hx hsp
    refine ⟨?_, ?_, fun c hc => e1 ▸ hsp c hc, ?_⟩
    · intro t h' ht; simp only at ht; simp only [bump]
      rw [if_neg (by intro x; omega)]; exact ho.oT t h' (e1 ▸ ht)
    · intro t h' hh; simp only at hh; simp only [bump]
      by_cases c : t = a ∧ h' = h
      · obtain ⟨rfl, rfl⟩ := c; omega
      · rw [if_neg c]; exact ho.oH t h' (e2 ▸ hh)
    · intro h'; simp only [heldBy]; rw [e3, e1]
      by_cases e : h' = h
      · subst e
        have := sumTo_update (f := fun t => g.owns t h') (f' := fun t => bump g.owns a h' f t h') (n := g.s.nT) (t := a) ha
          (by intro t' ht'; simp [bump, ht'])
        have h0 := ho.oU h'; simp only [heldBy] at h0
        simp [bump] at this ⊢; omega
      · rw [upd_ne _ _ e, ho.oU h']; simp only [heldBy]
        exact sumTo_congr (fun t _ => by simp [bump, e])
  cases step_ok hst with
  | spawn =>
    refine ⟨fun t h ht => ho.oT t h (by simp only at ht; omega), ho.oH, fun c hc => by have := ho.oS c hc; simp only; omega, ?_⟩
    intro h; simp only [heldBy, sumTo, ownsAfter]; rw [ho.oT _ h (Nat.le_refl _)]; exact ho.oU h
  | createBegin a j n hc =>
    have ha := hk.thr_lt (t := a) (phase_ne_absent hc)
    refine ⟨fun t h ht => ho.oT t h (by simp only at ht; omega), fun t h hh => ho.oH t h (by simp only at hh; omega), ?_, ?_⟩
    · intro c hc'; cases hc'; simp only; omega
    · intro h; simp only [heldBy, sumTo, ownsAfter]; rw [ho.oT _ h (Nat.le_refl _)]
      by_cases e : h = g.s.nH
      · subst e; simp
        have := ho.oU g.s.nH; rw [hi.hB _ (Nat.le_refl _)] at this; simpa [heldBy] using this
      · rw [upd_ne _ _ e]; exact ho.oU h
  | createEnd a c hspin hby =>
    have hu := hi.hU c.h (hi.sC c hspin).2.1
    simp only [ownsAfter, hspin]
    refine moved (· + 1) _ _ (hby ▸ ho.oS c hspin) (hi.sC c hspin).1 rfl rfl rfl ?_ (fun _ h => by cases h)
    simp [hu.2.1]; omega
  | ref a h hc hlt =>
    exact moved (· + 1) _ _ (hk.thr_lt (phase_ne_absent hc)) hlt rfl rfl rfl (by simp; omega) ho.oS
  | unref a h hc hlt =>
    have hp' : 0 < g.owns a h := hp
    have ha := hk.thr_lt (phase_ne_absent hc)
    have hu : g.owns a h ≤ (g.s.hdl h).userRefs := by rw [ho.oU h]; exact le_sumTo (f := fun t => g.owns t h) ha
    exact moved (· - 1) _ _ ha hlt rfl rfl rfl (by simp only [unrefd, Bool.false_eq_true, if_false]; omega) ho.oS
  | current t n | exitForeign t n =>
    exact ho.frame (currentCore_userRefs g.s t n hi.hB).1 rfl (currentCore_userRefs g.s t n hi.hB).2 rfl
  | exitOurs t n =>
    refine ho.frame (fun h => ?_) rfl (currentCore_userRefs g.s t n hi.hB).2 rfl
    refine Eq.trans ?_ ((currentCore_userRefs g.s t n hi.hB).1 h); apply upd_proj Handle.userRefs; rfl
  | threadEnd s1 _ _ hr => exact ho.frame (fun h => (runDtors_proj (·.userRefs) (fun _ => rfl) hr h : (s1.hdl h).userRefs = _)) rfl (Nat.le_refl _) rfl
  | joinEnded | startUnstored | retUnstored =>
    exact ho.frame (fun h => by apply upd_proj Handle.userRefs; rfl) rfl (Nat.le_refl _) rfl
  | createFail | currentFail =>
    refine ho.frame ?_ rfl (Nat.le_succ _) rfl
    intro h; simp only
    by_cases e : h = g.s.nH
    · subst e; simp [hi.hB _ (Nat.le_refl _)]
    · rw [upd_ne _ _ e]
  | _ => exact ho.frame (fun _ => rfl) rfl (Nat.le_refl _) rfl

/-- a thread that holds a reference of its own is among the pooled holders -/
theorem OInv.pooled {g : GState} (ho : OInv g) {a h : Nat} (hp : 0 < g.owns a h) : 0 < (g.s.hdl h).userRefs := by
  have ha : a < g.s.nT := by
    apply Classical.byContradiction; intro hn
    have := ho.oT a h (by omega); omega
  have := le_sumTo (f := fun t => g.owns t h) ha
  rw [ho.oU h]; simp only [heldBy]; omega

/-- the per-thread discipline implies the pooled one -/
theorem PermittedT.permitted {g : GState} {e : Ev} (ho : OInv g) (hp : PermittedT g e) : Permitted g.s e := by
  cases e with
  | ref a h => exact hp.imp ho.pooled id
  | join a h => exact ⟨hp.1.imp ho.pooled id, hp.2⟩
  | unref a h => exact ho.pooled hp
  | joinFail a h => exact ⟨hp.1.imp ho.pooled id, hp.2⟩
  | _ => trivial

theorem TReach.inv {g : GState} (h : TReach g) : DReach g.s ∧ OInv g := by
  induction h with
  | init => exact ⟨.init, OInv.init⟩
  | step e _ hp hs ih =>
    obtain ⟨hk, hi, _⟩ := ih.1.inv
    exact ⟨.step e ih.1 (hp.permitted ih.2) (gstep_ok hs).1, ih.2.step hk hi hp hs⟩

/-! executable run / discipline check of the ghost layer (for the non-vacuity examples) -/

def grun : GState → List Ev → Except Err GState
  | g, [] => .ok g
  | g, e :: r => match gstep g e with | .error x => .error x | .ok g' => grun g' r

def checkDiscT : GState → List Ev → Bool
  | _, [] => true
  | g, e :: r => decide (PermittedT g e) && (match gstep g e with | .ok g' => checkDiscT g' r | .error _ => true)

theorem TReach.grun : ∀ {es : List Ev} {g g' : GState}, TReach g → checkDiscT g es = true → grun g es = .ok g' → TReach g'
  | [], g, g', hr, _, hs => by unfold PV.UThread.grun at hs; injection hs with hs; exact hs ▸ hr
  | e :: r, g, g', hr, hc, hs => by
    unfold PV.UThread.grun at hs
    unfold checkDiscT at hc
    simp only [Bool.and_eq_true, decide_eq_true_eq] at hc
    split at hs
    · cases hs
    · rename_i g1 h1
      have h2 := hc.2; rw [h1] at h2
      exact TReach.grun (.step e hr hc.1 h1) h2 hs

end PV.UThread
