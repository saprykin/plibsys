import PV.Model.IPC
/-!
What one system call does to the OS of the IPC model.  `SysEffect` lists the outcomes of `sysStep`
(a call that fails or blocks changes nothing; each successful call makes one named update); which
names, objects, descriptors and mappings a call can touch is read off that list.
-/
namespace PV.IPC
open PV.Generated.IPC

/-! ## flags of the call sites (extracted facts, evaluated)

Suffix = call site: `1` the first `sem_open` / `shm_open`, `C` the `sem_open` again on the CREATE path, `O` the
`sem_open` again on the OPEN path, `2` the second `shm_open`. -/

theorem excl1 : (hasFlag semOpen1Flags O_CREAT && hasFlag semOpen1Flags O_EXCL) = true := by decide
theorem creat1 : hasFlag semOpen1Flags O_CREAT = true := by decide
theorem exclC : (hasFlag semCreateReopenFlags O_CREAT && hasFlag semCreateReopenFlags O_EXCL) = true := by decide
theorem creatC : hasFlag semCreateReopenFlags O_CREAT = true := by decide
theorem plainO : hasFlag semOpenReopenFlags O_CREAT = false := by decide
theorem shmExcl1 : (hasFlag shmOpen1Flags O_CREAT && hasFlag shmOpen1Flags O_EXCL) = true := by decide
theorem shmCreat1 : hasFlag shmOpen1Flags O_CREAT = true := by decide
theorem shmPlain2 : hasFlag shmOpen2Flags O_CREAT = false := by decide
theorem rwWritable : hasFlag shmMmapProtRW PROT_WRITE = true := by decide
theorem mapShared : hasFlag shmMmapFlags MAP_SHARED = true := by decide

/-- `sem_open (k, O_CREAT, v)` on an unbound name: a fresh object with value `v` -/
def OS.semCreate (os : OS) (k : SemKey) (v : Nat) : OS :=
  { os with semNames := fun k' => if k' = k then some os.nextObj else os.semNames k',
            sems := fun o' => if o' = os.nextObj then ⟨v⟩ else os.sems o',
            nextObj := os.nextObj + 1 }

def OS.semRemove (os : OS) (k : SemKey) : OS :=
  { os with semNames := fun k' => if k' = k then none else os.semNames k' }

def OS.semAdd (os : OS) (o : ObjId) (d : Nat) : OS :=
  { os with sems := fun o' => if o' = o then ⟨(os.sems o).value + d⟩ else os.sems o' }

def OS.semSub (os : OS) (o : ObjId) : OS :=
  { os with sems := fun o' => if o' = o then ⟨(os.sems o).value - 1⟩ else os.sems o' }

/-- name `k` bound to a fresh zero-filled object of `size` bytes (`shm_open (k, O_CREAT)` on an unbound
    name makes one of size 0) -/
def OS.shmCreate (os : OS) (k : ShmKey) (size : Nat) : OS :=
  { os with shmNames := fun k' => if k' = k then some os.nextSeg else os.shmNames k',
            segs := fun s' => if s' = os.nextSeg then ⟨List.replicate size 0, k⟩ else os.segs s',
            nextSeg := os.nextSeg + 1 }

def OS.shmRemove (os : OS) (k : ShmKey) : OS :=
  { os with shmNames := fun k' => if k' = k then none else os.shmNames k' }

/-- process `p` gets its next descriptor number, open on object `s` -/
def OS.openFd (os : OS) (p : Pid) (s : SegId) : OS :=
  os.setProc p { os.procs p with fds := ((os.procs p).nextFd, s) :: (os.procs p).fds, nextFd := (os.procs p).nextFd + 1 }

def OS.truncate (os : OS) (s : SegId) (len : Nat) : OS :=
  { os with segs := fun s' => if s' = s then { os.segs s with bytes := resize (os.segs s).bytes len } else os.segs s' }

/-- process `p` gets the mapping `m` at its next address -/
def OS.addMap (os : OS) (p : Pid) (m : Mapping) : OS :=
  os.setProc p { os.procs p with maps := m :: (os.procs p).maps, nextAddr := (os.procs p).nextAddr + pages m.len + 1 }

theorem semOpenF_creat_absent (os : OS) (k : SemKey) (fl v : Nat) (hc : hasFlag fl O_CREAT = true)
    (h : os.semNames k = none) :
    semOpenF os k fl v = (os.semCreate k v, .ok os.nextObj) := by
  simp [semOpenF, h, hc, OS.semCreate]

theorem semOpenF_excl_present (os : OS) (k : SemKey) (fl v : Nat) (o : ObjId)
    (hx : (hasFlag fl O_CREAT && hasFlag fl O_EXCL) = true) (h : os.semNames k = some o) :
    semOpenF os k fl v = (os, .err .EEXIST) := by
  simp [semOpenF, h, hx]

theorem semOpenF_plain_present (os : OS) (k : SemKey) (fl v : Nat) (o : ObjId)
    (hx : hasFlag fl O_CREAT = false) (h : os.semNames k = some o) :
    semOpenF os k fl v = (os, .ok o) := by
  simp [semOpenF, h, hx]

theorem semOpenF_plain_absent (os : OS) (k : SemKey) (fl v : Nat)
    (hx : hasFlag fl O_CREAT = false) (h : os.semNames k = none) :
    semOpenF os k fl v = (os, .err .ENOENT) := by
  simp [semOpenF, h, hx]

/-- `SysEffect p os c os' r`: system call `c` of process `p` may leave the OS as `os'` and return `r`.
    Every error (an `EINTR`, an errno of the name space, a scripted failure) is the one case `fails`. -/
inductive SysEffect (p : Pid) (os : OS) : Sys → OS → Res → Prop
  | fails (c : Sys) (e : Errno) : SysEffect p os c os (.err e)
  | blocks (o : ObjId) : (os.sems o).value = 0 → SysEffect p os (.semWait o) os .block
  | semOpened (k : SemKey) (fl m v : Nat) (o : ObjId) : os.semNames k = some o →
      (hasFlag fl O_CREAT && hasFlag fl O_EXCL) = false → SysEffect p os (.semOpen k fl m v) os (.ok o)
  | semCreated (k : SemKey) (fl m v : Nat) : os.semNames k = none →
      SysEffect p os (.semOpen k fl m v) (os.semCreate k v) (.ok os.nextObj)
  | semUnlinked (k : SemKey) : SysEffect p os (.semUnlink k) (os.semRemove k) (.ok 0)
  | semClosed (o : ObjId) : SysEffect p os (.semClose o) os (.ok 0)
  | semWaited (o : ObjId) : (os.sems o).value ≠ 0 → SysEffect p os (.semWait o) (os.semSub o) (.ok 0)
  | semPosted (o : ObjId) : SysEffect p os (.semPost o) (os.semAdd o 1) (.ok 0)
  | shmOpened (k : ShmKey) (fl m : Nat) (s : SegId) : os.shmNames k = some s →
      (hasFlag fl O_CREAT && hasFlag fl O_EXCL) = false →
      SysEffect p os (.shmOpen k fl m) (os.openFd p s) (.ok (os.procs p).nextFd)
  | shmCreated (k : ShmKey) (fl m : Nat) : os.shmNames k = none →
      SysEffect p os (.shmOpen k fl m) ((os.shmCreate k 0).openFd p os.nextSeg) (.ok (os.procs p).nextFd)
  | shmUnlinked (k : ShmKey) : SysEffect p os (.shmUnlink k) (os.shmRemove k) (.ok 0)
  | fstat (fd : Nat) (s : SegId) : lookupFd (os.procs p) fd = some s →
      SysEffect p os (.fstat fd) os (.ok (os.segs s).bytes.length)
  | truncated (fd len : Nat) (s : SegId) : lookupFd (os.procs p) fd = some s →
      SysEffect p os (.ftruncate fd len) (os.truncate s len) (.ok 0)
  | mapped (fd len prot fl : Nat) (s : SegId) : lookupFd (os.procs p) fd = some s → len ≠ 0 →
      SysEffect p os (.mmap fd len prot fl)
        (os.addMap p ⟨(os.procs p).nextAddr, s, 0, len, hasFlag prot PROT_WRITE, hasFlag fl MAP_SHARED⟩)
        (.ok (os.procs p).nextAddr)
  | unmapped (a len : Nat) : len ≠ 0 →
      SysEffect p os (.munmap a len) (os.setProc p (munmapF (os.procs p) a len)) (.ok 0)
  | closed (fd : Nat) :
      SysEffect p os (.close fd) (os.setProc p { os.procs p with fds := (os.procs p).fds.filter (·.1 ≠ fd) }) (.ok 0)

theorem sysStep_effect (p : Pid) (i : Bool) (c : Sys) (os : OS) :
    SysEffect p os c (sysStep p i c os).1 (sysStep p i c os).2 := by
  unfold sysStep
  split
  · exact .fails c .EINTR
  · cases c with
    | semOpen k fl m v =>
      simp only [semOpenF]
      cases hk : os.semNames k with
      | some o =>
        simp only
        cases hx : (hasFlag fl O_CREAT && hasFlag fl O_EXCL) with
        | true => exact .fails _ _
        | false => exact .semOpened k fl m v o hk hx
      | none =>
        simp only
        split
        · exact .semCreated k fl m v hk
        · exact .fails _ _
    | semUnlink k =>
      simp only
      split
      · exact .semUnlinked k
      · exact .fails _ _
    | semClose o => exact .semClosed o
    | semWait o =>
      simp only
      split
      · rename_i h; exact .blocks o h
      · rename_i h; exact .semWaited o h
    | semPost o => exact .semPosted o
    | shmOpen k fl m =>
      simp only [shmOpenF]
      cases hk : os.shmNames k with
      | some s =>
        simp only
        cases hx : (hasFlag fl O_CREAT && hasFlag fl O_EXCL) with
        | true => exact .fails _ _
        | false => exact .shmOpened k fl m s hk hx
      | none =>
        simp only
        split
        · exact .shmCreated k fl m hk
        · exact .fails _ _
    | shmUnlink k =>
      simp only
      split
      · exact .shmUnlinked k
      · exact .fails _ _
    | fstat fd =>
      simp only
      split
      · exact .fstat fd _ ‹_›
      · exact .fails _ _
    | ftruncate fd len =>
      simp only
      split
      · exact .truncated fd len _ ‹_›
      · exact .fails _ _
    | mmap fd len prot fl =>
      simp only
      split
      · split
        · exact .fails _ _
        · exact .mapped fd len prot fl _ ‹_› ‹_›
      · exact .fails _ _
    | munmap a len =>
      simp only
      split
      · exact .fails _ _
      · exact .unmapped a len ‹_›
    | close fd =>
      simp only
      split
      · exact .closed fd
      · exact .fails _ _

variable {p : Pid} {os os' : OS} {c : Sys} {r : Res}

/-- the semaphore key a system call works on -/
def Sys.semKey? : Sys → Option SemKey
  | .semOpen k .. => some k
  | .semUnlink k => some k
  | _ => none

/-- only `sem_open` / `sem_unlink` of key `k` change the binding of `k` -/
theorem SysEffect.semNames_frame (h : SysEffect p os c os' r) (k : SemKey) (hk : c.semKey? ≠ some k) :
    os'.semNames k = os.semNames k := by
  cases h <;> first
    | rfl
    | (have : k ≠ _ := fun e => hk (congrArg some e.symm)
       simp only [OS.semCreate, OS.semRemove, this, if_false])

theorem SysEffect.nextObj_le (h : SysEffect p os c os' r) : os.nextObj ≤ os'.nextObj := by
  cases h <;> first | exact Nat.le_refl _ | exact Nat.le_succ _

/-- an existing object's value changes only by a successful `sem_wait` (−1) or a `sem_post` (+1) on it -/
theorem SysEffect.value (h : SysEffect p os c os' r) (o : ObjId) (ho : o < os.nextObj) :
    (os'.sems o).value + (if c = .semWait o ∧ r = .ok 0 then 1 else 0)
      = (os.sems o).value + (if c = .semPost o ∧ r = .ok 0 then 1 else 0) := by
  cases h with
  | semCreated k fl m v _ => simp [OS.semCreate, Nat.ne_of_lt ho]
  | semWaited o' hv =>
    by_cases e : o' = o
    · subst e; simp [OS.semSub]; omega
    · simp [OS.semSub, e, Ne.symm e]
  | semPosted o' =>
    by_cases e : o' = o
    · subst e; simp [OS.semAdd]
    · simp [OS.semAdd, e, Ne.symm e]
  | _ => simp only [reduceCtorEq, false_and, and_false, if_false, Nat.add_zero] <;> rfl

theorem SysEffect.procs_other (h : SysEffect p os c os' r) (q : Pid) (hq : q ≠ p) : os'.procs q = os.procs q := by
  cases h <;> first | rfl | simp only [OS.openFd, OS.addMap, OS.setProc, hq, if_false] <;> rfl

theorem SysEffect.alive (h : SysEffect p os c os' r) (q : Pid) : (os'.procs q).alive = (os.procs q).alive := by
  by_cases hq : q = p
  · subst hq
    cases h <;> first | rfl | simp only [OS.openFd, OS.addMap, OS.setProc, if_true, munmapF] <;> rfl
  · rw [h.procs_other q hq]

/-- a bound segment name stays bound to the same object under every system call except a `shm_unlink` of it -/
theorem SysEffect.shmNames_bound (h : SysEffect p os c os' r) {k : ShmKey} {s : SegId}
    (hk : os.shmNames k = some s) (hc : c ≠ .shmUnlink k) : os'.shmNames k = some s := by
  cases h with
  | shmCreated k' fl m hn =>
    have : k ≠ k' := fun e => by rw [e, hn] at hk; cases hk
    simpa [OS.openFd, OS.setProc, OS.shmCreate, this] using hk
  | shmUnlinked k' =>
    have : k ≠ k' := fun e => hc (by rw [e])
    simpa [OS.shmRemove, this] using hk
  | _ => exact hk

/-- every system call except `mmap` / `munmap` leaves all mappings and next addresses alone -/
theorem SysEffect.maps_frame (h : SysEffect p os c os' r)
    (h1 : ∀ fd len prot fl, c ≠ .mmap fd len prot fl) (h2 : ∀ a len, c ≠ .munmap a len) (q : Pid) :
    (os'.procs q).maps = (os.procs q).maps ∧ (os'.procs q).nextAddr = (os.procs q).nextAddr := by
  by_cases hq : q = p
  · subst hq
    cases h with
    | mapped fd len prot fl => exact absurd rfl (h1 fd len prot fl)
    | unmapped a len => exact absurd rfl (h2 a len)
    | _ => first | exact ⟨rfl, rfl⟩ | simp [OS.openFd, OS.setProc, OS.shmCreate]
  · rw [h.procs_other q hq]; exact ⟨rfl, rfl⟩

theorem lookupFd_mem {pr : Proc} {fd : Nat} {s : SegId} (h : lookupFd pr fd = some s) : (fd, s) ∈ pr.fds := by
  simp only [lookupFd, Option.map_eq_some_iff] at h
  obtain ⟨x, hx, rfl⟩ := h
  have h1 := List.find?_some hx
  simp only [decide_eq_true_eq] at h1
  rw [← h1]; exact List.mem_of_find?_eq_some hx

theorem lookupFd_filter {fds : List (Nat × SegId)} {fd fd0 : Nat} {s : SegId}
    (h : ((fds.filter (·.1 ≠ fd)).find? (·.1 = fd0)).map (·.2) = some s) :
    (fds.find? (·.1 = fd0)).map (·.2) = some s := by
  rw [List.find?_filter] at h
  obtain ⟨x, hx, rfl⟩ := Option.map_eq_some_iff.mp h
  have hp := List.find?_some hx
  simp only [decide_eq_true_eq] at hp
  -- the entry found is not one of `fd`, so `fd0 ≠ fd` and the filter hides no entry of `fd0`
  have : (fun a : Nat × SegId => decide (decide (a.1 ≠ fd) = true ∧ decide (a.1 = fd0) = true)) =
      fun a => decide (a.1 = fd0) := by
    funext a
    by_cases e : a.1 = fd0
    · simp [e, ← hp.2, hp.1]
    · simp [e]
  rw [this] at hx
  rw [hx]; rfl

theorem SysEffect.nextFd_le (h : SysEffect p os c os' r) (q : Pid) : (os.procs q).nextFd ≤ (os'.procs q).nextFd := by
  by_cases hq : q = p
  · subst hq
    cases h <;> first | exact Nat.le_refl _ | simp [OS.openFd, OS.addMap, OS.setProc, OS.shmCreate, munmapF]
  · rw [h.procs_other q hq]; exact Nat.le_refl _

/-- a descriptor number already handed out keeps its meaning: whatever a system call does, a later
    successful look-up of it yields what an earlier one did -/
theorem SysEffect.lookup_stable (h : SysEffect p os c os' r) {q : Pid} {fd0 : Nat} {s : SegId}
    (hlt : fd0 < (os.procs q).nextFd) (hl : lookupFd (os'.procs q) fd0 = some s) : lookupFd (os.procs q) fd0 = some s := by
  by_cases hq : q = p
  · subst hq
    have hne : (os.procs q).nextFd ≠ fd0 := Nat.ne_of_gt hlt
    cases h with
    | shmOpened k fl m s0 => simpa [OS.openFd, OS.setProc, lookupFd, List.find?_cons, hne] using hl
    | shmCreated k fl m => simpa [OS.openFd, OS.setProc, OS.shmCreate, lookupFd, List.find?_cons, hne] using hl
    | closed fd => exact lookupFd_filter (by simpa [OS.setProc, lookupFd] using hl)
    | mapped fd len prot fl s0 => simpa [OS.addMap, OS.setProc, lookupFd] using hl
    | unmapped a len => simpa [OS.setProc, lookupFd, munmapF] using hl
    | _ => exact hl
  · rw [h.procs_other q hq] at hl; exact hl

theorem SysEffect.nextSeg_le (h : SysEffect p os c os' r) : os.nextSeg ≤ os'.nextSeg := by
  cases h <;> first | exact Nat.le_refl _ | exact Nat.le_succ _

/-- the size of an existing object changes only by an `ftruncate` through a descriptor of that object -/
theorem SysEffect.seg_len (h : SysEffect p os c os' r) {s : SegId} (hs : s < os.nextSeg)
    (hnt : ∀ fd len, c = .ftruncate fd len → lookupFd (os.procs p) fd ≠ some s) :
    (os'.segs s).bytes.length = (os.segs s).bytes.length := by
  cases h with
  | shmCreated k fl m => simp [OS.openFd, OS.setProc, OS.shmCreate, Nat.ne_of_lt hs]
  | truncated fd len s' hl =>
    have : s ≠ s' := fun e => hnt fd len rfl (by rw [hl, e])
    simp [OS.truncate, this]
  | _ => rfl

theorem SysEffect.segs_below (h : SysEffect p os c os' r)
    (hn : ∀ k s, os.shmNames k = some s → s < os.nextSeg) (hf : ∀ q x, x ∈ (os.procs q).fds → x.2 < os.nextSeg) :
    (∀ k s, os'.shmNames k = some s → s < os'.nextSeg) ∧ (∀ q x, x ∈ (os'.procs q).fds → x.2 < os'.nextSeg) := by
  have fdsOf : ∀ {pr : Proc} {b : Nat} q x, x ∈ ((os.setProc p pr).procs q).fds →
      (∀ x ∈ pr.fds, x.2 < b) → (∀ x ∈ (os.procs q).fds, x.2 < b) → x.2 < b := by
    intro pr b q x hx hp ho
    by_cases e : q = p
    · simp only [OS.setProc, e, if_true] at hx; exact hp x hx
    · simp only [OS.setProc, e, if_false] at hx; exact ho x hx
  cases h with
  | shmOpened k fl m s hk =>
    refine ⟨hn, fun q x hx => fdsOf q x hx ?_ (hf q)⟩
    intro y hy
    rcases List.mem_cons.mp hy with rfl | hy
    · exact hn k s hk
    · exact hf p y hy
  | shmCreated k fl m =>
    refine ⟨?_, fun q x hx => fdsOf q x hx ?_ (fun y hy => Nat.lt_succ_of_lt (hf q y hy))⟩
    · intro k' s' hk'
      simp only [OS.openFd, OS.setProc, OS.shmCreate] at hk' ⊢
      split at hk'
      · cases hk'; exact Nat.lt_succ_self _
      · exact Nat.lt_succ_of_lt (hn k' s' hk')
    · intro y hy
      rcases List.mem_cons.mp hy with rfl | hy
      · exact Nat.lt_succ_self _
      · exact Nat.lt_succ_of_lt (hf p y hy)
  | shmUnlinked k =>
    refine ⟨?_, hf⟩
    intro k' s' hk'
    simp only [OS.shmRemove] at hk'
    split at hk'
    · cases hk'
    · exact hn k' s' hk'
  | closed fd => exact ⟨hn, fun q x hx => fdsOf q x hx (fun y hy => hf p y (List.mem_filter.mp hy).1) (hf q)⟩
  | mapped fd len prot fl s => exact ⟨hn, fun q x hx => fdsOf q x hx (hf p) (hf q)⟩
  | unmapped a len => exact ⟨hn, fun q x hx => fdsOf q x hx (hf p) (hf q)⟩
  | _ => exact ⟨hn, hf⟩

theorem sysStep_alive (p : Pid) (i : Bool) (c : Sys) (os : OS) (q : Pid) :
    ((sysStep p i c os).1.procs q).alive = (os.procs q).alive :=
  (sysStep_effect p i c os).alive q

theorem sysStep_procs_other (p q : Pid) (i : Bool) (c : Sys) (os : OS) (h : q ≠ p) :
    (sysStep p i c os).1.procs q = os.procs q :=
  (sysStep_effect p i c os).procs_other q h

theorem sysStep_munmap (p : Pid) (i : Bool) (a len : Nat) (os : OS) (h0 : len ≠ 0) :
    sysStep p i (.munmap a len) os = (os.setProc p (munmapF (os.procs p) a len), .ok 0) := by
  simp [sysStep, Sys.interruptible, h0]

/-- `munmap (a, l)` when every mapping at `a` has length `l`: exactly the mappings at `a` go -/
theorem munmapF_exact (pr : Proc) (a l : Nat)
    (hlen : ∀ m ∈ pr.maps, m.addr = a → m.len = l) :
    (munmapF pr a l).maps = pr.maps.filter (fun m => decide (m.addr ≠ a)) ∧
    (munmapF pr a l).nextAddr = pr.nextAddr := by
  refine ⟨?_, rfl⟩
  simp only [munmapF]
  have : ∀ (ms : List Mapping), (∀ m ∈ ms, m.addr = a → m.len = l) →
      ms.flatMap (fun m => if m.addr = a then
        (if pages l ≥ pages m.len then [] else
          [{ m with addr := m.addr + pages l, off := m.off + pages l * pageSize, len := m.len - pages l * pageSize }])
        else [m]) = ms.filter (fun m => decide (m.addr ≠ a)) := by
    intro ms
    induction ms with
    | nil => intro _; rfl
    | cons m ms ih =>
      intro h
      have ih' := ih (fun m' hm' => h m' (List.mem_cons_of_mem _ hm'))
      simp only [List.flatMap_cons, List.filter_cons]
      by_cases e : m.addr = a
      · have := h m List.mem_cons_self e
        simp [e, this, ih']
      · simp [e, ih']
  exact this pr.maps hlen



theorem store_segs {os os' : OS} {p : Pid} {a off : Nat} {b : UInt8} (h : os.store p a off b = some os') :
    ∃ segs', os' = { os with segs := segs' } ∧ ∀ s, (segs' s).bytes.length = (os.segs s).bytes.length := by
  unfold OS.store at h
  split at h
  · rename_i m _
    split at h
    · split at h <;> cases h
      · refine ⟨_, rfl, fun s => ?_⟩
        by_cases e : s = m.seg <;> simp [e]
      · exact ⟨_, rfl, fun _ => rfl⟩
    · cases h
  · cases h

end PV.IPC
