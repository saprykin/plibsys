import PV.Lemmas.SocketM
import PV.Spec.Socket
/-! The API calls of the socket model: the data calls in terms of their loops, the native calls each helper function makes,
and the shape of the log of every call (`callM_allowed`). -/
namespace PV.Socket
open PV.Generated.Socket

def recvCfg (s : Sock) (n : Nat) : LoopCfg := loopCfg s P_SOCKET_IO_CONDITION_POLLIN (recvCall s n) "Failed to call recv() on socket"
def recvfromCfg (s : Sock) (n : Nat) : LoopCfg := loopCfg s P_SOCKET_IO_CONDITION_POLLIN (recvfromCall s n) "Failed to call recvfrom() on socket"
def sendCfg (s : Sock) (b : Bytes) (n : Nat) : LoopCfg := loopCfg s P_SOCKET_IO_CONDITION_POLLOUT (sendCall s b n) "Failed to call send() on socket"
def sendtoCfg (s : Sock) (sa b : Bytes) (n : Nat) : LoopCfg := loopCfg s P_SOCKET_IO_CONDITION_POLLOUT (sendtoCall s sa b n) "Failed to call sendto() on socket"
def acceptCfg (s : Sock) : LoopCfg := loopCfg s P_SOCKET_IO_CONDITION_POLLIN (.accept s.fd) "Failed to call accept() on socket"

/-- result of a call that is just its loop -/
def ofLoop (s : Sock) (l : LoopR) (onDone : Res → Outcome) (failRet : Int) : Except Stop CallResult :=
  match l.fin with
  | .stop w => .error w
  | .done r => .ok { sock := s, out := onDone r, tr := l.evs, rest := l.rest, errno := l.errno }
  | .fail pe => .ok { sock := s, out := failOut failRet pe, tr := l.evs, rest := l.rest, errno := l.errno }

/-- a computation that is `liftLoop l` followed by a pure interpretation of how the loop ended -/
theorem loop_then_pure (s : Sock) (l : List Res → Int → LoopR) (onDone : Res → Outcome) (failRet : Int)
    (script : Script) (e : Int) :
    (match M.bind (M.bind (liftLoop l) (fun x => match x with
            | .error pe => (pure (failOut failRet pe) : M Outcome)
            | .ok r => pure (onDone r))) (fun o => (pure (s, o) : M (Sock × Outcome))) { script := script, errno := e } with
      | .ok (s', o) st evs => (.ok { sock := s', out := o, tr := evs, rest := st.script, errno := st.errno } : Except Stop CallResult)
      | .stop w => .error w) = ofLoop s (l script e) onDone failRet := by
  unfold M.bind liftLoop ofLoop
  cases hf : (l script e).fin <;> simp [hf, pure, M.pure]

theorem receive_eq (s : Sock) (hc : s.closed = false) (n : Nat) (script : Script) (e : Int) :
    call s (.receive false n) script e =
      ofLoop s (ioLoop (recvCfg s n) (startPhase (recvCfg s n)) script e)
        (fun r => { ret := retVal r, data := delivered r (toSocklen n) }) (-1) := by
  rw [← loop_then_pure]
  simp [call, callM, receive, check, hc, runLoop, recvCfg]
  rfl

theorem receiveFrom_noaddr_eq (s : Sock) (hc : s.closed = false) (n : Nat) (hn : n ≠ 0) (script : Script) (e : Int) :
    call s (.receiveFrom false false n) script e =
      ofLoop s (ioLoop (recvfromCfg s n) (startPhase (recvfromCfg s n)) script e)
        (fun r => { ret := retVal r, data := delivered r (toSocklen n) }) (-1) := by
  rw [← loop_then_pure]
  simp [call, callM, receiveFrom, check, hc, hn, runLoop, recvfromCfg]
  rfl

theorem send_eq (s : Sock) (hc : s.closed = false) (b : Bytes) (n : Nat) (hn : n ≠ 0) (script : Script) (e : Int) :
    call s (.send (some b) n) script e =
      ofLoop s (ioLoop (sendCfg s b n) (startPhase (sendCfg s b n)) script e) (fun r => { ret := retVal r }) (-1) := by
  rw [← loop_then_pure]
  simp [call, callM, send, check, hc, hn, runLoop, sendCfg]
  rfl

theorem sendTo_eq (s : Sock) (hc : s.closed = false) (sa b : Bytes) (n : Nat) (script : Script) (e : Int) :
    call s (.sendTo (.native sa) (some b) n) script e =
      ofLoop s (ioLoop (sendtoCfg s sa b n) (startPhase (sendtoCfg s sa b n)) script e) (fun r => { ret := retVal r }) (-1) := by
  rw [← loop_then_pure]
  simp [call, callM, sendTo, check, hc, runLoop, sendtoCfg]
  rfl

theorem ioWait_eq (s : Sock) (hc : s.closed = false) (cond : Int) (script : Script) (e : Int) :
    call s (.ioWait cond) script e =
      ofLoop s (pollLoop (pollCall s cond) script e) (fun _ => { ret := 1 }) 0 := by
  unfold call callM ioWait ofLoop
  simp only [check, hc, Bool.false_eq_true, if_false, M.bind_apply]
  simp only [M.bind]
  cases hf : (pollLoop (pollCall s cond) script e).fin
  all_goals simp [M.bind, liftLoop, hf, M.pure, pure]

theorem ofLoop_ok_noerr (s : Sock) (l : LoopR) (onDone : Res → Outcome) (fr : Int) (r : CallResult)
    (h : ofLoop s l onDone fr = .ok r) (hok : r.out.err = none) :
    ∃ res, l.fin = .done res ∧ r = { sock := s, out := onDone res, tr := l.evs, rest := l.rest, errno := l.errno } := by
  unfold ofLoop at h
  cases hf : l.fin with
  | stop w => simp [hf] at h
  | done res => simp only [hf] at h; injection h with h; exact ⟨res, rfl, h.symm⟩
  | fail pe => simp only [hf] at h; injection h with h; subst h; simp [failOut] at hok

theorem ofLoop_ok_err (s : Sock) (l : LoopR) (onDone : Res → Outcome) (fr : Int) (r : CallResult) (pe : PErr)
    (hd : ∀ x, (onDone x).err = none) (h : ofLoop s l onDone fr = .ok r) (he : r.out.err = some pe) :
    l.fin = .fail pe ∧ r = { sock := s, out := failOut fr pe, tr := l.evs, rest := l.rest, errno := l.errno } := by
  unfold ofLoop at h
  cases hf : l.fin with
  | stop w => simp [hf] at h
  | done res => simp only [hf] at h; injection h with h; subst h; simp [hd] at he
  | fail pe' =>
    simp only [hf] at h; injection h with h; subst h
    simp only [failOut, Option.some.injEq] at he
    subst he; exact ⟨rfl, rfl⟩

theorem toSocklen_eq (n : Nat) (h : n < 2 ^ 32) : toSocklen n = Int.ofNat n := by
  simp [toSocklen, Nat.mod_eq_of_lt h]

theorem loop_call_transparent (s : Sock) (hb : s.blocking = true) (cond : Int) (call : Issued) (msg : String)
    (script : Script) (e : Int) :
    (runLoop (loopCfg s cond call msg) { script := script, errno := e }).full =
    (runLoop (loopCfg s cond call msg)
      { script := (dropRetries call.sys script e).1, errno := (dropRetries call.sys script e).2 }).full := by
  unfold runLoop
  apply liftLoop_full
  have : startPhase (loopCfg s cond call msg) = .wait := by simp [startPhase, loopCfg, hb]
  rw [this]
  exact ioLoop_dropRetries (loopCfg s cond call msg) (by simp [loopCfg, hb]) script e

/-- what "exactly one successful native data call, its count returned, nothing afterwards" means -/
structure OneDataCall (dataCall : Issued) (script : Script) (r : CallResult) (k : Nat) (res : Res) (pre : List Ev) : Prop where
  /-- the trace ends with the data call that succeeded … -/
  trace : r.tr = pre ++ [⟨dataCall, res⟩]
  /-- … which returned `k`, and `k` is what the caller gets -/
  count : res.ret = .ok k
  ret : r.out.ret = Int.ofNat k
  /-- every earlier attempt had failed (no second successful read / no resend) -/
  earlier_failed : ∀ ev ∈ pre, ev.call = dataCall → ev.res.failed = true
  /-- every native call of the trace is the `poll` of the wait or the data call with the *same* arguments -/
  same_args : ∀ ev ∈ r.tr, ev.call.sys = dataCall.sys → ev.call = dataCall
  /-- the script is consumed exactly up to the successful answer: no further native call is made -/
  nothing_after : script = pre.map (·.res) ++ res :: r.rest

theorem one_data_call (s : Sock) (c : LoopCfg) (hps : c.poll.sys ≠ c.call.sys) (ph : Phase)
    (onDone : Res → Outcome) (hr : ∀ x, (onDone x).ret = retVal x)
    (script : Script) (e : Int) (r : CallResult)
    (h : ofLoop s (ioLoop c ph script e) onDone (-1) = .ok r) (hok : r.out.err = none) :
    ∃ k res pre, OneDataCall c.call script r k res pre := by
  obtain ⟨res, hf, hr'⟩ := ofLoop_ok_noerr _ _ _ _ _ h hok
  obtain ⟨pre, h1, h2, h3, h4, h5⟩ := ioLoop_done c (fun h => hps (congrArg Issued.sys h)) ph script e res hf
  cases hret : res.ret with
  | err x => simp [Res.failed, hret] at h3
  | ok k =>
    refine ⟨k, res, pre, ?_⟩
    subst hr'
    refine ⟨h1, hret, ?_, h2, ?_, h5⟩
    · simp [hr, retVal, hret]
    · intro ev hev hs
      rcases ioLoop_calls c ph script e ev hev with h | h
      · rw [h] at hs; exact absurd hs hps
      · exact h

/-- a `poll` carries the socket's descriptor, one pollfd, and the timeout `T` if `T > 0`, else −1 (wait for ever) -/
def pollArgsOk (fd timeout : Int) (ev : Ev) : Prop :=
  match ev.call with
  | .poll f _ t n => f = fd ∧ t = (if timeout > 0 then timeout else -1) ∧ n = 1
  | _ => True

theorem pollArgsOk_of_ne (fd t : Int) (ev : Ev) (h : ev.call.sys ∉ [.poll]) : pollArgsOk fd t ev := by
  unfold pollArgsOk; cases hc : ev.call <;> simp_all [Issued.sys]

theorem setFdBlocking_only (fd : Int) (b : Bool) : Only [.fcntl] (setFdBlocking fd b) := by
  unfold setFdBlocking; tr_all (simp [Issued.sys])

theorem setDetails_only (s : Sock) : Only [.getsockopt, .getsockname, .getpeername] (setDetailsFromFd s) := by
  unfold setDetailsFromFd; tr_all (simp [Issued.sys])

theorem cloexecBlock_only (p : Bool) (a b c d e : Int) : Only [.fcntl] (fdCloexecBlock p a b c d e) := by
  unfold fdCloexecBlock; tr_all (simp [Issued.sys])

/-- `p_socket_new_from_fd` only inspects the descriptor and sets its file status flags -/
theorem newFromFd_only (fd : Int) : Only [.getsockopt, .getsockname, .getpeername, .fcntl] (newFromFd fd) := by
  unfold newFromFd; tr_all (simp [Issued.sys])
  · exact (setDetails_only _).mono
  · exact (setFdBlocking_only _ _).mono

theorem close_only (s : Sock) : Only [.close] (close s) := by
  unfold close; tr_all (simp [Issued.sys])

theorem checkConnectResult_only (s : Sock) : Only [.getsockopt] (checkConnectResult s) := by
  unfold checkConnectResult; tr_all (simp [Issued.sys])

theorem ioWait_calls (s : Sock) (cond : Int) : TrAll (fun ev => ev.call = pollCall s cond) (ioWait s cond) := by
  unfold ioWait; tr_all (skip)
  exact TrAll.liftLoop _ (pollLoop_calls _)

theorem runLoop_calls (s : Sock) (cond : Int) (call : Issued) (msg : String) :
    TrAll (fun ev => ev.call = pollCall s cond ∨ ev.call = call) (runLoop (loopCfg s cond call msg)) :=
  TrAll.liftLoop _ (ioLoop_calls _ _)

/-- the event is not a wait -/
def noPoll (ev : Ev) : Prop := ev.call.sys ≠ .poll

/-- a data loop of a non-blocking socket never waits -/
theorem runLoop_noPoll (s : Sock) (hb : s.blocking = false) (cond : Int) (call : Issued) (msg : String) (hc : call.sys ≠ .poll) :
    TrAll noPoll (runLoop (loopCfg s cond call msg)) :=
  TrAll.liftLoop _ fun sc e ev hev => by
    rcases ioLoop_events _ _ sc e ev hev with ⟨_, h | h⟩ | h
    · simp [loopCfg, hb] at h
    · simp [startPhase, loopCfg, hb] at h
    · unfold noPoll; rw [h]; exact hc

def connCall (s : Sock) (sa : Bytes) : Issued := .connect s.fd sa (Int.ofNat sa.length)
def soErrorCall (s : Sock) : Issued := .getsockopt s.fd SOL_SOCKET SO_ERROR 4

/-- what `p_socket_connect` does once its `connect()` loop has ended with the answer `r` (trace `evs` so far) -/
def connectAfter (s : Sock) (r : Res) (evs : List Ev) (rest : Script) (errno : Int) : Except Stop CallResult :=
  if r.ret = .ok 0 then
    .ok { sock := { s with connected := true }, out := { ret := 1 }, tr := evs, rest := rest, errno := errno }
  else
    let sockErr := ioFromSystem errno
    if sockErr = P_ERROR_IO_WOULD_BLOCK ∨ sockErr = P_ERROR_IO_IN_PROGRESS then
      if s.blocking then
        -- wait for POLLOUT, then SO_ERROR decides
        let p := pollLoop (pollCall s P_SOCKET_IO_CONDITION_POLLOUT) rest errno
        match p.fin with
        | .stop w => .error w
        | .fail pe => .ok { sock := s, out := failOut 0 pe, tr := evs ++ p.evs, rest := p.rest, errno := p.errno }
        | .done _ =>
          match p.rest with
          | [] => .error .exhausted
          | g :: rest' =>
            if g.sys ≠ .getsockopt then .error (.mismatch .getsockopt g.sys)
            else match g.ret with
              | .err x =>
                .ok { sock := s, out := failOut 0 { code := ioFromSystem x, native := x, msg := "Failed to call getsockopt() to get connection status" },
                      tr := evs ++ p.evs ++ [⟨soErrorCall s, g⟩], rest := rest', errno := x }
              | .ok _ =>
                if g.val = 0 then
                  .ok { sock := { s with connected := true }, out := { ret := 1 },
                        tr := evs ++ p.evs ++ [⟨soErrorCall s, g⟩], rest := rest', errno := p.errno }
                else
                  .ok { sock := { s with connected := false },
                        out := failOut 0 { code := ioFromSystem g.val, native := g.val, msg := "Error in socket layer" },
                        tr := evs ++ p.evs ++ [⟨soErrorCall s, g⟩], rest := rest', errno := p.errno }
      else
        .ok { sock := s, out := failOut 0 { code := sockErr, native := errno, msg := msgConnNonBlock, stale := !r.failed },
              tr := evs, rest := rest, errno := errno }
    else
      .ok { sock := s, out := failOut 0 { code := sockErr, native := errno, msg := msgConnFailed, stale := !r.failed },
            tr := evs, rest := rest, errno := errno }

theorem liftLoop_apply (l : List Res → Int → LoopR) (script : Script) (e : Int) :
    liftLoop l { script := script, errno := e } =
      match (l script e).fin with
      | .stop w => .stop w
      | .done x => .ok (.ok x) { script := (l script e).rest, errno := (l script e).errno } (l script e).evs
      | .fail pe => .ok (.error pe) { script := (l script e).rest, errno := (l script e).errno } (l script e).evs := rfl

/-- `p_socket_connect` from the end of its `connect()` loop -/
def connectResult (s : Sock) (l : LoopR) : Except Stop CallResult :=
  match l.fin with
  | .stop w => .error w
  | .fail pe => .ok { sock := s, out := failOut 0 pe, tr := l.evs, rest := l.rest, errno := l.errno }
  | .done r => connectAfter s r l.evs l.rest l.errno

theorem connect_eq (s : Sock) (hc : s.closed = false) (sa : Bytes) (script : Script) (e : Int) :
    call s (.connect (.native sa)) script e = connectResult s (connLoop (connCall s sa) script e) := by
  unfold call callM connect connectResult
  simp only [check, hc, Bool.false_eq_true, if_false, M.bind_apply]
  simp only [M.bind, liftLoop_apply]
  unfold connCall
  generalize connLoop (Issued.connect s.fd sa (Int.ofNat sa.length)) script e = L
  cases hf : L.fin with
  | stop w => simp
  | fail pe => simp [M.pure, pure]
  | done r =>
    simp only []
    unfold connectAfter
    by_cases h0 : r.ret = .ok 0
    · simp [h0, M.pure, pure, hc]
    · simp only [h0, if_false, M.bind_apply, M.bind, getErrno]
      by_cases hw : ioFromSystem L.errno = P_ERROR_IO_WOULD_BLOCK ∨ ioFromSystem L.errno = P_ERROR_IO_IN_PROGRESS
      · simp only [hw, if_true]
        cases hb : s.blocking with
        | false => simp [M.pure, pure]
        | true =>
          simp only [if_true, ioWait, check, hc, Bool.false_eq_true, if_false, M.bind_apply, M.bind, liftLoop_apply]
          generalize pollLoop (pollCall s P_SOCKET_IO_CONDITION_POLLOUT) L.rest L.errno = Pl
          cases hp : Pl.fin with
          | stop w => simp
          | fail pe => simp [M.pure, pure]
          | done x =>
            simp only [M.pure, pure, List.append_nil]
            cases hr : Pl.rest with
            | nil => simp [checkConnectResult, sys, M.bind]
            | cons g rest' =>
              by_cases hs : g.sys = Sys.getsockopt
              · cases hg : g.ret <;> by_cases hv : g.val = 0 <;>
                  simp [checkConnectResult, sys, M.bind, hs, Issued.sys, Res.failed, hg, hv, errnoErr, M.pure, pure,
                    soErrorCall, failOut, hb, hc]
              · simp [checkConnectResult, sys, M.bind, hs, Issued.sys]
      · simp [hw, M.pure, pure]

/-- `p_socket_receive_from (socket, &address, buffer, n)` from the end of its `recvfrom()` loop: on success one
    more (opaque, scripted) call `p_socket_address_new_from_native (&sa, optlen)` with what `recvfrom` wrote -/
def receiveFromResult (s : Sock) (n : Nat) (l : LoopR) : Except Stop CallResult :=
  match l.fin with
  | .stop w => .error w
  | .fail pe => .ok { sock := s, out := failOut (-1) pe, tr := l.evs, rest := l.rest, errno := l.errno }
  | .done r =>
    match l.rest with
    | [] => .error .exhausted
    | a :: rest' =>
      if a.sys ≠ .fromNative then .error (.mismatch .fromNative a.sys)
      else
        .ok { sock := s,
              out := { ret := retVal r, data := delivered r (toSocklen n),
                       addr := if a.ret = .ok 0 then none
                               else some (r.sa.take sizeofSockaddrStorage.toNat, Int.ofNat r.sa.length) },
              tr := l.evs ++ [⟨.fromNative (r.sa.take sizeofSockaddrStorage.toNat) (Int.ofNat r.sa.length), a⟩],
              rest := rest',
              errno := (match a.ret with | .err x => x | .ok _ => l.errno) }

theorem receiveFrom_addr_eq (s : Sock) (hc : s.closed = false) (n : Nat) (hn : n ≠ 0) (script : Script) (e : Int) :
    call s (.receiveFrom true false n) script e =
      receiveFromResult s n (ioLoop (recvfromCfg s n) (startPhase (recvfromCfg s n)) script e) := by
  unfold call callM receiveFrom receiveFromResult runLoop recvfromCfg
  simp only [check, hc, hn, Bool.false_eq_true, if_false, or_self, M.bind_apply]
  simp only [M.bind, M.bind_apply, liftLoop_apply]
  generalize ioLoop (loopCfg s P_SOCKET_IO_CONDITION_POLLIN (recvfromCall s n) "Failed to call recvfrom() on socket")
    (startPhase (loopCfg s P_SOCKET_IO_CONDITION_POLLIN (recvfromCall s n) "Failed to call recvfrom() on socket")) script e = L
  cases hf : L.fin with
  | stop w => simp
  | fail pe => simp [M.pure, pure]
  | done r =>
    simp only [if_true, M.bind_apply, M.bind]
    cases hr : L.rest with
    | nil => simp [sys]
    | cons a rest' =>
      by_cases hs : a.sys = Sys.fromNative
      · simp [sys, hs, Issued.sys, M.pure, pure]
        cases a.ret <;> rfl
      · simp [sys, hs, Issued.sys]

def criticalSys : Sys → Bool
  | .poll | .send | .sendto | .recv | .recvfrom | .accept | .connect => true
  | _ => false

/-- the one native data call an API call may issue -/
def dataCallOf (s : Sock) : Call → Option Issued
  | .receive false n => some (recvCall s n)
  | .receiveFrom _ false n => some (recvfromCall s n)
  | .send (some b) n => some (sendCall s b n)
  | .sendTo (.native sa) (some b) n => some (sendtoCall s sa b n)
  | .accept => some (.accept s.fd)
  | .connect (.native sa) => some (connCall s sa)
  | _ => none

/-- a log entry of API call `c` on socket `s`: a `poll` is the socket's wait, a data call is `dataCallOf s c`;
    the remaining kinds of native calls (options, names, fcntl, close …) are not constrained here -/
def Allowed (s : Sock) (c : Call) (ev : Ev) : Prop :=
  criticalSys ev.call.sys = false ∨ (∃ cond, ev.call = pollCall s cond) ∨ some ev.call = dataCallOf s c

theorem allowed_other (s : Sock) (c : Call) (ev : Ev)
    (h : ev.call.sys ∉ [.poll, .send, .sendto, .recv, .recvfrom, .accept, .connect]) : Allowed s c ev := by
  left; revert h; cases ev.call.sys <;> simp [criticalSys]

theorem allowed_loop (s : Sock) (c : Call) (cond : Int) (call : Issued) (msg : String) (hd : dataCallOf s c = some call) :
    TrAll (Allowed s c) (runLoop (loopCfg s cond call msg)) :=
  (runLoop_calls s cond call msg).mono fun _ h => h.elim (fun h => .inr (.inl ⟨cond, h⟩)) (fun h => .inr (.inr (h ▸ hd.symm)))

theorem allowed_ioWait (s : Sock) (c : Call) (cond : Int) : TrAll (Allowed s c) (ioWait s cond) :=
  (ioWait_calls s cond).mono fun _ h => .inr (.inl ⟨cond, h⟩)

/-- **every** API call, on every script: its waits are the socket's `poll`, its data calls are the one
    data call of that API call with the caller's arguments -/
theorem callM_allowed (s : Sock) (c : Call) : TrAll (Allowed s c) (callM s c) := by
  cases c <;> simp only [callM]
  case bind a r => unfold bind; tr_all (simp [Allowed, criticalSys, Issued.sys])
  case listen => unfold listen; tr_all (simp [Allowed, criticalSys, Issued.sys])
  case close => tr_all (skip); exact (close_only s).trAll _ (allowed_other s _)
  case shutdown => unfold shutdown; tr_all (simp [Allowed, criticalSys, Issued.sys])
  case setBufferSize => unfold setBufferSize; tr_all (simp [Allowed, criticalSys, Issued.sys])
  case setKeepalive => unfold setKeepalive; tr_all (simp [Allowed, criticalSys, Issued.sys])
  case setBlocking => exact TrAll.pure _
  case setBacklog => exact TrAll.pure _
  case setTimeout => exact TrAll.pure _
  case getLocal => unfold getAddress; tr_all (simp [Allowed, criticalSys, Issued.sys])
  case getRemote => unfold getAddress; tr_all (simp [Allowed, criticalSys, Issued.sys])
  case checkConnectResult => exact (checkConnectResult_only s).trAll _ (allowed_other s _)
  case ioWait cnd => tr_all (skip); exact allowed_ioWait _ _ _
  case receive bn n =>
    unfold receive; tr_all (skip)
    exact allowed_loop _ _ _ _ _ (by simp_all [dataCallOf])
  case receiveFrom w bn n =>
    unfold receiveFrom; tr_all (simp [Allowed, criticalSys, Issued.sys])
    exact allowed_loop _ _ _ _ _ (by simp_all [dataCallOf])
  case send b n =>
    unfold send; tr_all (skip)
    exact allowed_loop _ _ _ _ _ rfl
  case sendTo a b n =>
    unfold sendTo; tr_all (skip)
    exact allowed_loop _ _ _ _ _ rfl
  case accept =>
    unfold accept; tr_all (simp [Allowed, criticalSys, Issued.sys])
    · exact allowed_loop _ _ _ _ _ rfl
    · exact (cloexecBlock_only ..).trAll _ (allowed_other s _)
    · exact (newFromFd_only _).trAll _ (allowed_other s _)
  case connect a =>
    unfold connect; tr_all (skip)
    · exact TrAll.liftLoop _ fun sc e ev hev => .inr (.inr (congrArg some (connLoop_calls _ sc e ev hev)))
    · exact allowed_ioWait _ _ _
    · exact (checkConnectResult_only s).trAll _ (allowed_other s _)

theorem dataCallOf_sys (s : Sock) (c : Call) (d : Issued) (h : dataCallOf s c = some d) : d.sys ≠ .poll := by
  unfold dataCallOf at h
  split at h <;> cases h <;> simp [recvCall, recvfromCall, sendCall, sendtoCall, connCall, Issued.sys]

theorem callM_polls (s : Sock) (c : Call) : TrAll (pollArgsOk s.fd s.timeout) (callM s c) :=
  (callM_allowed s c).mono fun ev h => by
    rcases h with h | ⟨cond, h⟩ | h
    · exact pollArgsOk_of_ne _ _ _ (by revert h; cases ev.call.sys <;> simp [criticalSys])
    · obtain ⟨c', r⟩ := ev; subst h; simp [pollArgsOk, pollCall, pollTimeout]
    · exact pollArgsOk_of_ne _ _ _ (by simpa using dataCallOf_sys s c _ h.symm)

end PV.Socket
