import PV.Lemmas.RWLock.Live
/-! C02, what the individual API calls do in a state that satisfies the invariant. -/
namespace PV.RWLock

/-- a step that performs no wake-up replaces exactly thread `t` -/
theorem step_no_wake {s s' : State} {t : Tid} {pick : Option Tid} {th : Thread} (hinv : Inv s)
    (hth : s.threads[t]? = some th) (h : stepThread Cfg.reference s t pick = some s') :
    ∃ o, localStepN (readers s) (writers s) (waitingReaders s) (waitingWriters s) th = some o ∧
      (o.wake = .none → s'.threads = s.threads.set t o.th) ∧ s'.mutex = (if o.owns then some t else none) := by
  obtain ⟨th', o, ths, hth', -, hl, hw, rfl⟩ := stepThread_eq h
  obtain rfl := Option.some.inj (hth.symm.trans hth')
  rw [hinv.toS.refines hth] at hl
  obtain ⟨oN, hN, rfl⟩ := Option.map_eq_some_iff.mp hl
  refine ⟨oN, hN, fun hn => ?_, rfl⟩
  rw [show oN.toOut.wake = .none from hn] at hw
  exact (Option.some.inj hw).symm

/-- decision step of `p_rwlock_reader_trylock` -/
theorem rtry_step {s s' : State} {t : Tid} {pick : Option Tid} {th : Thread} (hinv : Inv s)
    (hth : s.threads[t]? = some th) (hpc : th.pc = .lock .rtry) (h : stepThread Cfg.reference s t pick = some s') :
    ∃ th', s'.threads[t]? = some th' ∧ th'.pc = .atUnlock .rtry (decide (writers s = 0)) := by
  obtain ⟨o, hl, hw, _⟩ := step_no_wake hinv hth h
  simp only [localStepN, hpc] at hl
  by_cases hw0 : writers s = 0
  · simp only [hw0, ne_eq, not_true_eq_false, if_false] at hl
    obtain rfl := Option.some.inj hl
    rw [hw rfl]
    exact ⟨_, getElem?_set_self' hth, by simp [hw0]⟩
  · simp only [hw0, ne_eq, not_false_eq_true, if_true] at hl
    obtain rfl := Option.some.inj hl
    rw [hw rfl]
    exact ⟨_, getElem?_set_self' hth, by simp [hw0]⟩

/-- decision step of `p_rwlock_writer_trylock` -/
theorem wtry_step {s s' : State} {t : Tid} {pick : Option Tid} {th : Thread} (hinv : Inv s)
    (hth : s.threads[t]? = some th) (hpc : th.pc = .lock .wtry) (h : stepThread Cfg.reference s t pick = some s') :
    ∃ th', s'.threads[t]? = some th' ∧ th'.pc = .atUnlock .wtry (decide (readers s = 0 ∧ writers s = 0)) := by
  obtain ⟨o, hl, hw, _⟩ := step_no_wake hinv hth h
  simp only [localStepN, hpc] at hl
  by_cases hw0 : readers s = 0 ∧ writers s = 0
  · simp only [hw0, and_self, not_true_eq_false, if_false] at hl
    obtain rfl := Option.some.inj hl
    rw [hw rfl]
    exact ⟨_, getElem?_set_self' hth, by simp [hw0]⟩
  · simp only [hw0, not_false_eq_true, if_true] at hl
    obtain rfl := Option.some.inj hl
    rw [hw rfl]
    exact ⟨_, getElem?_set_self' hth, by simp [hw0]⟩

/-- the last step of every API call (`p_mutex_unlock`, return): always enabled, returns the value
    decided earlier, the thread goes on with its program -/
theorem return_step {s : State} {t : Tid} {th : Thread} {op : Op} {ret : Bool} (hinv : Inv s)
    (hth : s.threads[t]? = some th) (hpc : th.pc = .atUnlock op ret) :
    ∃ s', stepThread Cfg.reference s t none = some s' ∧
      ∃ th', s'.threads[t]? = some th' ∧ th'.last = some (op, ret) ∧ (th'.pc = .done ∨ ∃ o, th'.pc = .lock o) := by
  obtain ⟨s', hs'⟩ := stepThread_some hinv hth (by simp [hpc, PC.needsMutex]) (by simp [localStepN, hpc])
  refine ⟨s', hs', ?_⟩
  obtain ⟨o, hl, hw, _⟩ := step_no_wake hinv hth hs'
  simp only [localStepN, hpc] at hl
  obtain rfl := Option.some.inj hl
  rw [hw rfl]
  exact ⟨_, getElem?_set_self' hth, finish_last _ _ _, finish_pc _ _ _⟩

/-- `p_rwlock_reader_lock` while no writer holds: granted in its first step, no condition-variable wait -/
theorem rlock_step_shared {s : State} {t : Tid} {th : Thread} (hinv : Inv s)
    (hth : s.threads[t]? = some th) (hpc : th.pc = .lock .rlock) (hm : s.mutex = none) (hw0 : writers s = 0) :
    ∃ s', stepThread Cfg.reference s t none = some s' ∧ readers s' = readers s + 1 ∧ writers s' = 0 ∧
      ∃ th', s'.threads[t]? = some th' ∧ th'.pc = .atUnlock .rlock true := by
  obtain ⟨s', hs'⟩ := stepThread_some hinv hth (fun _ => hm) (by simp only [localStepN, hpc]; split <;> simp)
  refine ⟨s', hs', ?_⟩
  obtain ⟨o, hl, hw, _⟩ := step_no_wake hinv hth hs'
  obtain ⟨-, -, -, ht⟩ := Tally.set_local (TOK_imp_TOKS (hinv.tok th (List.mem_of_getElem? hth))) hth hinv.toS.tally hl
  simp only [localStepN, hpc, hw0, ne_eq, not_true_eq_false, if_false] at hl
  obtain rfl := Option.some.inj hl
  rw [readers, writers, hw rfl]
  exact ⟨ht.1, ht.2.1, _, getElem?_set_self' hth, rfl⟩

/-- the two counter words change only in steps that start by acquiring the internal mutex and end
    with the stepping thread still owning it; spurious wake-ups never touch them -/
theorem counters_change {c : Cfg} {s s' : State} {t : Tid} {pick : Option Tid} (h : stepThread c s t pick = some s')
    (hne : s'.active ≠ s.active ∨ s'.waiting ≠ s.waiting) : s.mutex = none ∧ s'.mutex = some t := by
  obtain ⟨th, o, ths, hth, hmx, hl, hw, rfl⟩ := stepThread_eq h
  -- steps from a pc that already owns the mutex, or that releases it, leave the words alone
  have key : th.pc.needsMutex = true ∧ o.owns = true := by
    unfold localStep at hl
    cases hpc : th.pc with
    | lock op =>
      refine ⟨rfl, ?_⟩
      cases op <;> simp only [hpc] at hl <;> (repeat' (split at hl)) <;>
        (obtain rfl := Option.some.inj hl) <;> simp [grantR, grantW]
    | woken op cv =>
      refine ⟨rfl, ?_⟩
      cases op with
      | rlock | wlock =>
        simp only [hpc] at hl
        split at hl <;>
          obtain rfl := Option.some.inj hl <;>
          simp [grantR, grantW]
      | _ => simp [hpc] at hl
    | atWait op cv => simp only [hpc] at hl; obtain rfl := Option.some.inj hl; simp at hne
    | blocked op cv => simp [hpc] at hl
    | atSignal op cv => simp only [hpc] at hl; obtain rfl := Option.some.inj hl; simp at hne
    | atBcast op cv => simp only [hpc] at hl; obtain rfl := Option.some.inj hl; simp at hne
    | atUnlock op ret => simp only [hpc] at hl; obtain rfl := Option.some.inj hl; simp at hne
    | done => simp [hpc] at hl
  exact ⟨hmx key.1, by simp [key.2]⟩

/-- only the two blocking lock calls ever reach a condition-variable wait, each on its own
    condition variable; a trylock (or unlock) call is never at, inside, or returning from a wait -/
theorem tok_wait {th : Thread} {op : Op} {cv : Cv} (h : TOK th = true)
    (hpc : th.pc = .atWait op cv ∨ th.pc = .blocked op cv ∨ th.pc = .woken op cv) :
    (op = .rlock ∧ cv = .read) ∨ (op = .wlock ∧ cv = .write) := by
  rcases hpc with hpc | hpc | hpc <;>
    (simp [TOK, hpc, waitOK] at h
     rcases h with ⟨⟨h | h, _⟩, _⟩
     · exact Or.inl h
     · exact Or.inr h)

end PV.RWLock
