import PV.Lemmas.RWLock.Fail
/-! C02, the invariant `Inv` of the general model (`InvS` + mutex ownership + no lost wake-up) and its preservation. -/
namespace PV.RWLock

structure Inv (s : State) : Prop where
  tok : ∀ th ∈ s.threads, TOK th = true
  len : s.threads.length < 2^15
  act : s.active = pack (cnt heldR s.threads) (cnt heldW s.threads)
  wai : s.waiting = pack (cnt (inWait .read) s.threads) (cnt (inWait .write) s.threads)
  /-- at most one writer holds, and then no reader holds -/
  safe : cnt heldW s.threads ≤ 1 ∧ (1 ≤ cnt heldW s.threads → cnt heldR s.threads = 0)
  /-- the owner of the internal mutex is at a pc inside a critical section -/
  mtx : ∀ t, s.mutex = some t → ∃ th, s.threads[t]? = some th ∧ owns th = true
  mcnt : cnt owns s.threads = if s.mutex.isSome then 1 else 0
  /-- a thread about to wait has seen the condition it waits for (it owns the mutex since) -/
  aR : 1 ≤ cnt (isAtWait .read) s.threads → cnt heldW s.threads = 1
  aW : 1 ≤ cnt (isAtWait .write) s.threads → 1 ≤ cnt heldR s.threads + cnt heldW s.threads
  /-- no lost wake-up for writers: a blocked writer has a holder that will signal, a woken peer,
      or a signal in flight -/
  lw : 1 ≤ cnt (isBlockedOn .write) s.threads →
        1 ≤ cnt heldR s.threads + cnt heldW s.threads ∨ 1 ≤ cnt (isWoken .write) s.threads ∨ 1 ≤ cnt (isAtSignal .write) s.threads
  /-- no lost wake-up for readers: a blocked reader has a writer holding, a writer in its wait
      block (who will hold and then release), or a broadcast in flight -/
  lr : 1 ≤ cnt (isBlockedOn .read) s.threads →
        cnt heldW s.threads = 1 ∨ 1 ≤ cnt (inWait .write) s.threads ∨ 1 ≤ cnt (isAtBcast .read) s.threads

theorem Inv.toS {s : State} (h : Inv s) : InvS s.threads s.active s.waiting :=
  ⟨fun th hth => TOK_imp_TOKS (h.tok th hth), h.len, h.act, h.wai, h.safe⟩

/-- the clauses of `Inv` that count pcs, for a thread list with `k` owners of the internal mutex -/
def PcClauses (l : List Thread) (k : Nat) : Prop :=
  cnt owns l = k ∧
  (1 ≤ cnt (isAtWait .read) l → cnt heldW l = 1) ∧
  (1 ≤ cnt (isAtWait .write) l → 1 ≤ cnt heldR l + cnt heldW l) ∧
  (1 ≤ cnt (isBlockedOn .write) l →
    1 ≤ cnt heldR l + cnt heldW l ∨ 1 ≤ cnt (isWoken .write) l ∨ 1 ≤ cnt (isAtSignal .write) l) ∧
  (1 ≤ cnt (isBlockedOn .read) l →
    cnt heldW l = 1 ∨ 1 ≤ cnt (inWait .write) l ∨ 1 ≤ cnt (isAtBcast .read) l)

theorem Inv.pcClauses {s : State} (h : Inv s) : PcClauses s.threads (if s.mutex.isSome then 1 else 0) :=
  ⟨h.mcnt, h.aR, h.aW, h.lw, h.lr⟩

/-- `Inv` from its parts: full per-thread consistency, the safety half, the owner of the mutex, the pc clauses -/
theorem Inv.mk' {s : State} (tok : ∀ th ∈ s.threads, TOK th = true) (hS : InvS s.threads s.active s.waiting)
    (mtx : ∀ t, s.mutex = some t → ∃ th, s.threads[t]? = some th ∧ owns th = true)
    (hP : PcClauses s.threads (if s.mutex.isSome then 1 else 0)) : Inv s :=
  ⟨tok, hS.len, hS.act, hS.wai, hS.safe, mtx, hP.1, hP.2.1, hP.2.2.1, hP.2.2.2.1, hP.2.2.2.2⟩

theorem PcClauses.perm {l l' : List Thread} {k : Nat} (p : l.Perm l') : PcClauses l k ↔ PcClauses l' k := by
  simp only [PcClauses, cnt, p.countP_eq]

theorem Served.perm {l l' : List Thread} {wk : Wake} (p : l.Perm l') : Served wk l ↔ Served wk l' := by
  cases wk <;> simp only [Served, cnt, p.countP_eq]

/-- a woken writer is itself a reason why blocked writers will be served; blocked readers wait for
    things a wake-up does not change -/
theorem PcClauses.wake {cv : Cv} {x : Thread} {rest : List Thread} {k : Nat} (hb : isBlockedOn cv x = true)
    (h : PcClauses (x :: rest) k) : PcClauses (wakeThread x :: rest) k := by
  obtain ⟨pc, prog, held, last⟩ := x
  cases pc <;> simp [isBlockedOn] at hb
  rename_i op c
  subst hb
  simp only [PcClauses, cnt, List.countP_cons, wakeThread] at h ⊢
  cases c <;> thread_share at h ⊢ <;> lia

/-- the step seen from the thread that makes it, its wake-up call (if any) already delivered.  A thread that steps
    takes the free mutex or owns it, so no other thread is at a pc that owns: that is what the arithmetic uses -/
theorem PcClauses.local {th : Thread} {rest : List Thread} {r w wr ww k : Nat} {o : OutN} (htok : TOK th = true)
    (ht : Tally (th :: rest) r w wr ww) (hl : PcClauses (th :: rest) k) (hk : k ≤ 1)
    (hmx : th.pc.needsMutex = true → k = 0) (h : localStepN r w wr ww th = some o)
    (hsv : Served o.wake (o.th :: rest)) :
    PcClauses (o.th :: rest) (if o.owns then 1 else 0) := by
  obtain ⟨m1, m2, m3, m4, m5, m6, m7, m8, m9⟩ := cnt_pc_class_le rest
  obtain ⟨pc, prog, held, last⟩ := th
  simp only [Tally, PcClauses, Served, cnt, List.countP_cons] at ht hl hsv m1 m2 m3 m4 m5 m6 m7 m8 m9 ⊢
  cases pc with
  | lock op =>
    -- first step of a call: the mutex was free (`hk0`), so nobody was at a pc that owns; now this thread is
    have hk0 := hmx rfl
    cases op <;>
      simp [TOK, Op.isAcq] at htok <;>
      obtain ⟨rfl, -⟩ := htok <;>
      thread_share at ht hl <;>
      simp only [localStepN] at h
    case runlock =>
      -- the caller is counted as a reader, so the branch for a reader count of 0 is dead
      rw [if_neg (by lia)] at h
      split at h <;>
        obtain rfl := Option.some.inj h <;>
        thread_share <;>
        lia
    -- the other five ops: one leaf per branch; a thread goes to `atWait` only under the guard `aR` / `aW` record,
    -- an unlock that leaves waiters goes to the signal / broadcast `lw` / `lr` ask for
    all_goals
      repeat' split at h
      all_goals
        obtain rfl := Option.some.inj h
        thread_share
        lia
  | atWait op cv =>
    -- the thread blocks and releases the mutex: `aR` / `aW` say that somebody holds who will wake it
    obtain rfl := Option.some.inj h
    cases op <;>
      cases cv <;>
      simp [TOK, waitOK] at htok <;>
      obtain ⟨rfl, -⟩ := htok <;>
      thread_share at ht hl ⊢ <;>
      lia
  | blocked op cv => cases h
  | woken op cv =>
    -- back from the wait with the mutex: waits again under the same guard, or holds (a woken writer that
    -- holds is the `1 ≤ r + w` of `lw`)
    have hk0 := hmx rfl
    cases op <;>
      cases cv <;>
      simp [TOK, waitOK] at htok <;>
      obtain ⟨rfl, -⟩ := htok <;>
      thread_share at ht hl <;>
      simp only [localStepN] at h <;>
      split at h <;>
      obtain rfl := Option.some.inj h <;>
      thread_share <;>
      lia
  | atSignal op cv =>
    -- the signal in flight is gone, but it has been delivered (`hsv`)
    obtain rfl := Option.some.inj h
    simp [TOK] at htok
    obtain ⟨⟨⟨rfl, -⟩, rfl⟩, -⟩ := htok
    thread_share at ht hl hsv ⊢
    lia
  | atBcast op cv =>
    -- after the broadcast nobody is blocked on `read_cv` (`hsv`): `lr` asks nothing
    obtain rfl := Option.some.inj h
    simp [TOK] at htok
    obtain ⟨⟨⟨rfl, -⟩, rfl⟩, -⟩ := htok
    thread_share at ht hl hsv ⊢
    lia
  | atUnlock op ret =>
    -- the mutex is released by its only owner; the thread is at the entry of its next call or done
    obtain rfl := Option.some.inj h
    rcases finish_pc { pc := .atUnlock op ret, prog := prog, held := held, last := last } op ret with hp | ⟨o, hp⟩ <;>
      simp only [heldR, heldW, inWait, isAtWait, isBlockedOn, isWoken, isAtSignal, isAtBcast, owns, PC.ownsMutex,
        finish_held, hp, Bool.false_eq_true, ↓reduceIte, Nat.add_zero] at ht hl ⊢ <;>
      lia
  | done => cases h

theorem inv_wake {s : State} {u : Nat} {x : Thread} {cv : Cv} (hinv : Inv s) (hu : s.threads[u]? = some x)
    (hb : isBlockedOn cv x = true) : Inv { s with threads := s.threads.set u (wakeThread x) } := by
  have hS := hinv.toS.wake hu hb
  have hL := (PcClauses.perm (perm_set_eraseIdx hu)).2 (((PcClauses.perm (perm_cons_eraseIdx hu)).1 hinv.pcClauses).wake hb)
  obtain ⟨op, hx, hw⟩ := wake_blocked hb
  have hx' := hinv.tok x (List.mem_of_getElem? hu)
  refine Inv.mk' (forall_mem_set hinv.tok ?_) hS (fun t ht => ?_) hL
  · rw [hx] at hx'
    rw [hw]; exact hx'
  · obtain ⟨th, h1, h2⟩ := hinv.mtx t ht
    have hut : u ≠ t := by
      rintro rfl
      obtain rfl : x = th := Option.some.inj (hu.symm.trans h1)
      rw [hx] at h2
      cases h2
    exact ⟨th, by simpa only [List.getElem?_set_ne hut] using h1, h2⟩

/-- the local part of a step: thread `t` performs `localStep` and gets its new entry; the wake-up call that
    the step makes (if any) has been delivered before -/
theorem inv_local {s : State} {t : Tid} {th : Thread} {o : Out} (hinv : Inv s) (hth : s.threads[t]? = some th)
    (hmx : th.pc.needsMutex = true → s.mutex = none) (hl : localStep Cfg.reference s.active s.waiting th = some o)
    (hsv : Served o.wake (s.threads.set t o.th)) :
    Inv { mutex := if o.owns then some t else none, active := o.active, waiting := o.waiting,
          threads := s.threads.set t o.th } := by
  have p1 := perm_cons_eraseIdx hth
  have p2 := perm_set_eraseIdx (a := o.th) hth
  obtain ⟨h1, h2, -, hS'⟩ := hinv.toS.set_local hth hl
  rw [hinv.toS.refines hth] at hl
  obtain ⟨oN, hN, rfl⟩ := Option.map_eq_some_iff.mp hl
  have hL := (PcClauses.perm p2).2 (PcClauses.local (hinv.tok th (List.mem_of_getElem? hth))
    ((Tally.perm p1).1 hinv.toS.tally) ((PcClauses.perm p1).1 hinv.pcClauses)
    (by split <;> decide) (fun hn => by simp [hmx hn]) hN ((Served.perm p2).1 hsv))
  have e : (if oN.toOut.owns then some t else none : Option Tid).isSome = oN.owns := by
    cases ho : oN.owns <;> simp [OutN.toOut, ho]
  refine Inv.mk' (forall_mem_set hinv.tok h1) hS' (fun t' ht' => ?_) (by simpa only [e] using hL)
  split at ht'
  · obtain rfl := Option.some.inj ht'
    exact ⟨_, getElem?_set_self' hth, by rw [h2]; assumption⟩
  · cases ht'

theorem inv_step {s s' : State} {t : Tid} {pick : Option Tid} (hinv : Inv s)
    (h : stepThread Cfg.reference s t pick = some s') : Inv s' := by
  obtain ⟨th, o, ths, hth, hmx, hl, hw, rfl⟩ := stepThread_eq h
  have hsv := applyWake_served hw
  obtain ⟨l2, ⟨hinv2, hth2⟩, rfl⟩ := applyWake_set (P := fun l => Inv { s with threads := l } ∧ l[t]? = some th)
    (hinv.toS.set_local hth hl).2.2.1
    (fun l u x cv ⟨hi, ht⟩ hut hu hx => ⟨inv_wake hi hu hx, by simpa only [List.getElem?_set_ne hut] using ht⟩) hw ⟨hinv, hth⟩
  exact inv_local hinv2 hth2 hmx hl hsv

theorem inv_spur {s s' : State} {t : Tid} (hinv : Inv s) (h : spurious s t = some s') : Inv s' := by
  obtain ⟨th, cv, hth, hb, rfl⟩ := spurious_eq h
  exact inv_wake hinv hth hb

theorem pcClauses_init (progs : List (List Op)) : PcClauses (progs.map Thread.start) 0 := by
  induction progs with
  | nil => simp [PcClauses]
  | cons p ps ih =>
    cases p <;> simp only [List.map_cons, Thread.start, PcClauses, cnt, List.countP_cons] at ih ⊢ <;> thread_share <;> exact ih

theorem inv_init (progs : List (List Op)) (hd : ∀ p ∈ progs, Disc p = true) (hn : progs.length < 2^15) :
    Inv (init progs) := by
  refine Inv.mk' (fun th hth => ?_) (invS_init progs hd hn) (fun t ht => by cases ht) (pcClauses_init progs)
  obtain ⟨p, hp, rfl⟩ := List.mem_map.mp hth
  exact TOK_start p (hd p hp)

theorem reach_inv {s : State} (h : Reach Cfg.reference s) : Inv s := by
  induction h with
  | init progs hd hn => exact inv_init progs hd hn
  | step _ hs ih => exact inv_step ih hs
  | spur _ hs ih => exact inv_spur ih hs

end PV.RWLock
