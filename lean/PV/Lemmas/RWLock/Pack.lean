import PV.Model.RWLock
/-! C02, the packed counter words: `pack r w` and the four macros on it, bit by bit (counts < 2^15). -/
namespace PV.RWLock
open PV.Generated.RWLock

/-- the word holding `r` in the reader field and `w` in the writer field -/
def pack (r w : Nat) : Word := BitVec.ofNat 32 (r + w * 2^15)

theorem testBit_pack (r w : Nat) (hr : r < 2^15) (i : Nat) :
    (r + w * 2^15).testBit i = if i < 15 then r.testBit i else w.testBit (i - 15) := by
  rw [Nat.add_comm, Nat.mul_comm]
  exact Nat.testBit_two_pow_mul_add w hr i

theorem maskR_bits : ∀ i, i < 32 → (0x00007FFF : Nat).testBit i = decide (i < 15) := by decide
theorem maskW_bits : ∀ i, i < 32 → (0x3FFF8000 : Nat).testBit i = (decide (15 ≤ i) && decide (i < 30)) := by decide

theorem testBit_hi (w : Nat) (hw : w < 2^15) (j : Nat) (hj : 15 ≤ j) : w.testBit j = false := by
  apply Nat.testBit_lt_two_pow
  exact Nat.lt_of_lt_of_le hw (Nat.pow_le_pow_right (by decide) hj)

theorem SET_READERS_pack (r w r' : Nat) (hr : r < 2^15) (hr' : r' < 2^15) :
    SET_READERS (pack r w) (BitVec.ofNat 32 r') = pack r' w := by
  apply BitVec.eq_of_getLsbD_eq
  intro i hi
  simp only [SET_READERS, pack, setReadersMask, BitVec.getLsbD_or, BitVec.getLsbD_and, BitVec.getLsbD_not, BitVec.getLsbD_ofNat,
    testBit_pack r w hr, testBit_pack r' w hr', maskR_bits i hi]
  by_cases h : i < 15
  · simp [h, hi]
  · simp [h, hi, testBit_hi r' hr' i (by omega)]

theorem SET_WRITERS_pack (r w w' : Nat) (hr : r < 2^15) (hw : w < 2^15) (hw' : w' < 2^15) :
    SET_WRITERS (pack r w) (BitVec.ofNat 32 w') = pack r w' := by
  apply BitVec.eq_of_getLsbD_eq
  intro i hi
  simp only [SET_WRITERS, pack, setWritersMask, setWritersShift, BitVec.getLsbD_or, BitVec.getLsbD_and, BitVec.getLsbD_not,
    BitVec.getLsbD_shiftLeft, BitVec.getLsbD_ofNat, testBit_pack r w hr, testBit_pack r w' hr, maskW_bits i hi]
  by_cases h : i < 15
  · simp [h, hi]
  · by_cases h3 : i < 30
    · have h1 : 15 ≤ i := by omega
      have h2 : i - 15 < 32 := by omega
      simp [h, hi, h3, h1, h2]
    · simp [h, hi, h3, testBit_hi w' hw' (i-15) (by omega)]
      exact testBit_hi w hw (i-15) (by omega)

/-! the macros on an arbitrary word: SET then COUNT gives the value back, the other field is untouched -/

theorem ofNat_bits_hi (n : Nat) (hn : n < 2^15) (i : Nat) (hi : 15 ≤ i) : (BitVec.ofNat 32 n).getLsbD i = false := by
  simp [BitVec.getLsbD_ofNat, testBit_hi n hn i hi]

theorem ofNat_bits_hi' (n : Nat) (hn : n < 2^15) (i : Nat) (hi : 15 ≤ i) (h32 : i < 32) : (BitVec.ofNat 32 n)[i] = false := by
  have := ofNat_bits_hi n hn i hi
  rwa [BitVec.getLsbD_eq_getElem h32] at this

theorem READER_COUNT_SET_READERS (x : Word) (r : Nat) (hr : r < 2^15) : READER_COUNT (SET_READERS x (BitVec.ofNat 32 r)) = BitVec.ofNat 32 r := by
  apply BitVec.eq_of_getLsbD_eq
  intro i hi
  simp only [READER_COUNT, SET_READERS, readerCountMask, setReadersMask, BitVec.getLsbD_and, BitVec.getLsbD_or, BitVec.getLsbD_not,
    BitVec.getLsbD_ofNat (x := 0x00007FFF), maskR_bits i hi]
  by_cases h : i < 15
  · simp [h, hi]
  · simp [h, hi, ofNat_bits_hi' r hr i (by omega) hi]

theorem WRITER_COUNT_SET_READERS (x : Word) (r : Nat) (hr : r < 2^15) : WRITER_COUNT (SET_READERS x (BitVec.ofNat 32 r)) = WRITER_COUNT x := by
  apply BitVec.eq_of_getLsbD_eq
  intro i hi
  simp only [WRITER_COUNT, SET_READERS, writerCountMask, writerCountShift, setReadersMask,
    BitVec.getLsbD_ushiftRight, BitVec.getLsbD_and, BitVec.getLsbD_or, BitVec.getLsbD_not,
    BitVec.getLsbD_ofNat (x := 0x00007FFF), BitVec.getLsbD_ofNat (x := 0x3FFF8000)]
  by_cases h : 15 + i < 32
  · rw [maskR_bits _ h, maskW_bits _ h]
    have : ¬ (15 + i < 15) := by omega
    simp [h, this, ofNat_bits_hi' r hr (15+i) (by omega) h]
  · have : (BitVec.ofNat 32 r).getLsbD (15+i) = false := ofNat_bits_hi r hr _ (by omega)
    simp [h, this]

theorem WRITER_COUNT_SET_WRITERS (x : Word) (w : Nat) (hw : w < 2^15) : WRITER_COUNT (SET_WRITERS x (BitVec.ofNat 32 w)) = BitVec.ofNat 32 w := by
  apply BitVec.eq_of_getLsbD_eq
  intro i hi
  simp only [WRITER_COUNT, SET_WRITERS, writerCountMask, writerCountShift, setWritersMask, setWritersShift,
    BitVec.getLsbD_ushiftRight, BitVec.getLsbD_shiftLeft, BitVec.getLsbD_and, BitVec.getLsbD_or, BitVec.getLsbD_not,
    BitVec.getLsbD_ofNat (x := 0x3FFF8000)]
  by_cases h : 15 + i < 32
  · rw [maskW_bits _ h]
    by_cases h2 : i < 15
    · have e : 15 + i - 15 = i := by omega
      have : ¬ (15 + i < 15) := by omega
      have h30 : 15 + i < 30 := by omega
      simp [h, e, this, h30]
    · simp [h, ofNat_bits_hi w hw i (by omega)]
  · have : (BitVec.ofNat 32 w).getLsbD i = false := ofNat_bits_hi w hw _ (by omega)
    simp [h, this]

theorem READER_COUNT_SET_WRITERS (x : Word) (w : Word) : READER_COUNT (SET_WRITERS x w) = READER_COUNT x := by
  apply BitVec.eq_of_getLsbD_eq
  intro i hi
  simp only [READER_COUNT, SET_WRITERS, readerCountMask, setWritersMask, setWritersShift, BitVec.getLsbD_shiftLeft,
    BitVec.getLsbD_and, BitVec.getLsbD_or, BitVec.getLsbD_not,
    BitVec.getLsbD_ofNat (x := 0x00007FFF), BitVec.getLsbD_ofNat (x := 0x3FFF8000), maskR_bits i hi, maskW_bits i hi]
  by_cases h : i < 15
  · have : ¬ (15 ≤ i) := by omega
    simp [h, hi, this]
  · simp [h, hi]

/-! on `pack` again: COUNT reads the fields; when a packed word or a count is 0 or 1 -/

theorem READER_COUNT_pack (r w : Nat) (hr : r < 2^15) : READER_COUNT (pack r w) = BitVec.ofNat 32 r := by
  rw [← SET_READERS_pack 0 w r (by decide) hr]
  exact READER_COUNT_SET_READERS _ r hr

theorem WRITER_COUNT_pack (r w : Nat) (hr : r < 2^15) (hw : w < 2^15) : WRITER_COUNT (pack r w) = BitVec.ofNat 32 w := by
  rw [← SET_WRITERS_pack r 0 w hr (by decide) hw]
  exact WRITER_COUNT_SET_WRITERS _ w hw

theorem ofNat32_inj (a b : Nat) (ha : a < 2^32) (hb : b < 2^32) : BitVec.ofNat 32 a = BitVec.ofNat 32 b ↔ a = b := by
  constructor
  · intro h
    have := congrArg BitVec.toNat h
    simpa [BitVec.toNat_ofNat, Nat.mod_eq_of_lt ha, Nat.mod_eq_of_lt hb] using this
  · intro h; rw [h]

theorem pack_eq_zero (r w : Nat) (hr : r < 2^15) (hw : w < 2^15) : pack r w = 0 ↔ r = 0 ∧ w = 0 := by
  have : pack r w = BitVec.ofNat 32 0 ↔ r + w * 2^15 = 0 := ofNat32_inj _ _ (by omega) (by decide)
  constructor
  · intro h; have := this.mp h; omega
  · intro h; apply this.mpr; omega

theorem ofNat32_eq_zero (a : Nat) (ha : a < 2^15) : BitVec.ofNat 32 a = 0#32 ↔ a = 0 :=
  ofNat32_inj a 0 (by omega) (by decide)

theorem ofNat32_eq_one (a : Nat) (ha : a < 2^15) : BitVec.ofNat 32 a = 1#32 ↔ a = 1 :=
  ofNat32_inj a 1 (by omega) (by decide)

theorem ofNat32_sub_one (a : Nat) (h1 : 1 ≤ a) : BitVec.ofNat 32 a - 1#32 = BitVec.ofNat 32 (a - 1) :=
  BitVec.ofNat_sub_ofNat_of_le a 1 (by decide) h1

/-! `x.readers++`, `x.writers++`, `x.readers--`, `x.writers--` as the code writes them -/

theorem pack_incR (r w : Nat) (hr : r + 1 < 2^15) :
    SET_READERS (pack r w) (READER_COUNT (pack r w) + 1) = pack (r + 1) w := by
  rw [READER_COUNT_pack r w (by omega), show BitVec.ofNat 32 r + 1 = BitVec.ofNat 32 (r + 1) from BitVec.ofNat_add_ofNat r 1,
    SET_READERS_pack r w (r + 1) (by omega) hr]

theorem pack_incW (r w : Nat) (hr : r < 2^15) (hw : w + 1 < 2^15) :
    SET_WRITERS (pack r w) (WRITER_COUNT (pack r w) + 1) = pack r (w + 1) := by
  rw [WRITER_COUNT_pack r w hr (by omega), show BitVec.ofNat 32 w + 1 = BitVec.ofNat 32 (w + 1) from BitVec.ofNat_add_ofNat w 1,
    SET_WRITERS_pack r w (w + 1) hr (by omega) hw]

theorem pack_decR (r w : Nat) (h1 : 1 ≤ r) (hr : r < 2^15) :
    SET_READERS (pack r w) (READER_COUNT (pack r w) - 1) = pack (r - 1) w := by
  rw [READER_COUNT_pack r w hr, show BitVec.ofNat 32 r - 1 = BitVec.ofNat 32 (r - 1) from ofNat32_sub_one r h1,
    SET_READERS_pack r w (r - 1) hr (by omega)]

theorem pack_decW (r w : Nat) (h1 : 1 ≤ w) (hr : r < 2^15) (hw : w < 2^15) :
    SET_WRITERS (pack r w) (WRITER_COUNT (pack r w) - 1) = pack r (w - 1) := by
  rw [WRITER_COUNT_pack r w hr hw, show BitVec.ofNat 32 w - 1 = BitVec.ofNat 32 (w - 1) from ofNat32_sub_one w h1,
    SET_WRITERS_pack r w (w - 1) hr hw (by omega)]

end PV.RWLock
