import PV.Lemmas.RWLock.Count
/-! C02, the SAFETY half of the invariant, used for EVERY step.  `InvS`: per-thread consistency, the two counter
words = the numbers of (ghost) holders / of threads inside the wait blocks, writer exclusion.  First its
preservation by thread steps and spurious wake-ups (`Inv` builds on it), then by `failStep` and what the failure
branches do; the liveness clauses of `Inv` do not survive failing calls (a failed `p_mutex_unlock` wedges the
internal mutex, a failed signal loses a wake-up). -/
namespace PV.RWLock

/-- evaluates the counting predicates on threads whose `pc` and `held` are known -/
macro "thread_share" loc:(Lean.Parser.Tactic.location)? : tactic =>
  `(tactic| simp only [heldR, heldW, inWait, isAtWait, isBlockedOn, isWoken, isAtSignal, isAtBcast, owns, PC.ownsMutex,
      beq_iff_eq, reduceCtorEq, Bool.false_eq_true, ↓reduceIte, Nat.add_zero] $[$loc]?)

/-- `r w wr ww` are the numbers of read / write holders and of threads inside the read / write wait block
    of `l`, and writers exclude -/
def Tally (l : List Thread) (r w wr ww : Nat) : Prop :=
  cnt heldR l = r ∧ cnt heldW l = w ∧ cnt (inWait .read) l = wr ∧ cnt (inWait .write) l = ww ∧
  w ≤ 1 ∧ (1 ≤ w → r = 0)

/-- the step on the counts, seen from the thread that makes it.  (`lia` and not `omega` here and in `PcClauses.local`:
    on these goals, a dozen hypotheses with `→` and `∨`, it costs a tenth.) -/
theorem Tally.local {th : Thread} {rest : List Thread} {r w wr ww : Nat} {o : OutN} (htok : TOKS th = true)
    (ht : Tally (th :: rest) r w wr ww) (h : localStepN r w wr ww th = some o) :
    TOK o.th = true ∧ owns o.th = o.owns ∧ (∀ cv, isBlockedOn cv o.th = true → o.wake = .none) ∧
      Tally (o.th :: rest) o.r o.w o.wr o.ww := by
  obtain ⟨pc, prog, held, last⟩ := th
  simp only [Tally, cnt, List.countP_cons] at ht ⊢
  cases pc with
  | lock op =>
    -- first step of a call: `TOKS` says what the caller holds, the guard of the C function decides the branch
    cases op <;>
      simp [TOKS, TOK, Op.isAcq] at htok <;>
      obtain ⟨rfl, hd⟩ := htok <;>
      thread_share at ht <;>
      simp only [localStepN] at h
    case runlock =>
      -- the caller is counted as a reader, so the branch for a reader count of 0 is dead
      rw [if_neg (by lia)] at h
      split at h <;>
        obtain rfl := Option.some.inj h <;>
        exact ⟨by simp [TOK, Op.isAcq, hd], rfl, fun _ _ => rfl, by thread_share; lia⟩
    -- the other five ops: one leaf per branch of the C function
    all_goals
      repeat' split at h
      all_goals
        obtain rfl := Option.some.inj h
        exact ⟨by simp [TOK, waitOK, Op.isAcq, Op.heldBy, Op.isTry, hd], rfl, fun _ _ => rfl, by thread_share; lia⟩
  | atWait op cv =>
    -- `p_cond_variable_wait`: blocked, still inside the same wait block
    obtain rfl := Option.some.inj h
    exact ⟨by simpa [TOKS, TOK] using htok, rfl, fun _ _ => rfl, by thread_share at ht ⊢; exact ht⟩
  | blocked op cv => cases h
  | woken op cv =>
    -- back from the wait (`rlock` on `read_cv`, `wlock` on `write_cv` only): wait again, or leave the block and hold
    cases op <;>
      cases cv <;>
      simp [TOKS, TOK, waitOK] at htok <;>
      obtain ⟨rfl, hd⟩ := htok <;>
      thread_share at ht <;>
      simp only [localStepN] at h <;>
      split at h <;>
      obtain rfl := Option.some.inj h <;>
      exact ⟨by simp [TOK, waitOK, Op.isAcq, Op.heldBy, hd], rfl, fun _ _ => rfl, by thread_share; lia⟩
  | atSignal op cv =>
    -- the signal call of an unlock: nothing counted changes
    obtain rfl := Option.some.inj h
    simp [TOKS, TOK] at htok
    obtain ⟨⟨⟨-, hop⟩, rfl⟩, hd⟩ := htok
    exact ⟨by rcases hop with rfl | rfl <;> simp [TOK, Op.isAcq, hd], rfl, by simp [isBlockedOn],
      by thread_share at ht ⊢; exact ht⟩
  | atBcast op cv =>
    -- the broadcast call of `wunlock`: the same
    obtain rfl := Option.some.inj h
    simp [TOKS, TOK] at htok
    obtain ⟨⟨⟨-, rfl⟩, rfl⟩, hd⟩ := htok
    exact ⟨by simp [TOK, Op.isAcq, hd], rfl, by simp [isBlockedOn], by thread_share at ht ⊢; exact ht⟩
  | atUnlock op ret =>
    -- return: at the entry of the next call or done, holding what it held, in no wait block
    obtain rfl := Option.some.inj h
    rcases finish_pc { pc := .atUnlock op ret, prog := prog, held := held, last := last } op ret with hp | ⟨o, hp⟩ <;>
      simp only [heldR, heldW, inWait, isBlockedOn, owns, PC.ownsMutex, finish_held, hp] at ht ⊢ <;>
      exact ⟨TOKS_finish _ _ _ _ _ htok, trivial, by simp, ht⟩
  | done => cases h

theorem Tally.perm {l l' : List Thread} {r w wr ww : Nat} (p : l.Perm l') : Tally l r w wr ww ↔ Tally l' r w wr ww := by
  simp only [Tally, cnt, p.countP_eq]

theorem Tally.set_local {l : List Thread} {t : Nat} {th : Thread} {r w wr ww : Nat} {o : OutN} (htok : TOKS th = true)
    (hth : l[t]? = some th) (ht : Tally l r w wr ww) (h : localStepN r w wr ww th = some o) :
    TOK o.th = true ∧ owns o.th = o.owns ∧ (∀ cv, isBlockedOn cv o.th = true → o.wake = .none) ∧
      Tally (l.set t o.th) o.r o.w o.wr o.ww :=
  let ⟨h1, h2, h3, h4⟩ := Tally.local htok ((Tally.perm (perm_cons_eraseIdx hth)).1 ht) h
  ⟨h1, h2, h3, (Tally.perm (perm_set_eraseIdx hth)).2 h4⟩

structure InvS (l : List Thread) (a w : Word) : Prop where
  tok : ∀ th ∈ l, TOKS th = true
  len : l.length < 2^15
  act : a = pack (cnt heldR l) (cnt heldW l)
  wai : w = pack (cnt (inWait .read) l) (cnt (inWait .write) l)
  /-- at most one writer holds, and then no reader holds -/
  safe : cnt heldW l ≤ 1 ∧ (1 ≤ cnt heldW l → cnt heldR l = 0)

theorem InvS.tally {l : List Thread} {a w : Word} (h : InvS l a w) :
    Tally l (cnt heldR l) (cnt heldW l) (cnt (inWait .read) l) (cnt (inWait .write) l) :=
  ⟨rfl, rfl, rfl, rfl, h.safe⟩

theorem InvS.of_tally {l : List Thread} {r w wr ww : Nat} (tok : ∀ th ∈ l, TOKS th = true) (len : l.length < 2^15)
    (ht : Tally l r w wr ww) : InvS l (pack r w) (pack wr ww) := by
  obtain ⟨rfl, rfl, rfl, rfl, hs⟩ := ht
  exact ⟨tok, len, rfl, rfl, hs⟩

theorem InvS.fields {l : List Thread} {a w : Word} (h : InvS l a w) :
    READER_COUNT a = BitVec.ofNat 32 (cnt heldR l) ∧ WRITER_COUNT a = BitVec.ofNat 32 (cnt heldW l) ∧
    READER_COUNT w = BitVec.ofNat 32 (cnt (inWait .read) l) ∧ WRITER_COUNT w = BitVec.ofNat 32 (cnt (inWait .write) l) := by
  have b : ∀ p : Thread → Bool, l.countP p < 2^15 := fun p => Nat.lt_of_le_of_lt List.countP_le_length h.len
  rw [h.act, h.wai]
  exact ⟨READER_COUNT_pack _ _ (b _), WRITER_COUNT_pack _ _ (b _) (b _), READER_COUNT_pack _ _ (b _),
    WRITER_COUNT_pack _ _ (b _) (b _)⟩

theorem InvS.perm {l l' : List Thread} {a w : Word} (p : l.Perm l') (h : InvS l a w) : InvS l' a w := by
  obtain ⟨tok, len, act, wai, safe⟩ := h
  simp only [cnt, p.countP_eq] at act wai safe
  exact ⟨fun th hm => tok th (p.mem_iff.mpr hm), p.length_eq ▸ len, act, wai, safe⟩

theorem InvS.refines {l : List Thread} {t : Nat} {th : Thread} {a w : Word} (h : InvS l a w) (hth : l[t]? = some th) :
    localStep Cfg.reference a w th = (localStepN (cnt heldR l) (cnt heldW l) (cnt (inWait .read) l)
      (cnt (inWait .write) l) th).map OutN.toOut := by
  rw [h.act, h.wai]
  exact localStep_refines _ h.len _ _ _ _ th (h.tok th (List.mem_of_getElem? hth)) (fits_of_get hth) (fits_of_get hth)
    (fits_of_get hth) (fits_of_get hth)

theorem InvS.set_local {l : List Thread} {t : Nat} {th : Thread} {a w : Word} {o : Out} (h : InvS l a w)
    (hth : l[t]? = some th) (hl : localStep Cfg.reference a w th = some o) :
    TOK o.th = true ∧ owns o.th = o.owns ∧ (∀ cv, isBlockedOn cv o.th = true → o.wake = .none) ∧
      InvS (l.set t o.th) o.active o.waiting := by
  rw [h.refines hth] at hl
  obtain ⟨oN, hN, rfl⟩ := Option.map_eq_some_iff.mp hl
  obtain ⟨h1, h2, h3, h4⟩ := Tally.set_local (h.tok th (List.mem_of_getElem? hth)) hth h.tally hN
  exact ⟨h1, h2, h3, InvS.of_tally (forall_mem_set h.tok (TOK_imp_TOKS h1)) (by simpa using h.len) h4⟩

/-- frame: the new entry holds the same and is inside the same wait block (or none) -/
theorem InvS.set_same {l : List Thread} {t : Nat} {th th' : Thread} {a w : Word} (h : InvS l a w) (hth : l[t]? = some th)
    (htok : TOKS th' = true) (hh : th'.held = th.held) (hw : ∀ cv, inWait cv th' = inWait cv th) :
    InvS (l.set t th') a w := by
  have eR : cnt heldR (l.set t th') = cnt heldR l := cnt_set_same hth (by simp only [heldR, hh])
  have eW : cnt heldW (l.set t th') = cnt heldW l := cnt_set_same hth (by simp only [heldW, hh])
  have ew := fun cv => cnt_set_same (p := inWait cv) hth (hw cv)
  obtain ⟨tok, len, act, wai, safe⟩ := h
  exact ⟨forall_mem_set tok htok, by simpa using len, by rw [eR, eW]; exact act, by rw [ew, ew]; exact wai,
    by rw [eR, eW]; exact safe⟩

theorem InvS.wake {l : List Thread} {u : Nat} {x : Thread} {cv : Cv} {a w : Word} (h : InvS l a w)
    (hu : l[u]? = some x) (hb : isBlockedOn cv x = true) : InvS (l.set u (wakeThread x)) a w := by
  obtain ⟨op, hx, hw⟩ := wake_blocked hb
  refine h.set_same hu ?_ (by rw [hw]) (fun c => by rw [hw, hx]; rfl)
  have := h.tok x (List.mem_of_getElem? hu)
  rw [hx] at this
  rw [hw]; exact this

theorem invS_step {s s' : State} {t : Tid} {pick : Option Tid} (hinv : InvS s.threads s.active s.waiting)
    (h : stepThread Cfg.reference s t pick = some s') : InvS s'.threads s'.active s'.waiting := by
  obtain ⟨th, o, ths, hth, -, hl, hw, rfl⟩ := stepThread_eq h
  exact applyWake_ind (P := fun l => InvS l o.active o.waiting) (fun _ _ _ _ hi => hi.wake) hw (hinv.set_local hth hl).2.2.2

theorem invS_spur {s s' : State} {t : Tid} (hinv : InvS s.threads s.active s.waiting) (h : spurious s t = some s') :
    InvS s'.threads s'.active s'.waiting := by
  obtain ⟨th, cv, hth, hb, rfl⟩ := spurious_eq h
  exact hinv.wake hth hb

/-- a failed `p_cond_variable_wait`: the thread leaves the wait block of `cv`, its count is taken back -/
theorem InvS.fail_wait {op : Op} {cv : Cv} {prog : List Op} {last} {rest : List Thread} {a w : Word}
    (h : InvS ({ pc := .atWait op cv, prog := prog, held := .none, last := last } :: rest) a w)
    (hd : Disc (op :: prog) = true) (ha : op.isAcq = true) :
    InvS ({ pc := .atUnlock op false, prog := prog, held := .none, last := last } :: rest) a
      (match cv with
       | .read => SET_READERS w (READER_COUNT w - 1)
       | .write => SET_WRITERS w (WRITER_COUNT w - 1)) := by
  have tok' : ∀ th ∈ ({ pc := .atUnlock op false, prog := prog, held := .none, last := last } : Thread) :: rest, TOKS th = true :=
    List.forall_mem_cons.mpr ⟨by simp [TOKS, ha, hd], (List.forall_mem_cons.mp h.tok).2⟩
  obtain ⟨-, len, rfl, rfl, safe⟩ := h
  have len' : rest.length + 1 < 2^15 := len
  have b := fun p : Thread → Bool => (List.countP_le_length : rest.countP p ≤ rest.length)
  simp only [cnt, List.countP_cons] at safe ⊢
  cases cv <;> thread_share at safe ⊢
  · rw [pack_decR _ _ (by lia) (by have := b (inWait .read); lia)]
    exact InvS.of_tally tok' len (by simp only [Tally, cnt, List.countP_cons]; thread_share; lia)
  · rw [pack_decW _ _ (by lia) (by have := b (inWait .read); lia) (by have := b (inWait .write); lia)]
    exact InvS.of_tally tok' len (by simp only [Tally, cnt, List.countP_cons]; thread_share; lia)

theorem invS_fail {s s' : State} {t : Tid} {zero : Bool} (hinv : InvS s.threads s.active s.waiting)
    (h : failStep s t zero = some s') : InvS s'.threads s'.active s'.waiting := by
  unfold failStep at h
  cases hth : s.threads[t]? with
  | none => simp [hth] at h
  | some th =>
    have htok := hinv.tok th (List.mem_of_getElem? hth)
    obtain ⟨pc, prog, held, last⟩ := th
    cases pc with
    | lock op =>
      obtain rfl := Option.some.inj (by simpa only [hth] using h)
      by_cases ha : op.isAcq = true
      · -- `p_mutex_lock` of an acquire call failed: FALSE, nothing touched, next round
        simp only [ha, if_true]
        have hf := finish_pc { pc := .lock op, prog := prog, held := held, last := last } op false
        refine hinv.set_same hth ?_ (finish_held ..) fun cv => ?_
        · obtain ⟨rfl, hd⟩ : held = .none ∧ Disc (op :: prog) = true := by simpa [TOKS, TOK, ha] using htok
          exact TOK_imp_TOKS (TOKS_finish prog .none last op false (by simp [TOKS, ha, hd]))
        · rcases hf with hf | ⟨o, hf⟩ <;> simp [inWait, hf]
      · -- `p_mutex_lock` of an unlock call failed: FALSE, the thread still holds and stops
        simp only [ha, Bool.false_eq_true, if_false]
        exact hinv.set_same hth rfl rfl fun _ => rfl
    | atWait op cv =>
      -- the wait failed: out of the wait block, `active_threads` untouched
      obtain ⟨⟨hwait, rfl⟩, hd⟩ : (waitOK op cv = true ∧ held = .none) ∧ Disc (op :: prog) = true := by
        simpa [TOKS, TOK] using htok
      have hh := (hinv.perm (perm_cons_eraseIdx hth)).fail_wait hd (by cases op <;> cases cv <;> simp_all [waitOK, Op.isAcq])
      cases op <;> cases cv <;> simp [waitOK] at hwait <;> obtain rfl := Option.some.inj (by simpa only [hth] using h) <;>
        exact hh.perm (perm_set_eraseIdx hth).symm
    | atSignal op cv =>
      -- signal failed: `active_threads` is already decremented, the call goes on to return FALSE
      obtain rfl := Option.some.inj (by simpa only [hth] using h)
      refine hinv.set_same hth ?_ rfl fun _ => rfl
      simp [TOKS, TOK] at htok
      obtain ⟨⟨⟨-, rfl | rfl⟩, rfl⟩, hd⟩ := htok <;> simp [TOKS, Op.isAcq, hd]
    | atBcast op cv =>
      obtain rfl := Option.some.inj (by simpa only [hth] using h)
      refine hinv.set_same hth ?_ rfl fun _ => rfl
      simp [TOKS, TOK] at htok
      obtain ⟨⟨⟨-, rfl⟩, rfl⟩, hd⟩ := htok
      simp [TOKS, Op.isAcq, hd]
    | atUnlock op ret =>
      -- the final `p_mutex_unlock` failed: the thread stops, holding what it held
      obtain rfl := Option.some.inj (by simpa only [hth] using h)
      exact hinv.set_same hth rfl rfl fun _ => rfl
    | _ => simp [hth] at h

theorem tally_init (progs : List (List Op)) : Tally (progs.map Thread.start) 0 0 0 0 := by
  induction progs with
  | nil => simp [Tally]
  | cons p ps ih =>
    cases p <;> simp only [List.map_cons, Thread.start, Tally, cnt, List.countP_cons] at ih ⊢ <;> thread_share <;> exact ih

theorem invS_init (progs : List (List Op)) (hd : ∀ p ∈ progs, Disc p = true) (hn : progs.length < 2^15) :
    InvS (init progs).threads (init progs).active (init progs).waiting := by
  refine InvS.of_tally (fun th hth => ?_) (by simpa [init] using hn) (tally_init progs)
  obtain ⟨p, hp, rfl⟩ := List.mem_map.mp hth
  exact TOK_imp_TOKS (TOK_start p (hd p hp))

theorem reachF_invS {s : State} (h : ReachF Cfg.reference s) : InvS s.threads s.active s.waiting := by
  induction h with
  | init progs hd hn => exact invS_init progs hd hn
  | step _ hs ih => exact invS_step ih hs
  | spur _ hs ih => exact invS_spur ih hs
  | fail _ hs ih => exact invS_fail ih hs

theorem toks_holder {th : Thread} (h : TOKS th = true) :
    (th.pc = .lock .runlock → th.held = .r) ∧ (th.pc = .lock .wunlock → th.held = .w) ∧
    (∀ op ret, op.isAcq = true → th.pc = .atUnlock op ret → th.held = if ret then op.heldBy else .none) ∧
    (∀ op, op.isAcq = true → th.pc = .lock op → th.held = .none) ∧
    (∀ op cv, th.pc = .atWait op cv ∨ th.pc = .blocked op cv ∨ th.pc = .woken op cv → th.held = .none) := by
  refine ⟨?_, ?_, ?_, ?_, ?_⟩
  · intro hpc; simp [TOKS, TOK, hpc, Op.isAcq] at h; exact h.1
  · intro hpc; simp [TOKS, TOK, hpc, Op.isAcq] at h; exact h.1
  · intro op ret ha hpc; simp [TOKS, hpc, ha] at h; exact h.2
  · intro op ha hpc; simp [TOKS, TOK, hpc, ha] at h; exact h.1
  · intro op cv hpc
    rcases hpc with hpc | hpc | hpc <;> (simp [TOKS, TOK, hpc] at h; exact h.1.2)

/-- a failed `p_mutex_lock` in an acquire call: the call returns FALSE and NOTHING else changes —
    counters, internal mutex, every other thread, the numbers of holders; the caller holds nothing -/
theorem fail_lock_acquire {s s' : State} {t : Tid} {zero : Bool} {th : Thread} {op : Op} (hh : th.held = .none)
    (hth : s.threads[t]? = some th) (hpc : th.pc = .lock op) (ha : op.isAcq = true)
    (h : failStep s t zero = some s') :
    s'.active = s.active ∧ s'.waiting = s.waiting ∧ s'.mutex = s.mutex ∧
    cnt heldR s'.threads = cnt heldR s.threads ∧ cnt heldW s'.threads = cnt heldW s.threads ∧
    (∀ u, u ≠ t → s'.threads[u]? = s.threads[u]?) ∧
    ∃ th', s'.threads[t]? = some th' ∧ th'.last = some (op, false) ∧ th'.held = .none ∧
      (th'.pc = .done ∨ ∃ o, th'.pc = .lock o) := by
  unfold failStep at h
  simp only [hth, hpc, ha, if_true] at h
  obtain rfl := Option.some.inj h
  have hfh : (finish th op false).held = th.held := finish_held th op false
  refine ⟨rfl, rfl, rfl, ?_, ?_, ?_, _, getElem?_set_self' hth, finish_last _ _ _, by rw [hfh, hh], finish_pc _ _ _⟩
  · exact cnt_set_same hth (by simp [heldR, hfh])
  · exact cnt_set_same hth (by simp [heldW, hfh])
  · intro u hu; simp [List.getElem?_set_ne (Ne.symm hu)]

/-- a failed `p_cond_variable_wait` in `p_rwlock_reader_lock` / `p_rwlock_writer_lock`: `active_threads`
    and the numbers of holders do not change, the caller holds nothing and is at its final
    `p_mutex_unlock` with the return value FALSE decided -/
theorem fail_wait {s s' : State} {t : Tid} {zero : Bool} {th : Thread} {op : Op} {cv : Cv} (hh : th.held = .none)
    (hth : s.threads[t]? = some th) (hpc : th.pc = .atWait op cv)
    (h : failStep s t zero = some s') :
    s'.active = s.active ∧ s'.mutex = s.mutex ∧
    cnt heldR s'.threads = cnt heldR s.threads ∧ cnt heldW s'.threads = cnt heldW s.threads ∧
    ∃ th', s'.threads[t]? = some th' ∧ th'.pc = .atUnlock op false ∧ th'.held = .none := by
  unfold failStep at h
  simp only [hth, hpc] at h
  cases op <;> simp at h
  all_goals
    subst h
    refine ⟨rfl, rfl, cnt_set_same hth (by simp [heldR]), cnt_set_same hth (by simp [heldW]), _, getElem?_set_self' hth, rfl, hh⟩

/-- the final step of a call that is going to return FALSE and holds nothing (an acquire: trylock not
    grantable, or a failed wait): always enabled, counters untouched, mutex released, the caller holds nothing -/
theorem return_false_step {s : State} {t : Tid} {th : Thread} {op : Op} (hh : th.held = .none)
    (hth : s.threads[t]? = some th) (hpc : th.pc = .atUnlock op false) :
    ∃ s', stepThread Cfg.reference s t none = some s' ∧ s'.active = s.active ∧ s'.waiting = s.waiting ∧ s'.mutex = none ∧
      cnt heldR s'.threads = cnt heldR s.threads ∧ cnt heldW s'.threads = cnt heldW s.threads ∧
      ∃ th', s'.threads[t]? = some th' ∧ th'.last = some (op, false) ∧ th'.held = .none := by
  have hfh : (finish th op false).held = th.held := finish_held th op false
  refine ⟨{ mutex := none, active := s.active, waiting := s.waiting, threads := s.threads.set t (finish th op false) },
    ?_, rfl, rfl, rfl, ?_, ?_, _, getElem?_set_self' hth, finish_last _ _ _, by rw [hfh, hh]⟩
  · unfold stepThread
    simp [hth, hpc, PC.needsMutex, localStep, applyWake]
  · exact cnt_set_same hth (by simp [heldR, hfh])
  · exact cnt_set_same hth (by simp [heldW, hfh])

end PV.RWLock
