import PV.Lemmas.RWLock.Inv
/-! C02, progress (no deadlock) and the termination measure. -/
namespace PV.RWLock

theorem applyWake_default (l : List Thread) (wk : Wake) : ∃ l', applyWake l wk none = some l' := by
  cases wk with
  | none => exact ⟨_, rfl⟩
  | broadcast cv => exact ⟨_, rfl⟩
  | signal cv =>
    simp only [applyWake, signalCv]
    split
    · split <;> exact ⟨_, rfl⟩
    · exact ⟨_, rfl⟩

/-- a thread whose counter-level step is defined, and that does not need a mutex owned by somebody,
    can make a step (with the default signal choice) -/
theorem stepThread_some {s : State} {t : Tid} {th : Thread} (hinv : Inv s) (hth : s.threads[t]? = some th)
    (hmx : th.pc.needsMutex = true → s.mutex = none)
    (hl : (localStepN (cnt heldR s.threads) (cnt heldW s.threads) (cnt (inWait .read) s.threads) (cnt (inWait .write) s.threads) th).isSome) :
    ∃ s', stepThread Cfg.reference s t none = some s' := by
  obtain ⟨o, ho⟩ := Option.isSome_iff_exists.mp hl
  obtain ⟨ths, hths⟩ := applyWake_default (s.threads.set t o.toOut.th) o.toOut.wake
  have h1 : (th.pc.needsMutex && s.mutex.isSome) = false := by
    cases hn : th.pc.needsMutex
    · rfl
    · simp [hmx hn]
  exact ⟨_, by simp only [stepThread, hth, h1, hinv.toS.refines hth, ho, Option.map_some, hths]; rfl⟩

theorem no_deadlock_inv {s : State} (hinv : Inv s) (hnd : allDone s = false) :
    ∃ t s', stepThread Cfg.reference s t none = some s' := by
  cases hmu : s.mutex with
  | some u =>
    obtain ⟨th, hth, how⟩ := hinv.mtx u hmu
    have hn : th.pc.needsMutex = false := by
      unfold owns PC.ownsMutex at how; cases hpc : th.pc <;> simp [hpc, PC.needsMutex] at how ⊢
    obtain ⟨s', hs'⟩ := stepThread_some hinv hth (by simp [hn]) (by
      unfold owns PC.ownsMutex at how; cases hpc : th.pc <;> simp [hpc] at how <;> simp [localStepN, hpc])
    exact ⟨u, s', hs'⟩
  | none =>
    by_cases hex : ∃ (t : Nat) (th : Thread), s.threads[t]? = some th ∧ th.pc.needsMutex = true
    · obtain ⟨t, th, hth, hn⟩ := hex
      have htok := hinv.tok th (List.mem_of_getElem? hth)
      obtain ⟨s', hs'⟩ := stepThread_some hinv hth (fun _ => hmu) (by
        cases hpc : th.pc with
        | lock op => cases op <;> simp [localStepN, hpc] <;> split <;> simp
        | woken op cv =>
          cases op <;> cases cv <;> simp [TOK, hpc, waitOK] at htok <;> simp [localStepN, hpc] <;> split <;> simp
        | _ => simp [hpc, PC.needsMutex] at hn)
      exact ⟨t, s', hs'⟩
    · exfalso
      -- nobody owns the mutex, nobody is about to take it: every thread is done or blocked, and holds nothing
      have mcnt0 : cnt owns s.threads = 0 := by rw [hinv.mcnt, hmu]; rfl
      have hall : ∀ th ∈ s.threads, th.held = .none ∧ (th.pc = .done ∨ ∃ op cv, th.pc = .blocked op cv) := by
        intro th hm
        obtain ⟨t, ht⟩ := List.mem_iff_getElem?.mp hm
        have h1 : th.pc.needsMutex = false := Bool.eq_false_iff.mpr fun hh => hex ⟨t, th, ht, hh⟩
        have h2 : owns th = false := by simpa using List.countP_eq_zero.mp mcnt0 th hm
        have htok := hinv.tok th hm
        unfold owns PC.ownsMutex at h2
        cases hpc : th.pc <;> simp [hpc, PC.needsMutex, TOK] at h1 h2 htok ⊢
        · exact htok.1.2
        · exact htok.1
      have z : ∀ q : Thread → Bool,
          (∀ th, th.held = .none → (th.pc = .done ∨ ∃ op cv, th.pc = .blocked op cv) → q th = false) → cnt q s.threads = 0 :=
        fun q hq => List.countP_eq_zero.mpr fun th hm => by simp [hq th (hall th hm).1 (hall th hm).2]
      have zR := z heldR fun th h _ => by simp [heldR, h]
      have zW := z heldW fun th h _ => by simp [heldW, h]
      have zk := z (isWoken .write) (by rintro th - (h | ⟨op, cv, h⟩) <;> simp [isWoken, h])
      have zs := z (isAtSignal .write) (by rintro th - (h | ⟨op, cv, h⟩) <;> simp [isAtSignal, h])
      have zc := z (isAtBcast .read) (by rintro th - (h | ⟨op, cv, h⟩) <;> simp [isAtBcast, h])
      have eww : cnt (inWait .write) s.threads = cnt (isBlockedOn .write) s.threads :=
        List.countP_congr fun th hm => by rcases (hall th hm).2 with h | ⟨op, cv, h⟩ <;> simp [inWait, isBlockedOn, h]
      -- the wake-up clauses of the invariant leave no blocked thread either
      have zbw : cnt (isBlockedOn .write) s.threads = 0 := by have := hinv.lw; lia
      have zbr : cnt (isBlockedOn .read) s.threads = 0 := by have := hinv.lr; lia
      have : allDone s = true := List.all_eq_true.mpr fun th hm => by
        have hb1 := List.countP_eq_zero.mp zbw th hm
        have hb2 := List.countP_eq_zero.mp zbr th hm
        rcases (hall th hm).2 with h | ⟨op, cv, h⟩
        · simp [h]
        · cases cv <;> simp [isBlockedOn, h] at hb1 hb2
      simp [this] at hnd

theorem finish_major_le (th : Thread) (op : Op) (ret : Bool) : (finish th op ret).major ≤ 2 * th.prog.length := by
  unfold finish
  cases h1 : (op.isAcq && !ret) <;> simp only [Bool.false_eq_true, if_false, if_true]
  · cases hp : th.prog with
    | nil => simp [Thread.major, PC.major]
    | cons o rest => simp [Thread.major, PC.major]; omega
  · cases hp : th.prog with
    | nil => simp [Thread.major, PC.major]
    | cons o rest =>
      by_cases ho : o = op.rel
      · simp only [ho, if_true]
        cases rest <;> simp [Thread.major, PC.major]; omega
      · simp only [ho, if_false]
        simp [Thread.major, PC.major]; omega

theorem major_lock (o : Op) : (PC.lock o).major = 2 := rfl
theorem minor_lock (o : Op) : (PC.lock o).minor = 4 := rfl

theorem wakePc_measure (op : Op) (wk : Wake) :
    (wakePc op wk).major < 2 ∨ ((wakePc op wk).major = 2 ∧ (wakePc op wk).minor < 4) := by
  cases wk <;> simp [wakePc, PC.major, PC.minor]

theorem local_measure (c : Cfg) (a w : Word) (th : Thread) (o : Out) (h : localStep c a w th = some o) :
    o.th.major < th.major ∨ (o.wake = .none ∧ o.th.major = th.major ∧ o.th.minor < th.minor) := by
  unfold localStep at h
  cases hpc : th.pc with
  | lock op =>
    -- an unlock goes from `.lock` to a pc below it in the measure, and makes no wake-up call yet
    have hq : ∀ (q : PC) (x y : Word), (q.major < 2 ∨ (q.major = 2 ∧ q.minor < 4)) →
        let o : Out := { owns := true, active := x, waiting := y, th := { th with pc := q, held := .none } }
        o.th.major < th.major ∨ (o.wake = .none ∧ o.th.major = th.major ∧ o.th.minor < th.minor) := by
      intro q x y hm
      simp only [Thread.major, Thread.minor, hpc, major_lock, minor_lock]
      rcases hm with hm | ⟨hm1, hm2⟩
      · left; omega
      · right; exact ⟨trivial, by omega, by omega⟩
    cases op <;> simp only [hpc] at h
    case runlock =>
      split at h
      · obtain rfl := Option.some.inj h
        simp [Thread.major, PC.major, hpc]
      · obtain rfl := Option.some.inj h
        refine hq _ _ _ ?_
        split
        · exact wakePc_measure _ _
        · simp [PC.major]
    case wunlock =>
      obtain rfl := Option.some.inj h
      refine hq _ _ _ ?_
      split
      · exact wakePc_measure _ _
      · split
        · exact wakePc_measure _ _
        · simp [PC.major]
    all_goals (
      repeat' (split at h)
      all_goals (obtain rfl := Option.some.inj h)
      all_goals simp [Thread.major, Thread.minor, PC.major, PC.minor, grantR, grantW, hpc])
  | atWait op cv | atSignal op cv | atBcast op cv =>
    simp only [hpc] at h
    obtain rfl := Option.some.inj h
    simp [Thread.major, Thread.minor, PC.major, PC.minor, hpc]
  | blocked op cv => simp [hpc] at h
  | woken op cv =>
    cases op <;> simp only [hpc] at h
    case rlock | wlock =>
      repeat' (split at h)
      all_goals (obtain rfl := Option.some.inj h)
      all_goals simp [Thread.major, Thread.minor, PC.major, PC.minor, grantR, grantW, hpc]
    all_goals simp at h
  | atUnlock op ret =>
    simp only [hpc] at h
    obtain rfl := Option.some.inj h
    left
    have := finish_major_le th op ret
    simp only [Thread.major, hpc, PC.major] at this ⊢
    omega
  | done => simp [hpc] at h


theorem sum_map_set_add (f : Thread → Nat) (l : List Thread) (i : Nat) (a x : Thread) (h : l[i]? = some x) :
    ((l.set i a).map f).sum + f x = (l.map f).sum + f a := by
  rw [((perm_set_eraseIdx h).map f).sum_nat, ((perm_cons_eraseIdx h).map f).sum_nat]
  simp only [List.map_cons, List.sum_cons]
  omega

theorem major_wake (th : Thread) : (wakeThread th).major = th.major := by
  unfold wakeThread Thread.major
  cases hpc : th.pc <;> simp [PC.major, hpc]

theorem applyWake_major {l l' : List Thread} {wk : Wake} {pick : Option Tid} (h : applyWake l wk pick = some l') :
    (l'.map Thread.major).sum = (l.map Thread.major).sum :=
  applyWake_ind (P := fun l1 => (l1.map Thread.major).sum = (l.map Thread.major).sum)
    (fun l1 u x _ h1 hu _ => by
      have := sum_map_set_add Thread.major l1 u (wakeThread x) x hu
      rw [major_wake] at this; omega) h rfl

theorem step_measure {c : Cfg} {s s' : State} {t : Tid} {pick : Option Tid} (h : stepThread c s t pick = some s') :
    Prod.Lex (· < ·) (· < ·) (measure s') (measure s) := by
  obtain ⟨th, o, ths, hth, -, hl, hw, rfl⟩ := stepThread_eq h
  have hmaj := applyWake_major hw
  have e1 := sum_map_set_add Thread.major s.threads t o.th th hth
  rcases local_measure c _ _ th o hl with hlt | ⟨hwk, heq, hlt⟩
  · exact .left _ _ (by simp only [major]; omega)
  · rw [hwk] at hw
    obtain rfl := Option.some.inj hw
    have e2 := sum_map_set_add Thread.minor s.threads t o.th th hth
    simp only [measure, major, minor]
    rw [show (List.map Thread.major (s.threads.set t o.th)).sum = (List.map Thread.major s.threads).sum by omega]
    exact .right _ (by omega)

/-- `s'` is a non-spurious successor of `s` -/
def NSStep (c : Cfg) (s' s : State) : Prop := ∃ t pick, stepThread c s t pick = some s'

theorem nsstep_wf (c : Cfg) : WellFounded (NSStep c) := by
  have hwf : WellFounded (Prod.Lex (fun a b : Nat => a < b) (fun a b : Nat => a < b)) :=
    (Prod.lex Nat.lt_wfRel Nat.lt_wfRel).wf
  apply Subrelation.wf (r := InvImage (Prod.Lex (fun a b : Nat => a < b) (fun a b : Nat => a < b)) measure) _ (InvImage.wf measure hwf)
  exact fun ⟨t, pick, h⟩ => step_measure h

theorem no_infinite_descent {α : Type} {r : α → α → Prop} (hwf : WellFounded r) :
    ∀ (g : Nat → α), ¬ (∀ i, r (g (i+1)) (g i)) := by
  intro g
  have : ∀ x, ∀ g : Nat → α, g 0 = x → ¬ (∀ i, r (g (i+1)) (g i)) := by
    intro x
    induction x using hwf.induction with
    | _ x ih =>
      intro g hg hdesc
      exact ih (g 1) (hg ▸ hdesc 0) (fun i => g (i+1)) rfl (fun i => hdesc (i+1))
  exact this (g 0) g rfl

end PV.RWLock
