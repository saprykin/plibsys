import PV.Lemmas.RWLock.Step
/-! C02, counting threads.  The invariants read the thread list only through counts, membership and length,
so the thread that steps is brought to the front (`perm_cons_eraseIdx`, `perm_set_eraseIdx`): its own share of
every count is evaluated, the other threads are the same unknown numbers before and after.  A wake-up call is
a sequence of wake-ups of single blocked threads (`applyWake_ind`). -/
namespace PV.RWLock

abbrev cnt (p : Thread → Bool) (l : List Thread) : Nat := l.countP p

theorem perm_cons_eraseIdx {α} : ∀ {l : List α} {i : Nat} {x : α}, l[i]? = some x → l.Perm (x :: l.eraseIdx i)
  | y :: l, 0, x, h => by
    obtain rfl : y = x := by simpa using h
    exact .refl _
  | y :: l, i+1, x, h => ((perm_cons_eraseIdx (l := l) (by simpa using h)).cons y).trans (.swap x y _)

theorem perm_set_eraseIdx {α} {l : List α} {i : Nat} {x a : α} (h : l[i]? = some x) :
    (l.set i a).Perm (a :: l.eraseIdx i) := by
  have hi : i < l.length := (List.getElem?_eq_some_iff.mp h).1
  simpa [List.eraseIdx_set_eq] using perm_cons_eraseIdx (l := l.set i a) (i := i) (x := a) (by simp [hi])

theorem getElem?_set_self' {α} {l : List α} {t : Nat} {x a : α} (h : l[t]? = some x) : (l.set t a)[t]? = some a := by
  have : t < l.length := (List.getElem?_eq_some_iff.mp h).1
  simp [this]

theorem forall_mem_set {α} {P : α → Prop} {l : List α} {i : Nat} {a : α}
    (h : ∀ x ∈ l, P x) (ha : P a) : ∀ x ∈ l.set i a, P x := by
  intro x hx
  rcases List.mem_or_eq_of_mem_set hx with h1 | h1
  · exact h x h1
  · exact h1 ▸ ha

theorem cnt_set_same {p : Thread → Bool} {l : List Thread} {t : Nat} {th a : Thread} (hth : l[t]? = some th)
    (hp : p a = p th) : cnt p (l.set t a) = cnt p l := by
  rw [cnt, cnt, (perm_set_eraseIdx hth).countP_eq, (perm_cons_eraseIdx hth).countP_eq, List.countP_cons, List.countP_cons, hp]

theorem fits_of_get {p : Thread → Bool} {l : List Thread} {t : Nat} {th : Thread} (h : l[t]? = some th) :
    Fits l.length (l.countP p) (p th) := by
  have hp := perm_cons_eraseIdx h
  have hle : (l.eraseIdx t).countP p ≤ (l.eraseIdx t).length := List.countP_le_length
  rw [hp.countP_eq, hp.length_eq, List.countP_cons, List.length_cons]
  constructor
  · intro e; simp [e]
  · cases p th <;> simp <;> omega

/-- the count of a pc class is at most the count of a class that contains it (`PcClauses.local` feeds these
    to the arithmetic) -/
theorem cnt_pc_class_le (l : List Thread) :
    cnt (isAtWait .read) l ≤ cnt owns l ∧ cnt (isAtWait .write) l ≤ cnt owns l ∧
    cnt (isAtSignal .write) l ≤ cnt owns l ∧ cnt (isAtBcast .read) l ≤ cnt owns l ∧
    cnt (isAtWait .read) l ≤ cnt (inWait .read) l ∧ cnt (isAtWait .write) l ≤ cnt (inWait .write) l ∧
    cnt (isBlockedOn .read) l ≤ cnt (inWait .read) l ∧ cnt (isBlockedOn .write) l ≤ cnt (inWait .write) l ∧
    cnt (isWoken .write) l ≤ cnt (inWait .write) l := by
  refine ⟨?_, ?_, ?_, ?_, ?_, ?_, ?_, ?_, ?_⟩ <;> refine List.countP_mono_left fun th _ => ?_ <;>
    simp only [isAtWait, isAtSignal, isAtBcast, owns, PC.ownsMutex, inWait, isBlockedOn, isWoken] <;>
    cases th.pc <;> simp

theorem wake_blocked {cv : Cv} {x : Thread} (hb : isBlockedOn cv x = true) :
    ∃ op, x = { x with pc := .blocked op cv } ∧ wakeThread x = { x with pc := .woken op cv } := by
  obtain ⟨pc, prog, held, last⟩ := x
  cases pc <;> simp [isBlockedOn] at hb
  subst hb
  exact ⟨_, rfl, rfl⟩

theorem spurious_eq {s s' : State} {t : Tid} (h : spurious s t = some s') :
    ∃ th cv, s.threads[t]? = some th ∧ isBlockedOn cv th = true ∧ s' = { s with threads := s.threads.set t (wakeThread th) } := by
  unfold spurious at h
  cases hth : s.threads[t]? with
  | none => simp [hth] at h
  | some th =>
    obtain ⟨pc, prog, held, last⟩ := th
    cases pc <;> simp [hth] at h
    rename_i op cv
    exact ⟨_, cv, rfl, by simp [isBlockedOn], h.symm⟩

theorem signalCv_spec {l l' : List Thread} {cv : Cv} {pick : Option Tid} (h : signalCv l cv pick = some l') :
    (l' = l ∧ cnt (isBlockedOn cv) l = 0) ∨
    (∃ u thu, l[u]? = some thu ∧ isBlockedOn cv thu = true ∧ l' = l.set u (wakeThread thu)) := by
  unfold signalCv at h
  cases pick with
  | some u =>
    simp only at h
    cases hu : l[u]? with
    | none => simp [hu] at h
    | some thu =>
      simp only [hu] at h
      by_cases hb : isBlockedOn cv thu = true
      · simp [hb] at h
        exact Or.inr ⟨u, thu, hu, hb, h.symm⟩
      · simp [hb] at h
  | none =>
    simp only at h
    cases hf : l.findIdx? (isBlockedOn cv) with
    | none =>
      simp only [hf] at h
      left
      refine ⟨by simpa using h.symm, ?_⟩
      rw [cnt, List.countP_eq_zero]
      intro a ha
      have := List.findIdx?_eq_none_iff.mp hf a ha
      simp [this]
    | some u =>
      simp only [hf] at h
      obtain ⟨hlt, hp, _⟩ := List.findIdx?_eq_some_iff_getElem.mp hf
      have hu : l[u]? = some l[u] := by simp [hlt]
      simp only [hu] at h
      exact Or.inr ⟨u, l[u], hu, hp, by simpa using h.symm⟩

/-- `broadcast` wakes the blocked threads one after the other (`pre`: those already dealt with) -/
theorem broadcastCv_ind {P : List Thread → Prop} {cv : Cv}
    (hP : ∀ l u x, P l → l[u]? = some x → isBlockedOn cv x = true → P (l.set u (wakeThread x))) :
    ∀ (pre l : List Thread), P (pre ++ l) → P (pre ++ broadcastCv l cv)
  | pre, [], h => h
  | pre, x :: l, h => by
    have h1 : P (pre ++ (if isBlockedOn cv x then wakeThread x else x) :: l) := by
      split
      · simpa using hP _ pre.length x h (by simp) ‹_›
      · exact h
    simpa [broadcastCv] using broadcastCv_ind hP (pre ++ [if isBlockedOn cv x then wakeThread x else x]) l (by simpa using h1)

theorem applyWake_ind {P : List Thread → Prop} {l l' : List Thread} {wk : Wake} {pick : Option Tid}
    (hP : ∀ l u x cv, P l → l[u]? = some x → isBlockedOn cv x = true → P (l.set u (wakeThread x)))
    (h : applyWake l wk pick = some l') (h0 : P l) : P l' := by
  cases wk with
  | none => exact Option.some.inj h ▸ h0
  | signal cv =>
    rcases signalCv_spec h with ⟨rfl, _⟩ | ⟨u, x, hu, hb, rfl⟩
    · exact h0
    · exact hP l u x cv h0 hu hb
  | broadcast cv => exact Option.some.inj h ▸ broadcastCv_ind (fun l u x => hP l u x cv) [] l h0

/-- the caller `t` has just been given its new entry `a` (not a blocked one): the wake-ups can be made
    first, `t` gets its entry afterwards -/
theorem applyWake_set {P : List Thread → Prop} {l l' : List Thread} {t : Nat} {a : Thread} {wk : Wake} {pick : Option Tid}
    (ha : ∀ cv, isBlockedOn cv a = true → wk = .none)
    (hP : ∀ l u x cv, P l → u ≠ t → l[u]? = some x → isBlockedOn cv x = true → P (l.set u (wakeThread x)))
    (h : applyWake (l.set t a) wk pick = some l') (h0 : P l) : ∃ l2, P l2 ∧ l' = l2.set t a := by
  by_cases hwk : wk = .none
  · subst hwk
    exact ⟨l, h0, (Option.some.inj h).symm⟩
  · refine applyWake_ind (P := fun l1 => ∃ l2, P l2 ∧ l1 = l2.set t a) ?_ h ⟨l, h0, rfl⟩
    rintro _ u x cv ⟨l2, h2, rfl⟩ hu hb
    have hut : t ≠ u := by
      rintro rfl
      have : t < l2.length := by simpa using (List.getElem?_eq_some_iff.mp hu).1
      obtain rfl : a = x := by simpa [this] using hu
      exact hwk (ha cv hb)
    rw [List.getElem?_set_ne hut] at hu
    exact ⟨_, hP l2 u x cv h2 (Ne.symm hut) hu hb, List.set_comm _ _ hut⟩

/-- the wake-up call `wk` has been delivered: after `signal` nobody is blocked on the condition variable or
    somebody has been woken, after `broadcast` nobody is blocked -/
def Served (wk : Wake) (l : List Thread) : Prop :=
  match wk with
  | .none => True
  | .signal cv => cnt (isBlockedOn cv) l = 0 ∨ 1 ≤ cnt (isWoken cv) l
  | .broadcast cv => cnt (isBlockedOn cv) l = 0

theorem applyWake_served {l l' : List Thread} {wk : Wake} {pick : Option Tid}
    (h : applyWake l wk pick = some l') : Served wk l' := by
  cases wk with
  | none => trivial
  | signal cv =>
    rcases signalCv_spec h with ⟨rfl, hz⟩ | ⟨u, x, hu, hb, rfl⟩
    · exact .inl hz
    · obtain ⟨op, -, hw⟩ := wake_blocked hb
      refine .inr (List.countP_pos_iff.mpr ⟨_, List.mem_of_getElem? (getElem?_set_self' hu), ?_⟩)
      simp [hw, isWoken]
  | broadcast cv =>
    obtain rfl := Option.some.inj h
    refine List.countP_eq_zero.mpr fun y hy => ?_
    obtain ⟨x, -, rfl⟩ := List.mem_map.mp hy
    split
    · rename_i hb
      obtain ⟨op, -, hw⟩ := wake_blocked hb
      simp [hw, isBlockedOn]
    · assumption

end PV.RWLock
