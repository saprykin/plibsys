import PV.Lemmas.RWLock.Pack
import PV.Spec.RWLock
/-! C02, per-thread consistency (`TOK`, `TOKS`) and the thread-local step of the reference configuration on natural-number
counters (`localStepN`) and its refinement by the bit-packed `localStep Cfg.reference`. -/
namespace PV.RWLock

def waitOK (op : Op) (cv : Cv) : Bool := (op == .rlock && cv == .read) || (op == .wlock && cv == .write)

/-- consistency of a thread's pc, ghost `held` and remaining program (disciplined programs) -/
def TOK (th : Thread) : Bool :=
  match th.pc with
  | .lock op =>
    if op.isAcq then th.held == .none && Disc (op :: th.prog)
    else ((op == .runlock && th.held == .r) || (op == .wunlock && th.held == .w)) && Disc th.prog
  | .atWait op cv | .blocked op cv | .woken op cv => waitOK op cv && th.held == .none && Disc (op :: th.prog)
  | .atSignal op cv => cv == .write && (op == .runlock || op == .wunlock) && th.held == .none && Disc th.prog
  | .atBcast op cv => cv == .read && op == .wunlock && th.held == .none && Disc th.prog
  | .atUnlock op ret =>
    if op.isAcq then Disc (op :: th.prog) && th.held == (if ret then op.heldBy else .none) && (ret || op.isTry)
    else th.held == .none && Disc th.prog
  | .done => th.held == .none && th.prog == []

/-- per-thread consistency without the parts that failing primitive calls break: a thread may have
    stopped (`done`) still holding, and a blocking acquire may be about to return FALSE -/
def TOKS (th : Thread) : Bool :=
  match th.pc with
  | .done => true
  | .atUnlock op ret =>
    if op.isAcq then Disc (op :: th.prog) && th.held == (if ret then op.heldBy else .none)
    else th.held == .none && Disc th.prog
  | _ => TOK th

theorem TOK_imp_TOKS {th : Thread} (h : TOK th = true) : TOKS th = true := by
  unfold TOKS
  cases hpc : th.pc with
  | done => rfl
  | atUnlock op ret =>
    unfold TOK at h; rw [hpc] at h
    by_cases ha : op.isAcq = true
    · simp only [ha, if_true, Bool.and_eq_true] at h ⊢; exact h.1
    · simp only [ha] at h ⊢; exact h
  | _ => exact h

theorem finish_held (th : Thread) (op : Op) (ret : Bool) : (finish th op ret).held = th.held := by
  unfold finish; simp only; split <;> rfl

theorem finish_last (th : Thread) (op : Op) (ret : Bool) : (finish th op ret).last = some (op, ret) := by
  unfold finish; simp only; split <;> rfl

theorem finish_pc (th : Thread) (op : Op) (ret : Bool) :
    (finish th op ret).pc = .done ∨ ∃ o, (finish th op ret).pc = .lock o := by
  unfold finish; simp only; split
  · left; rfl
  · right; exact ⟨_, rfl⟩

theorem Disc_tail2 {a b : Op} {rest : List Op} (h : Disc (a :: b :: rest) = true) : a.isAcq = true ∧ b = a.rel ∧ Disc rest = true := by
  simpa [Disc, and_assoc] using h

theorem TOK_start_of_Disc (p : List Op) (hd : Disc p = true) (last) :
    TOK (match p with
      | [] => { pc := .done, prog := [], held := .none, last := last }
      | o :: rest => { pc := .lock o, prog := rest, held := .none, last := last }) = true := by
  cases p with
  | nil => simp [TOK]
  | cons o rest =>
    cases rest with
    | nil => simp [Disc] at hd
    | cons b rest =>
      obtain ⟨h1, h2, h3⟩ := Disc_tail2 hd
      simp [TOK, h1, Disc, h2, h3]

theorem TOK_start (p : List Op) (hd : Disc p = true) : TOK (Thread.start p) = true :=
  TOK_start_of_Disc p hd none

/-- `finish` restores the full per-thread consistency (the thread is at the entry of its next call) -/
theorem TOKS_finish (prog : List Op) (held : Held) (last) (op : Op) (ret : Bool)
    (h : TOKS { pc := .atUnlock op ret, prog := prog, held := held, last := last } = true) :
    TOK (finish { pc := .atUnlock op ret, prog := prog, held := held, last := last } op ret) = true := by
  by_cases ha : op.isAcq = true
  · simp only [TOKS, ha, if_true, Bool.and_eq_true] at h
    obtain ⟨hd, hh⟩ := h
    cases prog with
    | nil => simp [Disc] at hd
    | cons b rest =>
      obtain ⟨_, h2, h3⟩ := Disc_tail2 hd
      subst h2
      have hh' : held = (if ret = true then op.heldBy else Held.none) := by simpa using hh
      cases ret with
      | true =>
        simp only [finish, ha, Bool.not_true, Bool.and_false]
        cases op <;> simp_all [TOK, Op.isAcq, Op.rel, Op.heldBy]
      | false =>
        simp only [finish, ha, Bool.not_false, Bool.and_true, if_true]
        simp at hh'
        subst hh'
        exact TOK_start_of_Disc rest h3 _
  · have ha' : op.isAcq = false := by simpa using ha
    simp only [TOKS, ha'] at h
    simp at h
    obtain ⟨hh, hd⟩ := h
    subst hh
    simp only [finish, ha', Bool.false_and]
    exact TOK_start_of_Disc prog hd _

structure OutN where
  owns : Bool
  r : Nat
  w : Nat
  wr : Nat
  ww : Nat
  th : Thread
  wake : Wake := .none

def OutN.toOut (o : OutN) : Out :=
  { owns := o.owns, active := pack o.r o.w, waiting := pack o.wr o.ww, th := o.th, wake := o.wake }

/-- `localStep Cfg.reference` with `active = pack r w`, `waiting = pack wr ww` -/
def localStepN (r w wr ww : Nat) (th : Thread) : Option OutN :=
  match th.pc with
  | .lock .rlock =>
    if w ≠ 0 then some { owns := true, r, w, wr := wr + 1, ww, th := { th with pc := .atWait .rlock .read } }
    else some { owns := true, r := r + 1, w, wr, ww, th := { th with pc := .atUnlock .rlock true, held := .r } }
  | .lock .wlock =>
    if ¬ (r = 0 ∧ w = 0) then some { owns := true, r, w, wr, ww := ww + 1, th := { th with pc := .atWait .wlock .write } }
    else some { owns := true, r, w := 1, wr, ww, th := { th with pc := .atUnlock .wlock true, held := .w } }
  | .lock .rtry =>
    if w ≠ 0 then some { owns := true, r, w, wr, ww, th := { th with pc := .atUnlock .rtry false } }
    else some { owns := true, r := r + 1, w, wr, ww, th := { th with pc := .atUnlock .rtry true, held := .r } }
  | .lock .wtry =>
    if ¬ (r = 0 ∧ w = 0) then some { owns := true, r, w, wr, ww, th := { th with pc := .atUnlock .wtry false } }
    else some { owns := true, r, w := 1, wr, ww, th := { th with pc := .atUnlock .wtry true, held := .w } }
  | .lock .runlock =>
    if r = 0 then some { owns := true, r, w, wr, ww, th := { th with pc := .atUnlock .runlock true } }
    else some { owns := true, r := r - 1, w, wr, ww,
                th := { th with pc := if r = 1 ∧ ww ≠ 0 then .atSignal .runlock .write else .atUnlock .runlock true, held := .none } }
  | .lock .wunlock =>
    some { owns := true, r, w := 0, wr, ww,
           th := { th with pc := if ww ≠ 0 then .atSignal .wunlock .write
                                 else if wr ≠ 0 then .atBcast .wunlock .read else .atUnlock .wunlock true,
                           held := .none } }
  | .atWait op cv => some { owns := false, r, w, wr, ww, th := { th with pc := .blocked op cv } }
  | .blocked _ _ => none
  | .woken .rlock cv =>
    if w ≠ 0 then some { owns := true, r, w, wr, ww, th := { th with pc := .atWait .rlock cv } }
    else some { owns := true, r := r + 1, w, wr := wr - 1, ww, th := { th with pc := .atUnlock .rlock true, held := .r } }
  | .woken .wlock cv =>
    if ¬ (r = 0 ∧ w = 0) then some { owns := true, r, w, wr, ww, th := { th with pc := .atWait .wlock cv } }
    else some { owns := true, r, w := 1, wr, ww := ww - 1, th := { th with pc := .atUnlock .wlock true, held := .w } }
  | .woken _ _ => none
  | .atSignal op cv => some { owns := true, r, w, wr, ww, th := { th with pc := .atUnlock op true }, wake := .signal cv }
  | .atBcast op cv => some { owns := true, r, w, wr, ww, th := { th with pc := .atUnlock op true }, wake := .broadcast cv }
  | .atUnlock op ret => some { owns := false, r, w, wr, ww, th := finish th op ret }
  | .done => none

/-- a count `c` of a predicate over `N` threads, seen from a thread on which the predicate is `b` -/
structure Fits (N c : Nat) (b : Bool) : Prop where
  pos : b = true → 1 ≤ c
  room : c + (if b then 0 else 1) ≤ N

theorem Test_writerField_pack (r w : Nat) (hr : r < 2^15) (hw : w < 2^15) :
    Test.eval .writerField (pack r w) = decide (w ≠ 0) := by
  simp only [Test.eval, WRITER_COUNT_pack r w hr hw]
  by_cases h : w = 0
  · subst h; rfl
  · have : BitVec.ofNat 32 w ≠ 0 := fun e => h ((ofNat32_eq_zero w hw).mp e)
    simp [h]; exact this

theorem Test_wholeWord_pack (r w : Nat) (hr : r < 2^15) (hw : w < 2^15) :
    Test.eval .wholeWord (pack r w) = decide (¬ (r = 0 ∧ w = 0)) := by
  simp only [Test.eval]
  by_cases h : r = 0 ∧ w = 0
  · obtain ⟨h1, h2⟩ := h; subst h1; subst h2; rfl
  · have : pack r w ≠ 0 := fun e => h ((pack_eq_zero r w hr hw).mp e)
    simp [h]; exact this

/-- closes the word-level goals: the macros on `pack` under the bounds in context -/
macro "pk" : tactic => `(tactic| simp (disch := omega) [grantR, grantW, OutN.toOut, ↓pack_incR, ↓pack_incW, ↓pack_decR,
  ↓pack_decW, READER_COUNT_pack, WRITER_COUNT_pack, ofNat32_sub_one, SET_READERS_pack, SET_WRITERS_pack, ofNat32_eq_zero,
  ofNat32_eq_one, wakePc, *])

/-- Why the packed step is the counting step: the C code writes `SET_x (word, x_COUNT (word) ± 1)`, which on
    `pack r w` is `pack (r ± 1) w` (`pack_incR` … `pack_decW`) as long as the new count is below 2^15 and a
    decremented one was ≥ 1; the tests `word != 0`, `WRITER_COUNT (word) != 0` are `¬(r = 0 ∧ w = 0)`, `w ≠ 0`
    (`Test_*_pack`).  The bounds come from `Fits`: a thread that increments a count is not counted in it, so
    `count + 1 ≤ N < 2^15` (`room`); one that decrements is counted, so `1 ≤ count` (`pos`). -/
theorem localStep_refines (N : Nat) (hN : N < 2^15) (r w wr ww : Nat) (th : Thread)
    (htok : TOKS th = true)
    (h1 : Fits N r (heldR th)) (h2 : Fits N w (heldW th))
    (h3 : Fits N wr (inWait .read th)) (h4 : Fits N ww (inWait .write th)) :
    localStep Cfg.reference (pack r w) (pack wr ww) th = (localStepN r w wr ww th).map OutN.toOut := by
  obtain ⟨pc, prog, held, last⟩ := th
  have hr : r < 2^15 := by have := h1.room; split at this <;> omega
  have hw : w < 2^15 := by have := h2.room; split at this <;> omega
  have hwr : wr < 2^15 := by have := h3.room; split at this <;> omega
  have hww : ww < 2^15 := by have := h4.room; split at this <;> omega
  have q1 := h1.room; have q2 := h2.room; have q3 := h3.room; have q4 := h4.room
  have p1 := h1.pos; have p2 := h2.pos; have p3 := h3.pos; have p4 := h4.pos
  cases pc with
  | lock op =>
    -- `TOKS` gives `held`, which turns the `Fits` facts into plain bounds; then both sides are unfolded
    cases op <;>
      simp [TOKS, TOK, Op.isAcq] at htok <;>
      obtain ⟨rfl, -⟩ := htok <;>
      simp [heldR, heldW, inWait] at q1 q2 q3 q4 p1 p2 <;>
      simp only [localStep, localStepN, Cfg.reference, Test_writerField_pack r w hr hw, Test_wholeWord_pack r w hr hw,
        decide_eq_true_eq, ne_eq]
    case runlock =>
      -- the caller is counted as a reader: the C branch for a reader count of 0 is not taken
      have hr0 : r ≠ 0 := by omega
      pk
    case wunlock => pk
    -- the four acquire ops: the guard holds (wait, or FALSE from a trylock) or not (grant)
    all_goals
      split <;> pk
  | woken op cv =>
    -- back from the wait: the loop test again; a grant also takes the thread out of `waiting_threads`
    cases op <;>
      cases cv <;>
      simp [TOKS, TOK, waitOK] at htok <;>
      obtain ⟨rfl, -⟩ := htok <;>
      simp [heldR, heldW, inWait] at q1 q2 q3 q4 p3 p4 <;>
      simp only [localStep, localStepN, Cfg.reference, Test_writerField_pack r w hr hw, Test_wholeWord_pack r w hr hw,
        decide_eq_true_eq, ne_eq, true_and] <;>
      split <;>
      pk
  | atWait op cv | atSignal op cv | atBcast op cv | atUnlock op ret => simp [localStep, localStepN, OutN.toOut]
  | blocked op cv | done => simp [localStep, localStepN]

theorem stepThread_eq {c : Cfg} {s s' : State} {t : Tid} {pick : Option Tid} (h : stepThread c s t pick = some s') :
    ∃ th o ths, s.threads[t]? = some th ∧ (th.pc.needsMutex = true → s.mutex = none) ∧
      localStep c s.active s.waiting th = some o ∧ applyWake (s.threads.set t o.th) o.wake pick = some ths ∧
      s' = { mutex := if o.owns then some t else none, active := o.active, waiting := o.waiting, threads := ths } := by
  unfold stepThread at h
  cases hth : s.threads[t]? with
  | none => simp [hth] at h
  | some th =>
    cases hl : localStep c s.active s.waiting th with
    | none => simp [hth, hl] at h
    | some o =>
      cases hw : applyWake (s.threads.set t o.th) o.wake pick with
      | none => simp [hth, hl, hw] at h
      | some ths =>
        simp only [hth, hl, hw] at h
        split at h
        · cases h
        · rename_i hmx
          refine ⟨th, o, ths, rfl, fun hn => ?_, hl, hw, (Option.some.inj h).symm⟩
          simpa [hn] using hmx

end PV.RWLock
