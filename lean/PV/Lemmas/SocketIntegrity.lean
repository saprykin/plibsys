import PV.Lemmas.SocketCalls
/-!
# C09 — end-to-end integrity: what the API reports is what the kernel did

`stream_integrity_run` (TCP: byte pipe) and `datagram_exact_call` (UDP: bag of datagrams).  The kernel is
represented by its contract for ONE native call (`pipeSendOk` / `pipeRecvOk` of `PV.Model.Socket`,
`bagRecvOk` below); the theorems lift it through the retry loops of `psocket.c`.
-/
namespace PV.Socket
open PV.Generated.Socket

/-- the kernel state (`α`: a byte pipe, a bag of datagrams) threaded through all native calls of a trace;
    `step` is the kernel's contract for ONE native call -/
def threadTrace {α : Type} (step : α → Ev → α → Prop) : α → List Ev → α → Prop
  | a, [], a' => a' = a
  | a, ev :: tr, a' => ∃ q, step a ev q ∧ threadTrace step q tr a'

theorem threadTrace_append {α : Type} (step : α → Ev → α → Prop) (a a' : α) (t1 t2 : List Ev) :
    threadTrace step a (t1 ++ t2) a' ↔ ∃ q, threadTrace step a t1 q ∧ threadTrace step q t2 a' := by
  induction t1 generalizing a with
  | nil => simp [threadTrace]
  | cons ev t1 ih =>
    simp only [List.cons_append, threadTrace, ih]
    constructor
    · rintro ⟨q, h1, q', h2, h3⟩; exact ⟨q', ⟨q, h1, h2⟩, h3⟩
    · rintro ⟨q', ⟨q, h1, h2⟩, h3⟩; exact ⟨q, h1, q', h2, h3⟩

theorem threadTrace_single {α : Type} (step : α → Ev → α → Prop) (a a' : α) (ev : Ev) :
    threadTrace step a [ev] a' ↔ step a ev a' := by
  simp only [threadTrace]
  constructor
  · rintro ⟨q, h1, h2⟩; rw [h2]; exact h1
  · intro h; exact ⟨a', h, rfl⟩

/-- an event that cannot change the kernel state -/
def Neutral {α : Type} (step : α → Ev → α → Prop) (ev : Ev) : Prop := ∀ a a', step a ev a' → a' = a

theorem threadTrace_neutral {α : Type} (step : α → Ev → α → Prop) (tr : List Ev)
    (hn : ∀ ev ∈ tr, Neutral step ev) (a a' : α) (h : threadTrace step a tr a') : a' = a := by
  induction tr generalizing a with
  | nil => exact h
  | cons ev tr ih =>
    obtain ⟨q, h1, h2⟩ := h
    have := hn ev (by simp) a q h1
    subst this
    exact ih (fun ev hev => hn ev (by simp [hev])) _ h2

/-- a contract that does not react to the `poll`s of loop `c` nor to failed native calls -/
structure QuietStep {α : Type} (step : α → Ev → α → Prop) (c : LoopCfg) : Prop where
  poll : ∀ res, Neutral step ⟨c.poll, res⟩
  failed : ∀ ev, ev.res.failed = true → Neutral step ev

/-- in a loop trace whose data calls all failed, nothing changes the kernel state -/
theorem neutral_of_failed {α : Type} (step : α → Ev → α → Prop) (c : LoopCfg) (hq : QuietStep step c) (tr : List Ev)
    (h : ∀ ev ∈ tr, ev.call = c.poll ∨ (ev.call = c.call ∧ ev.res.failed = true)) : ∀ ev ∈ tr, Neutral step ev := by
  intro ev hev
  rcases h ev hev with h | h
  · have : ev = ⟨c.poll, ev.res⟩ := by cases ev; simp_all
    rw [this]; exact hq.poll _
  · exact hq.failed ev h.2

/-- a loop that ended `done res`, under the kernel contract: the kernel state is untouched up to the last
    event, which is the one data call that succeeded -/
theorem thread_done {α : Type} (step : α → Ev → α → Prop) (c : LoopCfg) (hq : QuietStep step c)
    (ph : Phase) (script : Script) (e : Int)
    (res : Res) (hf : (ioLoop c ph script e).fin = .done res) (a a' : α)
    (hk : threadTrace step a (ioLoop c ph script e).evs a') :
    res.failed = false ∧ step a ⟨c.call, res⟩ a' := by
  obtain ⟨pre, cl, r, h1, h2, _, h4⟩ := ioLoop_ended c ph script e (fun w hw => by rw [hf] at hw; cases hw)
  rw [hf] at h4
  obtain ⟨rfl, rfl, h3, _⟩ := h4
  refine ⟨h3, ?_⟩
  rw [h1] at hk
  obtain ⟨q, hq1, hq2⟩ := (threadTrace_append _ _ _ _ _).1 hk
  have hqa : q = a := threadTrace_neutral step pre (neutral_of_failed step c hq pre h2) a q hq1
  subst hqa
  exact (threadTrace_single _ _ _ _).1 hq2

/-- a loop that ended `fail`, under the kernel contract: the kernel state is untouched -/
theorem thread_fail {α : Type} (step : α → Ev → α → Prop) (c : LoopCfg) (hq : QuietStep step c)
    (ph : Phase) (script : Script) (e : Int)
    (pe : PErr) (hf : (ioLoop c ph script e).fin = .fail pe) (a a' : α)
    (hk : threadTrace step a (ioLoop c ph script e).evs a') : a' = a :=
  threadTrace_neutral step _ (neutral_of_failed step c hq _ (ioLoop_failed c ph script e pe hf)) a a' hk

theorem toSocklen_toNat (n : Nat) (h : n < 2 ^ 32) : (toSocklen n).toNat = n := by
  rw [toSocklen_eq n h]; rfl

/-- kernel contract for one event of a trace, on one direction of a TCP connection: `send` appends the
    bytes it accepted, `recv` pops the bytes it delivered, every other native call leaves the pipe alone -/
def pipeEvOk (p : Pipe) (ev : Ev) (p' : Pipe) : Prop :=
  match ev.call with
  | .send _ _ _ _ data => pipeSendOk p data ev.res p'
  | .recv _ _ len _ => pipeRecvOk p len.toNat ev.res p'
  | _ => p' = p

/-- the pipe threaded through all native calls of a trace -/
def pipeTrace : Pipe → List Ev → Pipe → Prop := threadTrace pipeEvOk

theorem pipeEvOk_failed (ev : Ev) (hf : ev.res.failed = true) : Neutral pipeEvOk ev := by
  intro p p' h
  unfold pipeEvOk at h
  cases hr : ev.res.ret with
  | ok v => simp [Res.failed, hr] at hf
  | err x =>
    cases hc : ev.call <;> simp only [hc] at h
    case send => simpa [pipeSendOk, hr] using h
    case recv => simpa [pipeRecvOk, hr] using h
    all_goals exact h

theorem pipe_quiet (c : LoopCfg) (s : Sock) (cond : Int) (hp : c.poll = pollCall s cond) : QuietStep pipeEvOk c :=
  ⟨fun res p p' h => by rw [hp] at h; exact h, pipeEvOk_failed⟩


/-- **per-call lemma, send**: `p_socket_send` of the whole buffer `b`.  If it reports `k`, exactly `b.take k`
    (1 ≤ k ≤ |b|) was appended to the pipe, once; if it reports an error, nothing was. -/
theorem send_pipe (s : Sock) (hc : s.closed = false) (b : Bytes) (hn : b.length ≠ 0) (hlt : b.length < 2 ^ 32)
    (script : Script) (e : Int) (r : CallResult) (h : call s (.send (some b) b.length) script e = .ok r)
    (p p' : Pipe) (hk : pipeTrace p r.tr p') :
    match r.out.err with
    | none => ∃ k, r.out.ret = Int.ofNat k ∧ 1 ≤ k ∧ k ≤ b.length ∧ p' = p ++ b.take k
    | some _ => p' = p := by
  rw [send_eq s hc b b.length hn] at h
  have hq : QuietStep pipeEvOk (sendCfg s b b.length) := pipe_quiet _ s _ rfl
  cases herr : r.out.err with
  | none =>
    obtain ⟨res, hf, hr⟩ := ofLoop_ok_noerr _ _ _ _ _ h herr
    subst hr
    obtain ⟨h3, hev⟩ := thread_done _ _ hq _ _ _ res hf p p' hk
    cases hret : res.ret with
    | err x => simp [Res.failed, hret] at h3
    | ok k =>
      have hdata : b.take (toSocklen b.length).toNat = b := by
        rw [toSocklen_toNat _ hlt]; exact List.take_length
      simp only [pipeEvOk, sendCfg, loopCfg, sendCall, pipeSendOk, hret, hdata] at hev
      exact ⟨k, by simp [retVal, hret], hev.1, hev.2.1, hev.2.2⟩
  | some pe =>
    obtain ⟨hf, hr⟩ := ofLoop_ok_err _ _ _ _ _ pe (by intro x; rfl) h herr
    subst hr
    exact thread_fail _ _ hq _ _ _ pe hf p p' hk

/-- **per-call lemma, receive**: if `p_socket_receive` reports `k`, the caller's buffer holds exactly the
    first `k` bytes of the pipe and exactly those were removed; if it reports an error, nothing was. -/
theorem receive_pipe (s : Sock) (hc : s.closed = false) (n : Nat) (hlt : n < 2 ^ 32)
    (script : Script) (e : Int) (r : CallResult) (h : call s (.receive false n) script e = .ok r)
    (p p' : Pipe) (hk : pipeTrace p r.tr p') :
    match r.out.err with
    | none => ∃ k, r.out.ret = Int.ofNat k ∧ k ≤ n ∧ k ≤ p.length ∧ r.out.data = p.take k ∧ p' = p.drop k
    | some _ => p' = p := by
  rw [receive_eq s hc] at h
  have hq : QuietStep pipeEvOk (recvCfg s n) := pipe_quiet _ s _ rfl
  cases herr : r.out.err with
  | none =>
    obtain ⟨res, hf, hr⟩ := ofLoop_ok_noerr _ _ _ _ _ h herr
    subst hr
    obtain ⟨h3, hev⟩ := thread_done _ _ hq _ _ _ res hf p p' hk
    cases hret : res.ret with
    | err x => simp [Res.failed, hret] at h3
    | ok k =>
      simp only [pipeEvOk, recvCfg, loopCfg, recvCall, pipeRecvOk, hret, toSocklen_toNat _ hlt] at hev
      obtain ⟨hkn, hkp, hd, hp'⟩ := hev
      refine ⟨k, by simp [retVal, hret], hkn, hkp, ?_, hp'⟩
      simp only [delivered, hret, toSocklen_toNat _ hlt, hd, List.take_take]
      congr 1
      omega
  | some pe =>
    obtain ⟨hf, hr⟩ := ofLoop_ok_err _ _ _ _ _ pe (by intro x; rfl) h herr
    subst hr
    exact thread_fail _ _ hq _ _ _ pe hf p p' hk

/-- what an observer of the two endpoints has seen so far, and the kernel's pipe between them -/
structure StreamState where
  /-- bytes the sender was told were sent (`buf.take k` of every `p_socket_send` that reported `k`) -/
  sent     : Bytes := []
  /-- bytes handed to the receiver (`out.data` of every successful `p_socket_receive`) -/
  received : Bytes := []
  /-- bytes in flight (kernel) -/
  pipe     : Pipe := []

/-- one API call of a run.  Socket object (mode, timeout, …), chunk / buffer size, fault script and
    `errno` at entry are arbitrary and may differ from step to step. -/
inductive IOStep
  | sendStep (s : Sock) (buf : Bytes) (script : Script) (e : Int)
  | recvStep (s : Sock) (buflen : Nat) (script : Script) (e : Int)

/-- one step of a run: the call returns (no `Stop`), and its script is one the kernel could have produced
    (`pipeTrace`); the observer records what the API *reported* -/
def stepOk (σ : StreamState) : IOStep → StreamState → Prop
  | .sendStep s buf script e, σ' =>
    s.closed = false ∧ buf.length ≠ 0 ∧ buf.length < 2 ^ 32 ∧
    ∃ r, call s (.send (some buf) buf.length) script e = .ok r ∧
      pipeTrace σ.pipe r.tr σ'.pipe ∧
      σ'.received = σ.received ∧
      σ'.sent = σ.sent ++ (match r.out.err with
                           | none => buf.take r.out.ret.toNat
                           | some _ => [])
  | .recvStep s buflen script e, σ' =>
    s.closed = false ∧ buflen < 2 ^ 32 ∧
    ∃ r, call s (.receive false buflen) script e = .ok r ∧
      pipeTrace σ.pipe r.tr σ'.pipe ∧
      σ'.sent = σ.sent ∧
      σ'.received = σ.received ++ (match r.out.err with
                                   | none => r.out.data
                                   | some _ => [])

/-- a run: a list of steps -/
def runOk : StreamState → List IOStep → StreamState → Prop
  | σ, [], σ' => σ' = σ
  | σ, st :: rest, σ' => ∃ σ1, stepOk σ st σ1 ∧ runOk σ1 rest σ'

/-- the invariant: what was received, followed by what is in flight, is what was sent -/
theorem stepOk_inv (σ σ' : StreamState) (st : IOStep) (h : stepOk σ st σ')
    (hinv : σ.received ++ σ.pipe = σ.sent) : σ'.received ++ σ'.pipe = σ'.sent := by
  cases st with
  | sendStep s buf script e =>
    obtain ⟨hc, hn, hlt, r, hcall, hk, hrecv, hsent⟩ := h
    have := send_pipe s hc buf hn hlt script e r hcall _ _ hk
    rw [hrecv, hsent]
    cases herr : r.out.err with
    | none =>
      simp only [herr] at this ⊢
      obtain ⟨k, hret, _, _, hp'⟩ := this
      rw [hp', hret, ← hinv]
      simp
    | some pe =>
      simp only [herr] at this ⊢
      rw [this, hinv]; simp
  | recvStep s n script e =>
    obtain ⟨hc, hlt, r, hcall, hk, hsent, hrecv⟩ := h
    have := receive_pipe s hc n hlt script e r hcall _ _ hk
    rw [hrecv, hsent]
    cases herr : r.out.err with
    | none =>
      simp only [herr] at this ⊢
      obtain ⟨k, _, _, _, hd, hp'⟩ := this
      rw [hp', hd, ← hinv, List.append_assoc, List.take_append_drop]
    | some pe =>
      simp only [herr] at this ⊢
      rw [this, ← hinv]; simp

theorem runOk_inv (steps : List IOStep) : ∀ (σ σ' : StreamState), runOk σ steps σ' →
    σ.received ++ σ.pipe = σ.sent → σ'.received ++ σ'.pipe = σ'.sent := by
  induction steps with
  | nil => intro σ σ' h hinv; cases h; exact hinv
  | cons st rest ih =>
    intro σ σ' h hinv
    obtain ⟨σ1, h1, h2⟩ := h
    exact ih σ1 σ' h2 (stepOk_inv σ σ1 st h1 hinv)

/-- **stream_integrity_run.**  Any interleaving of `p_socket_send` / `p_socket_receive` calls on the two ends of
    one direction of a TCP connection — any chunk sizes, any socket modes, any scripts of EINTR / would-block /
    short writes / short reads / hard errors the kernel may produce: the bytes handed to the receiver, followed
    by the bytes still in flight, are exactly the bytes the sender was told were sent.  No loss, duplication,
    reordering or corruption. -/
theorem stream_integrity_run (steps : List IOStep) (σ : StreamState) (h : runOk {} steps σ) :
    σ.received ++ σ.pipe = σ.sent :=
  runOk_inv steps {} σ h rfl

/-- …in particular the receiver has a prefix of what was sent, and everything once the pipe has drained -/
theorem stream_integrity_prefix (steps : List IOStep) (σ : StreamState) (h : runOk {} steps σ) :
    σ.received <+: σ.sent ∧ (σ.pipe = [] → σ.received = σ.sent) := by
  have := stream_integrity_run steps σ h
  exact ⟨⟨σ.pipe, this⟩, fun hp => by rw [hp, List.append_nil] at this; exact this⟩

/-! ### non-vacuity: a concrete run with an EINTR, a short write and an interrupted read -/

/-- blocking sender with a timeout -/
def demoTx : Sock := { family := AF_INET, protocol := 6, type := 1, fd := 5, listen_backlog := 5, timeout := 50, blocking := true }
/-- non-blocking receiver -/
def demoRx : Sock := { family := AF_INET, protocol := 6, type := 1, fd := 7, listen_backlog := 5 }

def demoTxScript : Script :=
  [{ sys := .poll, ret := .ok 1 }, { sys := .send, ret := .err EINTR },      -- interrupted
   { sys := .poll, ret := .ok 1 }, { sys := .send, ret := .ok 2 }]           -- short write: 2 of 3
def demoRxScript : Script :=
  [{ sys := .recv, ret := .err EINTR }, { sys := .recv, ret := .ok 2, data := [1, 2] }]

/-- what the two API calls report -/
example :
    (call demoTx (.send (some [1, 2, 3]) 3) demoTxScript 0).toOption.map (fun r => (r.out.ret, r.out.err, r.tr.length)) = some (2, none, 4) ∧
    (call demoRx (.receive false 8) demoRxScript 0).toOption.map (fun r => (r.out.ret, r.out.err, r.out.data, r.tr.length)) = some (2, none, [1, 2], 2) := by
  decide

/-- the hypotheses of `stream_integrity_run` are satisfiable: this is a run (send `[1,2,3]` → EINTR, then a short
    write of 2; receive into 8 bytes → EINTR, then 2 bytes), and its final state is sent = received = `[1,2]`,
    pipe empty -/
theorem demo_run :
    runOk {}
      [.sendStep demoTx [1, 2, 3] demoTxScript 0, .recvStep demoRx 8 demoRxScript 0]
      { sent := [1, 2], received := [1, 2], pipe := [] } := by
  refine ⟨{ sent := [1, 2], received := [], pipe := [1, 2] }, ⟨rfl, by decide, by decide, _, rfl, ?_, rfl, rfl⟩,
    { sent := [1, 2], received := [1, 2], pipe := [] }, ⟨rfl, by decide, _, rfl, ?_, rfl, rfl⟩, rfl⟩
  · -- poll, send → EINTR, poll, send → 2
    exact ⟨[], rfl, [], rfl, [], rfl, [1, 2], ⟨by decide, by decide, rfl⟩, rfl⟩
  · -- recv → EINTR, recv → 2 bytes
    exact ⟨[1, 2], rfl, [], ⟨by decide, by decide, rfl, rfl⟩, rfl⟩

/-- a UDP socket's receive queue: a bag of (datagram, sender's sockaddr) -/
abbrev Bag := List (Bytes × Bytes)

/-- kernel contract for one native `recvfrom (fd, buf, len, flags, &sa, &salen)` on a datagram socket: on
    success ONE queued datagram `d` is taken out of the bag (whichever), the buffer gets `d` cut to `len`
    (the rest of the datagram is discarded), the return value is the number of bytes stored, and `sa`/`salen`
    are the sender's address; a failed call leaves the bag alone -/
def bagRecvOk (bag : Bag) (len : Nat) (r : Res) (bag' : Bag) : Prop :=
  match r.ret with
  | .ok k => ∃ d sa l1 l2, bag = l1 ++ (d, sa) :: l2 ∧ bag' = l1 ++ l2 ∧
      k = min d.length len ∧ r.data = d.take len ∧ r.sa = sa
  | .err _ => bag' = bag

def bagEvOk (bag : Bag) (ev : Ev) (bag' : Bag) : Prop :=
  match ev.call with
  | .recvfrom _ _ len _ _ => bagRecvOk bag len.toNat ev.res bag'
  | _ => bag' = bag

/-- the bag threaded through all native calls of a trace -/
def bagTrace : Bag → List Ev → Bag → Prop := threadTrace bagEvOk

theorem bagEvOk_failed (ev : Ev) (hf : ev.res.failed = true) : Neutral bagEvOk ev := by
  intro p p' h
  unfold bagEvOk at h
  cases hr : ev.res.ret with
  | ok v => simp [Res.failed, hr] at hf
  | err x =>
    cases hc : ev.call <;> simp only [hc] at h
    case recvfrom => simpa [bagRecvOk, hr] using h
    all_goals exact h

theorem bag_quiet (c : LoopCfg) (s : Sock) (cond : Int) (hp : c.poll = pollCall s cond) : QuietStep bagEvOk c :=
  ⟨fun res p p' h => by rw [hp] at h; exact h, bagEvOk_failed⟩

theorem recvfromCfg_poll_ne (s : Sock) (n : Nat) : (recvfromCfg s n).poll ≠ (recvfromCfg s n).call := by
  simp [recvfromCfg, loopCfg, pollCall, recvfromCall]

theorem take_take_min (d : Bytes) (n : Nat) : (d.take n).take (min (min d.length n) n) = d.take n := by
  rw [List.take_take, List.take_eq_take_iff]
  omega

/-- **datagram_exact_call.**  A successful `p_socket_receive_from (socket, &address, buffer, buflen, …)` on a UDP
    socket whose receive queue is `bag`: exactly ONE queued datagram `(d, sa)` left the queue; the caller's
    buffer holds `d` cut to `buflen` and the return value is the number of bytes stored; the last two native
    calls are the successful `recvfrom` and `p_socket_address_new_from_native (&sa, salen)` with the kernel's
    sockaddr and the kernel's length, and that address object is what `*address` is set to (NULL only if the
    conversion itself returned NULL).  Every earlier `recvfrom` of the call had failed (so took nothing). -/
theorem datagram_exact_call (s : Sock) (hc : s.closed = false) (buflen : Nat) (h0 : 0 < buflen) (hlt : buflen < 2 ^ 32)
    (script : Script) (e : Int) (r : CallResult)
    (h : call s (.receiveFrom true false buflen) script e = .ok r) (hok : r.out.err = none)
    (bag bag' : Bag) (hsa : ∀ x ∈ bag, x.2.length ≤ 128) (hk : bagTrace bag r.tr bag') :
    ∃ d sa l1 l2 pre res a,
      bag = l1 ++ (d, sa) :: l2 ∧ bag' = l1 ++ l2 ∧
      r.out.ret = Int.ofNat (min d.length buflen) ∧ r.out.data = d.take buflen ∧
      r.tr = pre ++ [⟨recvfromCall s buflen, res⟩, ⟨.fromNative sa (Int.ofNat sa.length), a⟩] ∧
      res.ret = .ok (min d.length buflen) ∧
      (∀ ev ∈ pre, ev.call = recvfromCall s buflen → ev.res.failed = true) ∧
      (∀ ev ∈ pre, ev.call = pollCall s P_SOCKET_IO_CONDITION_POLLIN ∨ ev.call = recvfromCall s buflen) ∧
      r.out.addr = (if a.ret = .ok 0 then none else some (sa, Int.ofNat sa.length)) := by
  rw [receiveFrom_addr_eq s hc buflen (by omega)] at h
  unfold receiveFromResult at h
  have hq : QuietStep bagEvOk (recvfromCfg s buflen) := bag_quiet _ s _ rfl
  generalize hL : ioLoop (recvfromCfg s buflen) (startPhase (recvfromCfg s buflen)) script e = L at h
  cases hf : L.fin with
  | stop w => simp [hf] at h
  | fail pe => simp only [hf] at h; injection h with h; subst h; simp [failOut] at hok
  | done res =>
    simp only [hf] at h
    cases hrest : L.rest with
    | nil => simp [hrest] at h
    | cons a rest' =>
      simp only [hrest] at h
      by_cases hs : a.sys ≠ Sys.fromNative
      · simp [hs] at h
      · simp only [hs, if_false] at h
        injection h with h
        subst h
        simp only at hk ⊢
        subst hL
        -- the trace: the loop, then `new_from_native`, which does not touch the bag
        obtain ⟨q, hq1, hq2⟩ := (threadTrace_append _ _ _ _ _).1 hk
        have hq3 : bag' = q := (threadTrace_single _ _ _ _).1 hq2
        subst hq3
        obtain ⟨h3, hev⟩ := thread_done _ _ hq _ _ _ res hf bag bag' hq1
        obtain ⟨pre, hp1, hp2, _, _, _⟩ := ioLoop_done _ (recvfromCfg_poll_ne s buflen) _ script e res hf
        have hcalls := ioLoop_calls (recvfromCfg s buflen) (startPhase (recvfromCfg s buflen)) script e
        cases hret : res.ret with
        | err x => simp [Res.failed, hret] at h3
        | ok k =>
          simp only [bagEvOk, recvfromCfg, loopCfg, recvfromCall, bagRecvOk, hret, toSocklen_toNat _ hlt] at hev
          obtain ⟨d, sa, l1, l2, hb, hb', hkd, hdata, hsaeq⟩ := hev
          have hlen : sa.length ≤ 128 := hsa (d, sa) (by rw [hb]; simp)
          have htake : res.sa.take sizeofSockaddrStorage.toNat = sa := by
            rw [hsaeq]; exact List.take_of_length_le hlen
          refine ⟨d, sa, l1, l2, pre, res, a, hb, hb', ?_, ?_, ?_, ?_, hp2, ?_, ?_⟩
          · simp [retVal, hret, hkd]
          · simp only [delivered, hret, toSocklen_toNat _ hlt, hdata, hkd]
            exact take_take_min d buflen
          · rw [hp1, htake, hsaeq]; simp [recvfromCfg, loopCfg]
          · rw [hret, hkd]
          · intro ev hev
            exact hcalls ev (by rw [hp1]; simp [hev])
          · rw [htake, hsaeq]

/-- a failed `p_socket_receive_from` took nothing out of the queue -/
theorem datagram_failed_keeps_queue (s : Sock) (hc : s.closed = false) (buflen : Nat) (h0 : 0 < buflen)
    (script : Script) (e : Int) (r : CallResult)
    (h : call s (.receiveFrom true false buflen) script e = .ok r) (pe : PErr) (herr : r.out.err = some pe)
    (bag bag' : Bag) (hk : bagTrace bag r.tr bag') : bag' = bag := by
  rw [receiveFrom_addr_eq s hc buflen (by omega)] at h
  unfold receiveFromResult at h
  have hq : QuietStep bagEvOk (recvfromCfg s buflen) := bag_quiet _ s _ rfl
  generalize hL : ioLoop (recvfromCfg s buflen) (startPhase (recvfromCfg s buflen)) script e = L at h
  cases hf : L.fin with
  | stop w => simp [hf] at h
  | fail pe' =>
    simp only [hf] at h; injection h with h; subst h
    subst hL
    exact thread_fail _ _ hq _ _ _ pe' hf bag bag' hk
  | done res =>
    simp only [hf] at h
    cases hrest : L.rest with
    | nil => simp [hrest] at h
    | cons a rest' =>
      simp only [hrest] at h
      by_cases hs : a.sys ≠ Sys.fromNative
      · simp [hs] at h
      · simp only [hs, if_false] at h
        injection h with h
        subst h
        simp at herr

/-! ### non-vacuity of `datagram_exact_call`: an interrupted `recvfrom`, then a 6-byte datagram into a 4-byte buffer -/

def demoUdp : Sock := { family := AF_INET, protocol := 17, type := 2, fd := 9, listen_backlog := 5, blocking := true }
def demoPeer : Bytes := [2, 0, 0, 80, 127, 0, 0, 1, 0, 0, 0, 0, 0, 0, 0, 0]
def demoOther : Bytes := [2, 0, 0, 81, 10, 0, 0, 7, 0, 0, 0, 0, 0, 0, 0, 0]
def demoBag : Bag := [([9, 9], demoOther), ([1, 2, 3, 4, 5, 6], demoPeer)]
def demoUdpScript : Script :=
  [{ sys := .poll, ret := .ok 1 }, { sys := .recvfrom, ret := .err EINTR },
   { sys := .poll, ret := .ok 1 }, { sys := .recvfrom, ret := .ok 4, data := [1, 2, 3, 4], sa := demoPeer },
   { sys := .fromNative, ret := .ok 1 }]

example :
    (call demoUdp (.receiveFrom true false 4) demoUdpScript 0).toOption.map
        (fun r => (r.out.ret, r.out.err, r.out.data)) = some (4, none, [1, 2, 3, 4]) ∧
    (call demoUdp (.receiveFrom true false 4) demoUdpScript 0).toOption.map
        (fun r => (r.out.addr, r.tr.map (·.call.sys))) =
      some (some (demoPeer, 16), [.poll, .recvfrom, .poll, .recvfrom, .fromNative]) := by
  decide

/-- the hypotheses of `datagram_exact_call` are satisfiable: the script above is one the kernel can produce from `demoBag` -/
example : ∃ r, call demoUdp (.receiveFrom true false 4) demoUdpScript 0 = .ok r ∧ r.out.err = none ∧
    (∀ x ∈ demoBag, x.2.length ≤ 128) ∧ bagTrace demoBag r.tr [([9, 9], demoOther)] := by
  refine ⟨_, rfl, rfl, by decide, ?_⟩
  exact ⟨demoBag, rfl, demoBag, rfl, demoBag, rfl, [([9, 9], demoOther)],
    ⟨[1, 2, 3, 4, 5, 6], demoPeer, [([9, 9], demoOther)], [], rfl, rfl, by decide, rfl, rfl⟩,
    [([9, 9], demoOther)], rfl, rfl⟩

end PV.Socket
