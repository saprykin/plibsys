import PV.Lemmas.IPC
import PV.Lemmas.IPCRunAttr
/-!
Sequential runs of the IPC model: one thread runs its library call to the end (`G.call`, `G.callF`)
while everybody else is quiet.  Each lemma says what one call does, from the states in which it
takes one path through the C code; the proofs run the call symbolically.
-/
namespace PV.IPC
open PV.Generated.IPC

theorem runCallF_none (g : G) (t : Tid) (fs : List (Nat × Errno)) (i fuel : Nat) (h : g.calls t = none) :
    runCallF g t fs i fuel = g := by
  cases fuel <;> simp [runCallF, h]

theorem runCallF_some (g : G) (t : Tid) (fs : List (Nat × Errno)) (i fuel : Nat) (c : Call) (h : g.calls t = some c) :
    runCallF g t fs i (fuel + 1) =
      (match fs.find? (·.1 = i) with
       | some (_, e) => runCallF (g.fail t e) t fs (i + 1) fuel
       | none =>
         match (g.step t false).log with
         | ⟨_, _, _, .block⟩ :: _ => g.step t false
         | _ => runCallF (g.step t false) t fs (i + 1) fuel) := by
  rw [runCallF]
  simp only [h]
  rfl

/- `simp [ipc_run, facts about the state]` runs a call: `runCall_some` / `runCallF_some` unfold one system call
   at a time, and only once the thread's slot is known. -/
attribute [ipc_run] runCall_some runCall_none runCallF_some runCallF_none G.call G.callF G.start G.handleOf G.setCall G.setRet G.setHandle seqFuel seqFuelF G.step G.fail
  Call.next Call.after SemNewSt.next SemNewSt.after SemNewSt.handle SemFreeSt.next SemFreeSt.after
  acquireNext acquireAfter releaseNext releaseAfter
  ShmNewSt.next ShmNewSt.after ShmNewSt.cleanFrom ShmFreeSt.next ShmFreeSt.after lockMode
  sysStep Sys.interruptible shmOpenF lookupFd OS.setProc
  semOpenReopenInitZero semCreateUnlinks semCreateMarksCreated semOpen1Retry
  shmFtruncateCreatorOnly shmLockModeByExists shmLockInit

/-- thread `t` can start a call: its process is alive and it has no call in flight -/
structure Idle (g : G) (t : Tid) : Prop where
  alive : (g.os.procs (g.pidOf t)).alive = true
  idle : g.calls t = none


/-- `p_semaphore_new` on an unbound name (either mode): one `sem_open`, the handle is the creator -/
theorem call_newSem_absent (g : G) (t : Tid) (h : Hid) (k : SemKey) (init : Nat) (m : Mode)
    (hi : Idle g t) (hh : g.hs h = none) (hk : g.os.semNames k = none) :
    (g.call t (.newSem h k init m)).os = g.os.semCreate k init ∧
    (g.call t (.newSem h k init m)).hs =
      (fun h' => if h' = h then some (g.pidOf t, .sem ⟨true, k, g.os.nextObj, m, init⟩) else g.hs h') ∧
    (g.call t (.newSem h k init m)).calls t = none ∧ (g.call t (.newSem h k init m)).pidOf = g.pidOf := by
  have h1 := semOpenF_creat_absent g.os k semOpen1Flags init creat1 hk
  simp [ipc_run, hi.alive, hi.idle, hh, h1, OS.semCreate]

/-- `p_semaphore_new (OPEN)` on a bound name: EEXIST, then a plain `sem_open`; nothing changes in the OS -/
theorem call_newSem_open_present (g : G) (t : Tid) (h : Hid) (k : SemKey) (init o : Nat)
    (hi : Idle g t) (hh : g.hs h = none) (hk : g.os.semNames k = some o) :
    (g.call t (.newSem h k init .open)).os = g.os ∧
    (g.call t (.newSem h k init .open)).hs =
      (fun h' => if h' = h then some (g.pidOf t, .sem ⟨false, k, o, .open, init⟩) else g.hs h') ∧
    (g.call t (.newSem h k init .open)).calls t = none ∧ (g.call t (.newSem h k init .open)).pidOf = g.pidOf := by
  have h1 := semOpenF_excl_present g.os k semOpen1Flags init o excl1 hk
  have h2 := semOpenF_plain_present g.os k semOpenReopenFlags 0 o plainO hk
  simp [ipc_run, hi.alive, hi.idle, hh, h1, h2]

/-- `p_semaphore_new (CREATE)` on a bound name: EEXIST, `sem_unlink`, exclusive `sem_open` of a fresh object -/
theorem call_newSem_create_present (g : G) (t : Tid) (h : Hid) (k : SemKey) (init o : Nat)
    (hi : Idle g t) (hh : g.hs h = none) (hk : g.os.semNames k = some o) :
    (g.call t (.newSem h k init .create)).os = (g.os.semRemove k).semCreate k init ∧
    (g.call t (.newSem h k init .create)).hs =
      (fun h' => if h' = h then some (g.pidOf t, .sem ⟨true, k, g.os.nextObj, .create, init⟩) else g.hs h') ∧
    (g.call t (.newSem h k init .create)).calls t = none ∧ (g.call t (.newSem h k init .create)).pidOf = g.pidOf := by
  have h1 := semOpenF_excl_present g.os k semOpen1Flags init o excl1 hk
  have h2 : semOpenF (g.os.semRemove k) k semCreateReopenFlags init = ((g.os.semRemove k).semCreate k init, .ok g.os.nextObj) :=
    semOpenF_creat_absent _ k _ init creatC (by simp [OS.semRemove])
  simp [ipc_run, hi.alive, hi.idle, hh, h1, h2, hk, ← OS.semRemove.eq_1]

theorem call_own_sem (g : G) (t : Tid) (h : Hid) (x : PSem) (hi : Idle g t) (hh : g.hs h = some (g.pidOf t, .sem x)) :
    (g.call t (.own h)).os = g.os ∧
    (g.call t (.own h)).hs = (fun h' => if h' = h then some (g.pidOf t, .sem { x with created := true }) else g.hs h') ∧
    (g.call t (.own h)).calls t = none ∧ (g.call t (.own h)).pidOf = g.pidOf := by
  simp [ipc_run, hi.alive, hi.idle, hh]

/-- `p_semaphore_free` of an owner's handle while the name is bound: `sem_close`, `sem_unlink` -/
theorem call_free_sem_owner (g : G) (t : Tid) (h : Hid) (x : PSem) (o : ObjId) (hi : Idle g t)
    (hh : g.hs h = some (g.pidOf t, .sem x)) (hc : x.created = true) (hk : g.os.semNames x.key = some o) :
    (g.call t (.free h)).os = g.os.semRemove x.key ∧
    (g.call t (.free h)).hs = (fun h' => if h' = h then none else g.hs h') ∧
    (g.call t (.free h)).calls t = none ∧ (g.call t (.free h)).pidOf = g.pidOf := by
  simp [ipc_run, hi.alive, hi.idle, hh, hc, hk, OS.semRemove]

/-- `p_semaphore_free` of a non-owner's handle: only `sem_close` -/
theorem call_free_sem_plain (g : G) (t : Tid) (h : Hid) (x : PSem) (hi : Idle g t)
    (hh : g.hs h = some (g.pidOf t, .sem x)) (hc : x.created = false) :
    (g.call t (.free h)).os = g.os ∧
    (g.call t (.free h)).hs = (fun h' => if h' = h then none else g.hs h') ∧
    (g.call t (.free h)).calls t = none ∧ (g.call t (.free h)).pidOf = g.pidOf := by
  simp [ipc_run, hi.alive, hi.idle, hh, hc]

/-- `p_semaphore_acquire` when a unit is available: one `sem_wait`, the value drops by one -/
theorem call_acq (g : G) (t : Tid) (h : Hid) (x : PSem) (hi : Idle g t)
    (hh : g.hs h = some (g.pidOf t, .sem x)) (hv : (g.os.sems x.obj).value ≠ 0) :
    (g.call t (.acq h)).os = g.os.semSub x.obj ∧ (g.call t (.acq h)).hs = g.hs ∧
    (g.call t (.acq h)).ret t = some .unit ∧ (g.call t (.acq h)).calls t = none := by
  simp [ipc_run, hi.alive, hi.idle, hh, hv, OS.semSub]

/-- `p_semaphore_release`: one `sem_post`, the value grows by one -/
theorem call_rel (g : G) (t : Tid) (h : Hid) (x : PSem) (hi : Idle g t)
    (hh : g.hs h = some (g.pidOf t, .sem x)) :
    (g.call t (.rel h)).os = g.os.semAdd x.obj 1 ∧ (g.call t (.rel h)).hs = g.hs ∧
    (g.call t (.rel h)).ret t = some .unit ∧ (g.call t (.rel h)).calls t = none := by
  simp [ipc_run, hi.alive, hi.idle, hh, OS.semAdd]

/-- `p_semaphore_free` of an owner's handle whose name is already gone: `sem_unlink` fails, nothing changes -/
theorem call_free_sem_owner_unbound (g : G) (t : Tid) (h : Hid) (x : PSem) (hi : Idle g t)
    (hh : g.hs h = some (g.pidOf t, .sem x)) (hc : x.created = true) (hk : g.os.semNames x.key = none) :
    (g.call t (.free h)).os = g.os ∧
    (g.call t (.free h)).hs = (fun h' => if h' = h then none else g.hs h') ∧
    (g.call t (.free h)).calls t = none ∧ (g.call t (.free h)).pidOf = g.pidOf := by
  simp [ipc_run, hi.alive, hi.idle, hh, hc, hk]

/-- what `start` and every `step` of thread `t` keep, a sequential call of `t` keeps -/
theorem call_induction {P : G → Prop} {t : Tid} (hstart : ∀ g op, P g → P (g.start t op))
    (hstep : ∀ g i, P g → P (g.step t i)) (g : G) (op : Op) (sc : List Nat) (h : P g) : P (g.call t op sc) := by
  have intr : ∀ n g, P g → P ((List.replicate n (Action.step t true)).foldl exec g) := by
    intro n
    induction n with
    | zero => exact fun _ h => h
    | succ n ih => exact fun g h => ih _ (hstep g true h)
  have run : ∀ fuel g sc, P g → P (runCall g t sc fuel) := by
    intro fuel
    induction fuel with
    | zero => exact fun _ _ h => h
    | succ f ih =>
      intro g sc h
      simp only [runCall]
      split
      · exact h
      · split
        · exact hstep _ false (intr _ g h)
        · exact ih _ _ (hstep _ false (intr _ g h))
  exact run _ _ sc (hstart g op h)

theorem step_calls_other (g : G) (t : Tid) (i : Bool) (t' : Tid) (h : t' ≠ t) : (g.step t i).calls t' = g.calls t' := by
  cases hc : g.calls t with
  | none => rw [step_none g t i hc]
  | some c => rw [step_eq g t i c hc, advance_calls_other h]

theorem call_calls_other (g : G) (t : Tid) (op : Op) (sc : List Nat) (t' : Tid) (h : t' ≠ t) :
    (g.call t op sc).calls t' = g.calls t' :=
  call_induction (P := fun x => x.calls t' = g.calls t') (fun x op e => (start_calls_other x t op t' h).trans e)
    (fun x i e => (step_calls_other x t i t' h).trans e) g op sc rfl

theorem step_pidOf (g : G) (t : Tid) (i : Bool) : (g.step t i).pidOf = g.pidOf := by
  cases hc : g.calls t with
  | none => rw [step_none g t i hc]
  | some c => rw [step_eq g t i c hc]; rfl

theorem call_pidOf (g : G) (t : Tid) (op : Op) (sc : List Nat) : (g.call t op sc).pidOf = g.pidOf :=
  call_induction (P := fun x => x.pidOf = g.pidOf) (fun x op e => (start_pidOf x t op).trans e)
    (fun x i e => (step_pidOf x t i).trans e) g op sc rfl

theorem call_alive (g : G) (t : Tid) (op : Op) (sc : List Nat) (q : Pid) :
    ((g.call t op sc).os.procs q).alive = (g.os.procs q).alive := by
  refine call_induction (P := fun x => (x.os.procs q).alive = (g.os.procs q).alive) (fun x op e => ?_) (fun x i e => ?_) g op sc rfl
  · obtain ⟨segs', hos, _⟩ := start_os x t op
    rw [hos]; exact e
  · cases hc : x.calls t with
    | none => rw [step_none x t i hc]; exact e
    | some c => rw [step_eq x t i c hc, advance_os, (sysStep_effect ..).alive]; exact e

theorem Idle.call {g : G} {t t' : Tid} {op : Op} {sc : List Nat} (hi : Idle g t')
    (hdone : (g.call t op sc).calls t = none) : Idle (g.call t op sc) t' := by
  refine ⟨by rw [call_pidOf, call_alive]; exact hi.alive, ?_⟩
  by_cases e : t' = t
  · rw [e]; exact hdone
  · rw [call_calls_other g t op sc t' e]; exact hi.idle

/-- a sequential call is a schedule: invariants over `execAll` hold after `G.call` -/
theorem call_is_execAll (g : G) (t : Tid) (op : Op) (sc : List Nat) : ∃ as, g.call t op sc = execAll g as := by
  have snoc : ∀ x a, (∃ as, x = execAll g as) → ∃ as, exec x a = execAll g as := by
    rintro x a ⟨as, rfl⟩
    exact ⟨as ++ [a], by simp [execAll, List.foldl_append]⟩
  exact call_induction (P := fun x => ∃ as, x = execAll g as) (fun x op => snoc x (.start t op))
    (fun x i => snoc x (.step t i)) g op sc ⟨[], rfl⟩


/-- descriptor and mapping bookkeeping of a successful `pp_shm_create_handle` in a process:
    the descriptor is closed again, one mapping of `len` bytes of segment `s` is added -/
def Proc.afterNew (pr : Proc) (s : SegId) (len : Nat) (ro : Bool) : Proc :=
  { pr with fds := pr.fds.filter (fun x => !decide (x.1 = pr.nextFd)),
            maps := { addr := pr.nextAddr, seg := s, off := 0, len := len,
                      writable := hasFlag (if ro then shmMmapProtRO else shmMmapProtRW) PROT_WRITE,
                      shared := hasFlag shmMmapFlags MAP_SHARED } :: pr.maps,
            nextFd := pr.nextFd + 1, nextAddr := pr.nextAddr + pages len + 1 }

/-- an update made twice at the same place: the later one counts -/
theorem ite_else_same {α : Sort _} (c : Prop) [Decidable c] (a b d : α) :
    (if c then a else if c then b else d) = if c then a else d := by
  split <;> simp [*]

theorem resize_nil (n : Nat) : resize [] n = List.replicate n 0 := by simp [resize]

/-- the handle `p_shm_new` returns to the creator -/
def creatorHandle (g : G) (t : Tid) (k : ShmKey) (size : Nat) (ro : Bool) : PShm :=
  { created := true, key := k, addr := (g.os.procs (g.pidOf t)).nextAddr, size := size,
    sem := ⟨true, .lock k, g.os.nextObj, .create, 1⟩, ro := ro }

/-- `p_shm_new` of an unbound name: 5 system calls when the lock semaphore does not exist either, 7 when
    a stale one does (left by a crash; CREATE mode unlinks and re-creates it).  Either way: a fresh
    zero-filled object of exactly `size` bytes, mapped once, and a fresh lock semaphore of value 1. -/
theorem call_newShm_creator (g : G) (t : Tid) (h : Hid) (k : ShmKey) (size : Nat) (ro : Bool)
    (hi : Idle g t) (hh : g.hs h = none) (hk : g.os.shmNames k = none) (hs : size ≠ 0) :
    (g.call t (.newShm h k size ro)).os =
      (((g.os.shmCreate k size).setProc (g.pidOf t) ((g.os.procs (g.pidOf t)).afterNew g.os.nextSeg size ro)).semCreate (.lock k) 1) ∧
    (g.call t (.newShm h k size ro)).hs = (fun h' => if h' = h then some (g.pidOf t, .shm (creatorHandle g t k size ro)) else g.hs h') ∧
    (g.call t (.newShm h k size ro)).calls t = none ∧ (g.call t (.newShm h k size ro)).pidOf = g.pidOf := by
  have c1 := shmCreat1
  cases hl : g.os.semNames (.lock k) with
  | none =>
    have c2 := creat1
    simp [ipc_run, hi.alive, hi.idle, hh, hk, hl, hs, c1, c2, semOpenF, OS.semCreate, OS.shmCreate,
      Proc.afterNew, creatorHandle, resize_nil, clampSize_self, ite_else_same]
  | some ol =>
    have c3 := excl1
    have c4 := creatC
    simp [ipc_run, hi.alive, hi.idle, hh, hk, hl, hs, c1, c3, c4, semOpenF, OS.semCreate, OS.shmCreate,
      Proc.afterNew, creatorHandle, resize_nil, clampSize_self, ite_else_same]

/-- what is known after `p_shm_new` has created segment `k`, stale lock semaphore or none -/
structure CreatorOpened (g g' : G) (t : Tid) (h : Hid) (k : ShmKey) (size : Nat) (ro : Bool) : Prop where
  shmNames : g'.os.shmNames k = some g.os.nextSeg
  bytes : (g'.os.segs g.os.nextSeg).bytes = List.replicate size 0
  nextSeg : g'.os.nextSeg = g.os.nextSeg + 1
  procs : g'.os.procs = fun q => if q = g.pidOf t then (g.os.procs (g.pidOf t)).afterNew g.os.nextSeg size ro else g.os.procs q
  lock : g'.os.semNames (.lock k) = some g.os.nextObj
  lockValue : (g'.os.sems g.os.nextObj).value = 1
  nextObj : g'.os.nextObj = g.os.nextObj + 1
  hs : g'.hs = fun h' => if h' = h then some (g.pidOf t, .shm (creatorHandle g t k size ro)) else g.hs h'
  idle : g'.calls t = none
  pidOf : g'.pidOf = g.pidOf

theorem creator_opened (g : G) (t : Tid) (h : Hid) (k : ShmKey) (size : Nat) (ro : Bool)
    (hi : Idle g t) (hh : g.hs h = none) (hk : g.os.shmNames k = none) (hs : size ≠ 0) :
    CreatorOpened g (g.call t (.newShm h k size ro)) t h k size ro := by
  obtain ⟨c, chs, cidle, cpid⟩ := call_newShm_creator g t h k size ro hi hh hk hs
  exact ⟨by rw [c]; exact if_pos rfl, by rw [c]; simp [OS.semCreate, OS.setProc, OS.shmCreate], by rw [c]; rfl, by rw [c]; rfl,
    by rw [c]; exact if_pos rfl, by rw [c]; exact congrArg SemObj.value (if_pos rfl), by rw [c]; rfl, chs, cidle, cpid⟩

/-- the handle `p_shm_new` returns to a follower -/
def followerHandle (g : G) (t : Tid) (k : ShmKey) (req L : Nat) (ro : Bool) (semCreated : Bool) (ol : ObjId) : PShm :=
  { created := false, key := k, addr := (g.os.procs (g.pidOf t)).nextAddr, size := repSize req L,
    sem := ⟨semCreated, .lock k, ol, .open, 1⟩, ro := ro }

/-- what is known after `p_shm_new` has opened the existing segment `k` (object `s`), lock present or not -/
structure FollowerOpened (g g' : G) (t : Tid) (h : Hid) (k : ShmKey) (req : Nat) (ro : Bool) (s : SegId) (y : PShm) : Prop where
  shmNames : g'.os.shmNames = g.os.shmNames
  segs : g'.os.segs = g.os.segs
  procs : g'.os.procs = fun q => if q = g.pidOf t then
      (g.os.procs (g.pidOf t)).afterNew s (repSize req (g.os.segs s).bytes.length) ro else g.os.procs q
  lock : g'.os.semNames (.lock k) = some y.sem.obj
  lockKey : y.sem.key = .lock k
  hs : g'.hs = fun h' => if h' = h then some (g.pidOf t, .shm y) else g.hs h'
  idle : g'.calls t = none
  pidOf : g'.pidOf = g.pidOf
  addr : y.addr = (g.os.procs (g.pidOf t)).nextAddr
  size : y.size = repSize req (g.os.segs s).bytes.length
  key : y.key = k
  created : y.created = false

/-- `p_shm_new` of a bound name (segment of `L ≠ 0` bytes): 7 system calls; `repSize req L` bytes are
    mapped and reported.  When the lock exists nothing in the name space changes; when it is missing
    (creator killed before creating it) OPEN mode creates it with value 1, and the handle owns it. -/
theorem follower_opened (g : G) (t : Tid) (h : Hid) (k : ShmKey) (req : Nat) (ro : Bool) (s : SegId)
    (hi : Idle g t) (hh : g.hs h = none) (hk : g.os.shmNames k = some s) (hL : (g.os.segs s).bytes.length ≠ 0) :
    ∃ y, FollowerOpened g (g.call t (.newShm h k req ro)) t h k req ro s y ∧
      y.sem.created = (g.os.semNames (.lock k)).isNone := by
  have c1 := shmExcl1
  have c2 := shmPlain2
  have hr := repSize_ne_zero req _ hL
  cases hl : g.os.semNames (.lock k) with
  | none =>
    have c3 := creat1
    have c : (g.call t (.newShm h k req ro)).os =
          (g.os.setProc (g.pidOf t) ((g.os.procs (g.pidOf t)).afterNew s (repSize req (g.os.segs s).bytes.length) ro)).semCreate (.lock k) 1 ∧
        (g.call t (.newShm h k req ro)).hs = (fun h' => if h' = h then
          some (g.pidOf t, .shm (followerHandle g t k req (g.os.segs s).bytes.length ro true g.os.nextObj)) else g.hs h') ∧
        (g.call t (.newShm h k req ro)).calls t = none ∧ (g.call t (.newShm h k req ro)).pidOf = g.pidOf := by
      simp [ipc_run, hi.alive, hi.idle, hh, hk, hl, hr, c1, c2, c3, semOpenF, OS.semCreate, Proc.afterNew,
        followerHandle, existingSize_eq, clampSize_rep, ite_else_same]
    exact ⟨_, ⟨by rw [c.1]; rfl, by rw [c.1]; rfl, by rw [c.1]; rfl, by rw [c.1]; exact if_pos rfl,
      rfl, c.2.1, c.2.2.1, c.2.2.2, rfl, rfl, rfl, rfl⟩, rfl⟩
  | some ol =>
    have c3 := excl1
    have c4 := plainO
    have c : (g.call t (.newShm h k req ro)).os = g.os.setProc (g.pidOf t) ((g.os.procs (g.pidOf t)).afterNew s (repSize req (g.os.segs s).bytes.length) ro) ∧
        (g.call t (.newShm h k req ro)).hs = (fun h' => if h' = h then
          some (g.pidOf t, .shm (followerHandle g t k req (g.os.segs s).bytes.length ro false ol)) else g.hs h') ∧
        (g.call t (.newShm h k req ro)).calls t = none ∧ (g.call t (.newShm h k req ro)).pidOf = g.pidOf := by
      simp [ipc_run, hi.alive, hi.idle, hh, hk, hl, hr, c1, c2, c3, c4, semOpenF, Proc.afterNew,
        followerHandle, existingSize_eq, clampSize_rep, ite_else_same]
    exact ⟨_, ⟨by rw [c.1]; rfl, by rw [c.1]; rfl, by rw [c.1]; rfl, by rw [c.1]; exact hl,
      rfl, c.2.1, c.2.2.1, c.2.2.2, rfl, rfl, rfl, rfl⟩, rfl⟩

/-- `p_shm_new` of a bound name whose segment has size 0 (its creator was killed between `shm_open`
    and `ftruncate`): `mmap` of length 0 fails with EINVAL, the call returns NULL and nothing changes
    in the name space — the name cannot be opened, hence not cleaned up, through the API -/
theorem call_newShm_zero_segment (g : G) (t : Tid) (h : Hid) (k : ShmKey) (req : Nat) (ro : Bool) (s : SegId)
    (hi : Idle g t) (hh : g.hs h = none) (hk : g.os.shmNames k = some s) (hL : (g.os.segs s).bytes.length = 0) :
    (g.call t (.newShm h k req ro)).ret t = some (.fail .EINVAL) ∧
    (g.call t (.newShm h k req ro)).hs = g.hs ∧
    (g.call t (.newShm h k req ro)).os.shmNames = g.os.shmNames ∧ (g.call t (.newShm h k req ro)).os.segs = g.os.segs := by
  have c1 := shmExcl1
  have c2 := shmPlain2
  have hr : repSize req 0 = 0 := by simp [repSize]
  simp [ipc_run, hi.alive, hi.idle, hh, hk, hL, hr, c1, c2, existingSize_eq]

theorem call_own_shm (g : G) (t : Tid) (h : Hid) (y : PShm) (hi : Idle g t) (hh : g.hs h = some (g.pidOf t, .shm y)) :
    (g.call t (.own h)).os = g.os ∧
    (g.call t (.own h)).hs = (fun h' => if h' = h then
      some (g.pidOf t, .shm { y with created := true, sem := { y.sem with created := true } }) else g.hs h') ∧
    (g.call t (.own h)).calls t = none ∧ (g.call t (.own h)).pidOf = g.pidOf := by
  simp [ipc_run, hi.alive, hi.idle, hh]

/-- `p_shm_free` of an owner's handle while segment and lock names are bound:
    `munmap (addr, size)`, `shm_unlink`, `sem_close`, `sem_unlink` -/
theorem call_free_shm_owner (g : G) (t : Tid) (h : Hid) (y : PShm) (s : SegId) (ol : ObjId) (hi : Idle g t)
    (hh : g.hs h = some (g.pidOf t, .shm y)) (hc : y.created = true) (hsc : y.sem.created = true)
    (hk : g.os.shmNames y.key = some s) (hl : g.os.semNames y.sem.key = some ol) (hs : y.size ≠ 0) :
    (g.call t (.free h)).os = ((g.os.setProc (g.pidOf t) (munmapF (g.os.procs (g.pidOf t)) y.addr y.size)).shmRemove y.key).semRemove y.sem.key ∧
    (g.call t (.free h)).hs = (fun h' => if h' = h then none else g.hs h') ∧
    (g.call t (.free h)).calls t = none ∧ (g.call t (.free h)).pidOf = g.pidOf := by
  refine ⟨?_, ?_⟩
  · simp [ipc_run, hi.alive, hi.idle, hh, hc, hsc, hk, hl, hs, OS.shmRemove, OS.semRemove]
  · simp [ipc_run, hi.alive, hi.idle, hh, hc, hsc, hk, hl, hs]

/-- `p_shm_free` of a plain (non-owner) handle: `munmap (addr, size)`, `sem_close` -/
theorem call_free_shm_plain (g : G) (t : Tid) (h : Hid) (y : PShm) (hi : Idle g t)
    (hh : g.hs h = some (g.pidOf t, .shm y)) (hc : y.created = false) (hsc : y.sem.created = false) (hs : y.size ≠ 0) :
    (g.call t (.free h)).os = g.os.setProc (g.pidOf t) (munmapF (g.os.procs (g.pidOf t)) y.addr y.size) ∧
    (g.call t (.free h)).hs = (fun h' => if h' = h then none else g.hs h') ∧
    (g.call t (.free h)).calls t = none ∧ (g.call t (.free h)).pidOf = g.pidOf := by
  refine ⟨?_, ?_⟩
  · simp [ipc_run, hi.alive, hi.idle, hh, hc, hsc, hs]
  · simp [ipc_run, hi.alive, hi.idle, hh, hc, hsc, hs]

/-- `p_shm_lock` = `p_semaphore_acquire` on the handle's lock semaphore -/
theorem call_lock (g : G) (t : Tid) (h : Hid) (y : PShm) (hi : Idle g t)
    (hh : g.hs h = some (g.pidOf t, .shm y)) (hv : (g.os.sems y.sem.obj).value ≠ 0) :
    (g.call t (.lock h)).os = g.os.semSub y.sem.obj ∧ (g.call t (.lock h)).hs = g.hs ∧
    (g.call t (.lock h)).ret t = some .unit ∧ (g.call t (.lock h)).calls t = none := by
  simp [ipc_run, hi.alive, hi.idle, hh, hv, OS.semSub]

theorem call_unlock (g : G) (t : Tid) (h : Hid) (y : PShm) (hi : Idle g t)
    (hh : g.hs h = some (g.pidOf t, .shm y)) :
    (g.call t (.unlock h)).os = g.os.semAdd y.sem.obj 1 ∧ (g.call t (.unlock h)).hs = g.hs ∧
    (g.call t (.unlock h)).ret t = some .unit ∧ (g.call t (.unlock h)).calls t = none := by
  simp [ipc_run, hi.alive, hi.idle, hh, OS.semAdd]

theorem call_rd (g : G) (t : Tid) (h : Hid) (y : PShm) (off : Nat) (hi : Idle g t)
    (hh : g.hs h = some (g.pidOf t, .shm y)) :
    (g.call t (.rd h off)).ret t = some (match g.os.load (g.pidOf t) y.addr off with | .val b => .byte b | .fault => .fault) ∧
    (g.call t (.rd h off)).os = g.os ∧ (g.call t (.rd h off)).hs = g.hs := by
  cases hl : g.os.load (g.pidOf t) y.addr off <;>
    simp [ipc_run, hi.alive, hi.idle, hh, hl]

theorem call_wr (g : G) (t : Tid) (h : Hid) (y : PShm) (off : Nat) (b : UInt8) (os' : OS) (hi : Idle g t)
    (hh : g.hs h = some (g.pidOf t, .shm y)) (hst : g.os.store (g.pidOf t) y.addr off b = some os') :
    (g.call t (.wr h off b)).os = os' ∧ (g.call t (.wr h off b)).hs = g.hs ∧
    (g.call t (.wr h off b)).calls t = none ∧ (g.call t (.wr h off b)).pidOf = g.pidOf := by
  simp [ipc_run, hi.alive, hi.idle, hh, hst]

/-- a store through a shared writable mapping, inside mapping and object, updates the object's byte -/
theorem store_eq (os : OS) (p : Pid) (a off : Nat) (b : UInt8) (m : Mapping) (hm : findMap (os.procs p) a = some m)
    (h1 : off < m.len) (h2 : m.writable = true) (h3 : m.off + off < (os.segs m.seg).bytes.length) (h4 : m.shared = true) :
    os.store p a off b = some { os with segs := fun s' => if s' = m.seg then
      { os.segs m.seg with bytes := (os.segs m.seg).bytes.set (m.off + off) b } else os.segs s' } := by
  simp [OS.store, hm, h1, h2, h3, h4]

theorem load_eq (os : OS) (p : Pid) (a off : Nat) (m : Mapping) (hm : findMap (os.procs p) a = some m)
    (h1 : off < m.len) (h3 : m.off + off < (os.segs m.seg).bytes.length) :
    os.load p a off = .val ((os.segs m.seg).bytes[m.off + off]'h3) := by
  simp [OS.load, hm, h1, List.getElem?_eq_getElem h3]

/-- MAP_SHARED contract lifted to mappings: a byte stored through one mapping of an object is the
    byte loaded through any other mapping of the same object at the same offset -/
theorem shared_bytes (os os' : OS) (p1 p2 : Pid) (a1 a2 off : Nat) (b : UInt8) (m1 m2 : Mapping)
    (hm1 : findMap (os.procs p1) a1 = some m1) (hm2 : findMap (os.procs p2) a2 = some m2)
    (hseg : m1.seg = m2.seg) (ho1 : m1.off = 0) (ho2 : m2.off = 0)
    (h1 : off < m1.len) (h2 : off < m2.len) (hw : m1.writable = true) (hsh : m1.shared = true)
    (hL : off < (os.segs m1.seg).bytes.length)
    (hst : os.store p1 a1 off b = some os') : os'.load p2 a2 off = .val b := by
  rw [store_eq os p1 a1 off b m1 hm1 h1 hw (by rw [ho1]; simpa using hL) hsh] at hst
  simp only [Option.some.injEq] at hst
  subst hst
  simp [OS.load, hm2, h2, ← hseg, ho1, ho2, hL]

theorem findMap_afterNew_head (pr : Proc) (s : SegId) (len : Nat) (ro : Bool) :
    findMap (pr.afterNew s len ro) pr.nextAddr =
      some { addr := pr.nextAddr, seg := s, off := 0, len := len,
             writable := hasFlag (if ro then shmMmapProtRO else shmMmapProtRW) PROT_WRITE,
             shared := hasFlag shmMmapFlags MAP_SHARED } := by
  simp [findMap, Proc.afterNew]

theorem findMap_afterNew_old (pr : Proc) (s : SegId) (len : Nat) (ro : Bool) (a : Nat) (h : a ≠ pr.nextAddr) :
    findMap (pr.afterNew s len ro) a = findMap pr a := by
  have : pr.nextAddr ≠ a := fun e => h e.symm
  simp [findMap, Proc.afterNew, this]

/-- `munmap (addr, len)` of exactly the mapping `p_shm_new` added removes it and nothing else,
    provided no older mapping starts at the same address (addresses are handed out increasingly) -/
theorem munmapF_afterNew (pr : Proc) (s : SegId) (len : Nat) (ro : Bool)
    (hfresh : ∀ m ∈ pr.maps, m.addr ≠ pr.nextAddr) :
    (munmapF (pr.afterNew s len ro) pr.nextAddr len).maps = pr.maps := by
  rw [(munmapF_exact _ _ len fun m hm ha => ?_).1]
  · simpa [Proc.afterNew, List.filter_cons] using hfresh
  · rcases List.mem_cons.mp hm with rfl | hm
    · rfl
    · exact absurd ha (hfresh m hm)

theorem FollowerOpened.findMap_self {g g' : G} {t : Tid} {h : Hid} {k : ShmKey} {req : Nat} {ro : Bool} {s : SegId} {y : PShm}
    (o : FollowerOpened g g' t h k req ro s y) :
    findMap (g'.os.procs (g.pidOf t)) y.addr =
      some ⟨(g.os.procs (g.pidOf t)).nextAddr, s, 0, repSize req (g.os.segs s).bytes.length,
        hasFlag (if ro then shmMmapProtRO else shmMmapProtRW) PROT_WRITE, hasFlag shmMmapFlags MAP_SHARED⟩ := by
  rw [o.procs, o.addr]; simp only [if_true]; exact findMap_afterNew_head ..

theorem FollowerOpened.findMap_old {g g' : G} {t : Tid} {h : Hid} {k : ShmKey} {req : Nat} {ro : Bool} {s : SegId} {y : PShm}
    (o : FollowerOpened g g' t h k req ro s y) (p : Pid) {a : Nat} (ha : a < (g.os.procs p).nextAddr) :
    findMap (g'.os.procs p) a = findMap (g.os.procs p) a := by
  rw [o.procs]
  by_cases e : p = g.pidOf t
  · subst e; simp only [if_true]; exact findMap_afterNew_old _ _ _ _ _ (Nat.ne_of_lt ha)
  · simp only [e, if_false]

/-- store through one handle, load through another handle whose mapping is of the same object -/
theorem write_then_read (g : G) (ta tb : Tid) (ha hb : Hid) (ya yb : PShm) (ma mb : Mapping) (off : Nat) (b : UInt8)
    (ia : Idle g ta) (ib : Idle g tb)
    (hha : g.hs ha = some (g.pidOf ta, .shm ya)) (hhb : g.hs hb = some (g.pidOf tb, .shm yb))
    (hma : findMap (g.os.procs (g.pidOf ta)) ya.addr = some ma) (hmb : findMap (g.os.procs (g.pidOf tb)) yb.addr = some mb)
    (hseg : ma.seg = mb.seg) (oa : ma.off = 0) (ob : mb.off = 0) (la : off < ma.len) (lb : off < mb.len)
    (hw : ma.writable = true) (hsh : ma.shared = true) (hL : off < (g.os.segs ma.seg).bytes.length) :
    ((g.call ta (.wr ha off b)).call tb (.rd hb off)).ret tb = some (.byte b) := by
  have hst := store_eq g.os (g.pidOf ta) ya.addr off b ma hma la hw (by rw [oa]; simpa using hL) hsh
  have w := call_wr g ta ha ya off b _ ia hha hst
  have ib3 := ib.call w.2.2.1
  generalize g.call ta (.wr ha off b) = g3 at w ib3
  have hhb3 : g3.hs hb = some (g3.pidOf tb, .shm yb) := by rw [w.2.1, w.2.2.2]; exact hhb
  have r := call_rd g3 tb hb yb off ib3 hhb3
  rw [r.1]
  have hl : g3.os.load (g3.pidOf tb) yb.addr off = .val b := by
    rw [w.2.2.2]
    exact shared_bytes g.os g3.os (g.pidOf ta) (g.pidOf tb) ya.addr yb.addr off b ma mb hma hmb hseg oa ob la lb hw hsh hL
      (by rw [w.1]; exact hst)
  rw [hl]

/-- a load below the mapped length and inside the object, through the mapping `p_shm_new` has just added -/
theorem load_afterNew (os : OS) (p : Pid) (pr : Proc) (s : SegId) (len : Nat) (ro : Bool) (off : Nat)
    (hp : os.procs p = pr.afterNew s len ro) (h1 : off < len) (h2 : off < (os.segs s).bytes.length) :
    os.load p pr.nextAddr off = .val ((os.segs s).bytes[off]'h2) := by
  have hm := findMap_afterNew_head pr s len ro
  rw [← hp] at hm
  have := load_eq os p pr.nextAddr off _ hm (by simpa using h1) (by simpa using h2)
  simpa using this


end PV.IPC
