import PV.Lemmas.IPCSysVInv
/-! One segment per name (System V shared-memory machine): the binding `SegBound`, what each system call does to it, what
each machine step does to it, and the invariant over arbitrary action lists.  Same layers as `IPCSysVInv`. -/
namespace PV.SysV
open PV.Generated.IPCSysV

/-- key file `f` has inode `i`, whose ftok key names the live, unmarked segment `sid`; nothing else refers to `i` / `sid`;
    inode numbers are not reused -/
structure SegBound (os : OS) (f : KeyFile) (i : Ino) (sid : SegId) : Prop where
  file : os.files f = some i
  key : os.shmKeys (ftokOf i) = some sid
  alive : (os.segs sid).alive = true
  unmarked : (os.segs sid).rmid = false
  sidlt : sid < os.nextSeg
  uniq : ∀ k, os.shmKeys k = some sid → k = ftokOf i
  inj : ∀ g, os.files g = some i → g = f
  ilt : i < os.nextIno
  noreuse : os.reuse = false


theorem SegBound.keyBound {os : OS} {f : KeyFile} {i : Ino} {sid : SegId} (hb : SegBound os f i sid) : KeyBound os f i :=
  ⟨hb.file, hb.inj, hb.ilt, hb.noreuse⟩

theorem segbound_open (os : OS) (f g : KeyFile) (i : Ino) (sid : SegId) (flags : Nat) (hb : SegBound os f i sid) :
    SegBound (openF os g flags).1 f i sid := by
  have k := keyBound_open hb.keyBound g flags
  have e := openF_frame os g flags
  exact ⟨k.file, e.shmKeys ▸ hb.key, e.segs ▸ hb.alive, e.segs ▸ hb.unmarked, e.nextSeg ▸ hb.sidlt, e.shmKeys ▸ hb.uniq, k.inj, k.ilt, k.noreuse⟩

theorem segbound_unlink (os : OS) (f g : KeyFile) (i : Ino) (sid : SegId) (hb : SegBound os f i sid) (hg : g ≠ f) :
    SegBound (unlinkF os g).1 f i sid := by
  have k := keyBound_unlink hb.keyBound hg
  have e := unlinkF_frame os g
  exact ⟨k.file, e.shmKeys ▸ hb.key, e.segs ▸ hb.alive, e.segs ▸ hb.unmarked, e.nextSeg ▸ hb.sidlt, e.shmKeys ▸ hb.uniq, k.inj, k.ilt, k.noreuse⟩

theorem segbound_of_eq {os os' : OS} {f : KeyFile} {i : Ino} {sid : SegId} (hb : SegBound os f i sid)
    (h : os'.files = os.files ∧ os'.shmKeys = os.shmKeys ∧ os'.segs = os.segs ∧ os'.nextSeg = os.nextSeg ∧
      os'.nextIno = os.nextIno ∧ os'.reuse = os.reuse) : SegBound os' f i sid := by
  obtain ⟨h1, h2, h3, h4, h5, h6⟩ := h
  exact ⟨h1 ▸ hb.file, h2 ▸ hb.key, h3 ▸ hb.alive, h3 ▸ hb.unmarked, h4 ▸ hb.sidlt, h2 ▸ hb.uniq, h1 ▸ hb.inj, h5 ▸ hb.ilt, h6 ▸ hb.noreuse⟩

theorem sem_calls_frame (os : OS) (p : Pid) (k : Key) (flags cmd v flg : Nat) (id : Option SemId) (o : Int) :
    (∀ os', os' = (semgetF os k flags).1 ∨ os' = (semctlF os id cmd v).1 ∨ os' = (semopF os p id o flg).1 →
      os'.files = os.files ∧ os'.shmKeys = os.shmKeys ∧ os'.segs = os.segs ∧ os'.nextSeg = os.nextSeg ∧ os'.nextIno = os.nextIno ∧ os'.reuse = os.reuse) := by
  intro os' h
  have e : os.SemsOnly os' := by
    rcases h with rfl | rfl | rfl
    · exact semgetF_frame os k flags
    · exact semctlF_frame os id cmd v
    · exact semopF_frame os p id o flg
  exact ⟨e.files, e.shmKeys, e.segs, e.nextSeg, e.nextIno, e.reuse⟩

theorem segbound_shmget (os : OS) (f : KeyFile) (i : Ino) (sid : SegId) (k : Key) (size flags nm : Nat) (hb : SegBound os f i sid) :
    SegBound (shmgetF os k size flags nm).1 f i sid ∧ ((shmgetF os k size flags nm).1.segs sid = os.segs sid) ∧
    (k ≠ ftokOf i → ∀ j, (shmgetF os k size flags nm).2 = .ok j → j ≠ sid) := by
  let P (x : OS × Res) := SegBound x.1 f i sid ∧ x.1.segs sid = os.segs sid ∧ (k ≠ ftokOf i → ∀ j, x.2 = .ok j → j ≠ sid)
  have fails : ∀ e, P (os, .err e) := fun e => ⟨hb, rfl, fun _ _ h => nomatch h⟩
  unfold shmgetF
  cases hk : os.shmKeys k with
  | some j => exact ite_both (P := P) (fails _) ⟨hb, rfl, fun hne j' h e => hne (hb.uniq k (by cases h; exact e ▸ hk))⟩
  | none =>
    refine ite_both (P := P) (ite_both (P := P) (fails _) (?_)) (fails _)
    -- a new segment gets the id `nextSeg`, which is not `sid`, under a key that was free, which is not the key of `i`
    have hne : ftokOf i ≠ k := fun e => by rw [← e, hb.key] at hk; cases hk
    have hid : sid ≠ os.nextSeg := Nat.ne_of_lt hb.sidlt
    refine ⟨⟨hb.file, (if_neg hne).trans hb.key, (congrArg Seg.alive (if_neg hid)).trans hb.alive,
      (congrArg Seg.rmid (if_neg hid)).trans hb.unmarked, Nat.lt_succ_of_lt hb.sidlt,
      fun k' hk' => ?_, hb.inj, hb.ilt, hb.noreuse⟩, if_neg hid, fun _ j h => by cases h; exact Ne.symm hid⟩
    simp only at hk'
    split at hk'
    · exact absurd (Option.some.inj hk').symm hid
    · exact hb.uniq k' hk'

theorem shmget_bound_result (os : OS) (f : KeyFile) (i : Ino) (sid : SegId) (size perm nm : Nat) (hb : SegBound os f i sid)
    (hp : perm = shmPermRO ∨ perm = shmPermRW) :
    (shmgetF os (ftokOf i) size (shmgetExclFlags ||| perm) nm).2 = .err .EEXIST ∧
    (shmgetF os (ftokOf i) shmgetPlainSize (shmgetPlainFlags ||| perm) nm).2 = .ok sid := by
  rcases hp with hp | hp <;> subst hp <;>
    simp [shmgetF, hb.key, hasFlag, shmgetExclFlags, shmgetPlainFlags, shmPermRO, shmPermRW, IPC_CREAT, IPC_EXCL]

theorem segbound_setSeg {os : OS} {f : KeyFile} {i : Ino} {sid : SegId} (hb : SegBound os f i sid) (j : SegId) (s' : Seg)
    (h1 : j = sid → s'.alive = true ∧ s'.rmid = false) : SegBound (os.setSeg j s') f i sid :=
  ⟨hb.file, hb.key, ite_ind (P := fun s : Seg => s.alive = true) (fun e => (h1 e.symm).1) fun _ => hb.alive,
    ite_ind (P := fun s : Seg => s.rmid = false) (fun e => (h1 e.symm).2) fun _ => hb.unmarked,
    hb.sidlt, hb.uniq, hb.inj, hb.ilt, hb.noreuse⟩

theorem segbound_shmctl (os : OS) (f : KeyFile) (i : Ino) (sid : SegId) (h : Option SegId) (cmd : Nat) (hb : SegBound os f i sid)
    (hq : h = some sid → cmd ≠ IPC_RMID) : SegBound (shmctlF os h cmd).1 f i sid := by
  unfold shmctlF
  cases ha : segAlive os h with
  | none => exact hb
  | some j =>
    let P (x : OS × Res) := SegBound x.1 f i sid
    refine ite_both (P := P) hb (ite_ind (P := P) (fun hc => ?_) fun _ => hb)
    -- IPC_RMID of another segment: its key goes, `sid` and its key stay
    have e' : sid ≠ j := fun e => hq (e ▸ (segAlive_some ha).1) hc
    have hb' := segbound_setSeg hb j (if (os.segs j).nattch = 0 then { (os.segs j) with alive := false, rmid := true }
      else { (os.segs j) with rmid := true }) fun e => absurd e.symm e'
    refine ⟨hb.file, ?_, hb'.alive, hb'.unmarked, hb.sidlt, fun k hk => ?_, hb.inj, hb.ilt, hb.noreuse⟩
    · exact (if_neg fun e => e' (Option.some.inj (hb.key.symm.trans e))).trans hb.key
    · simp only at hk
      split at hk
      · cases hk
      · exact hb.uniq k hk

theorem segbound_shmat (os : OS) (f : KeyFile) (i : Ino) (sid : SegId) (p : Pid) (h : Option SegId) (flags : Nat) (hb : SegBound os f i sid) :
    SegBound (shmatF os p h flags).1 f i sid := by
  unfold shmatF
  cases segAlive os h with
  | none => exact hb
  | some j =>
    exact segbound_of_eq (segbound_setSeg hb j _ fun e => e ▸ ⟨hb.alive, hb.unmarked⟩) ⟨rfl, rfl, rfl, rfl, rfl, rfl⟩

theorem segbound_shmdt (os : OS) (f : KeyFile) (i : Ino) (sid : SegId) (p : Pid) (a : Option Nat) (hb : SegBound os f i sid) :
    SegBound (shmdtF os p a).1 f i sid := by
  simp only [shmdtF]
  split
  · exact hb
  · rename_i att _
    -- a detach never destroys an unmarked segment
    refine segbound_of_eq (segbound_setSeg hb att.seg _ fun e => ?_) ⟨rfl, rfl, rfl, rfl, rfl, rfl⟩
    rw [e]
    simp [Seg.detach, hb.unmarked, hb.alive]

/-- one system call keeps the segment binding unless it is `unlink f` or IPC_RMID of `sid` -/
theorem sysStep_segbound (p : Pid) (intr : Bool) (c : Sys) (os : OS) (nm : Nat) (f : KeyFile) (i : Ino) (sid : SegId) (hb : SegBound os f i sid)
    (h1 : c ≠ .unlink f) (h2 : c ≠ .shmctl (some sid) IPC_RMID) :
    SegBound (sysStep p intr c os nm).1 f i sid := by
  unfold sysStep
  split
  · exact hb
  · cases c with
    | «open» g fl m => exact segbound_open os f g i sid fl hb
    | close fd => exact hb
    | stat g => simp only; split <;> exact hb
    | ftok g pr => simp only; split <;> exact hb
    | unlink g => exact segbound_unlink os f g i sid hb fun e => h1 (e ▸ rfl)
    | semget k n fl => exact segbound_of_eq hb (sem_calls_frame os p k fl 0 0 0 none 0 _ (.inl rfl))
    | semctl h cmd v => exact segbound_of_eq hb (sem_calls_frame os p 0 0 cmd v 0 h 0 _ (.inr (.inl rfl)))
    | semop h n o fl => exact segbound_of_eq hb (sem_calls_frame os p 0 0 0 0 fl h o _ (.inr (.inr rfl)))
    | shmget k sz fl => exact (segbound_shmget os f i sid k sz fl nm hb).1
    | shmctl h cmd => exact segbound_shmctl os f i sid h cmd hb fun e c' => h2 (e ▸ c' ▸ rfl)
    | shmat h fl => exact segbound_shmat os f i sid p h fl hb
    | shmdt a => exact segbound_shmdt os f i sid p a hb


/-- semaphore structs never carry a segment key file (their key files are `.sem n` / `.lock n`) -/
def PSem.nshm (h : PSem) : Prop := ∀ n, h.file ≠ .shm n

/-- a PShm struct at rest: a handle of name `n` refers to `sid`, a handle of another name does not -/
def PShm.sinv (n : Nat) (sid : SegId) (m : PShm) : Prop :=
  (if m.name = n then m.hdl = some sid else m.hdl ≠ some sid) ∧ (∀ ps, m.sem = some ps → ps.nshm)

/-- the struct a transition hands on -/
def SemOut.h : SemOut → PSem
  | .cont s => s.h
  | .done (h, _) => h

theorem afterClean_file (s : SemSt) : s.afterClean.h.file = s.h.file := by
  simp only [SemSt.afterClean]
  split
  · rfl
  · split <;> rfl

theorem startClean_file (s : SemSt) : s.startClean.h.file = s.h.file :=
  ite_ind (P := fun o : SemOut => o.h.file = s.h.file) (fun _ => rfl) fun _ =>
    ite_both (P := fun o : SemOut => o.h.file = s.h.file) rfl (afterClean_file s)

theorem created_file (s : SemSt) : s.created.h.file = s.h.file := by
  unfold SemSt.created; split <;> rfl

theorem afterGet_file (s : SemSt) : s.afterGet.h.file = s.h.file :=
  ite_both (P := fun o : SemOut => o.h.file = s.h.file) rfl (created_file s)

theorem after_file (s : SemSt) (r : Res) : (s.after r).h.file = s.h.file := by
  obtain ⟨api, h, pc, built, failing, recreated⟩ := s
  have ite : ∀ {c : Prop} [Decidable c] {a b : SemOut}, a.h.file = h.file → b.h.file = h.file →
      (if c then a else b).h.file = h.file := ite_both (P := fun o : SemOut => o.h.file = h.file)
  cases pc with
  | cOpen =>
    cases r with
    | err e => exact ite rfl (startClean_file _)
    | _ => rfl
  | cClose fd => cases r <;> rfl
  | cStat =>
    cases r with
    | ok v => rfl
    | _ => exact startClean_file _
  | cFtok =>
    cases r with
    | ok k => rfl
    | _ => exact startClean_file _
  | cGetExcl =>
    cases r with
    | ok j => exact afterGet_file _
    | err e => exact ite rfl (startClean_file _)
    | _ => rfl
  | cGetPlain =>
    cases r with
    | ok j => exact afterGet_file _
    | _ => exact startClean_file ⟨api, { h with hdl := none }, .cGetPlain, built, some _, recreated⟩
  | cSetval =>
    cases r with
    | ok v => exact created_file _
    | _ => exact startClean_file _
  | kRmid => cases r <;> exact ite rfl (afterClean_file _)
  | kUnlink => cases r <;> exact afterClean_file _
  | op =>
    cases r with
    | err e => exact ite rfl (ite (startClean_file _) rfl)
    | _ => rfl

theorem sem_after_file (s : SemSt) (r : Res) :
    (∀ s', s.after r = .cont s' → s'.h.file = s.h.file) ∧ (∀ h x, s.after r = .done (h, x) → h.file = s.h.file) := by
  have := after_file s r
  exact ⟨fun s' e => by rw [e] at this; exact this, fun h x e => by rw [e] at this; exact this⟩

theorem after_nshm {s : SemSt} (r : Res) (h : s.h.nshm) : (s.after r).h.nshm := fun k => after_file s r ▸ h k

/-- a segment machine between two of its system calls -/
def ShmSt.sinv (n : Nat) (i : Ino) (sid : SegId) (s : ShmSt) : Prop :=
  (∀ ps, s.h.sem = some ps → ps.nshm) ∧
  (match s.pc with
   | .cSem st => st.h.nshm
   | .kSem st => st.h.nshm
   | _ => True) ∧
  (s.isNew = true → match s.pc with
    | .kDt | .kStat | .kRmid | .kUnlink | .kSem _ => s.failing.isSome = true
    | _ => True) ∧
  (if s.h.name = n then
    match s.pc with
    | .cGetExcl | .cGetPlain => s.h.unixKey = some (ftokOf i)
    | .cStatSeg | .cAt | .cSem _ => s.h.hdl = some sid
    | _ => True
  else
    match s.pc with
    | .cOpen | .cClose _ | .cStat | .cFtok => s.h.addr = .null
    | .cGetExcl | .cGetPlain => s.h.addr = .null ∧ ∃ k, s.h.unixKey = some k ∧ k ≠ ftokOf i
    | .cStatSeg => s.h.addr = .null ∧ s.h.hdl ≠ some sid
    | .cAt | .cSem _ | .kDt | .kStat | .kRmid => s.h.hdl ≠ some sid
    | .kUnlink | .kSem _ => True)

/-- no clean-up of name `n` is at its IPC_RMID (the last detach of ANY handle, owner or not) or at its unlink (owner) -/
def ShmSt.squiet (n : Nat) (s : ShmSt) : Prop := s.h.name = n → s.pc ≠ .kRmid ∧ s.pc ≠ .kUnlink

def ShmOut.sinv (n : Nat) (i : Ino) (sid : SegId) (isNew : Bool) : ShmOut → Prop
  | .cont s' => s'.sinv n i sid ∧ s'.isNew = isNew
  | .done (h, r) => isNew = true → r = .ok () → h.sinv n sid

/-- the clean-up entry points after the detach, for a struct whose lock handle is a semaphore struct; a `p_shm_new` in
    clean-up is failing -/
theorem shm_clean_sinv (n : Nat) (i : Ino) (sid : SegId) (s : ShmSt) (b : Bool) (hs : ∀ ps, s.h.sem = some ps → ps.nshm)
    (hn : s.isNew = true → s.failing.isSome = true) (hb : s.isNew = b) :
    ShmOut.sinv n i sid b s.cleanSem ∧ ShmOut.sinv n i sid b s.cleanFile ∧ ShmOut.sinv n i sid b s.afterClean := by
  subst hb
  have h4 : ShmOut.sinv n i sid s.isNew s.afterClean := by
    simp only [ShmSt.afterClean]
    split
    · exact fun _ e => nomatch e
    · exact fun hnew _ => nomatch (‹s.failing = none› ▸ hn hnew)
  have h1 : ShmOut.sinv n i sid s.isNew s.cleanSem := by
    simp only [ShmSt.cleanSem]
    split
    · exact h4
    · rename_i ps hps
      split
      · rename_i st hst
        have hfile := startClean_file { api := .free, h := ps, pc := .kRmid }
        rw [hst] at hfile
        exact ⟨⟨hs, fun k => hfile ▸ hs ps hps k, hn, by simp only; split <;> trivial⟩, rfl⟩
      · exact h4
  exact ⟨h1, ite_both (P := ShmOut.sinv n i sid s.isNew) ⟨⟨hs, trivial, hn, by simp only; split <;> trivial⟩, rfl⟩ h1, h4⟩

/-- … and the clean-up from its detach: for another name the id is not `sid` once something is attached -/
theorem shm_startClean_sinv (n : Nat) (i : Ino) (sid : SegId) (s : ShmSt) (b : Bool) (hs : ∀ ps, s.h.sem = some ps → ps.nshm)
    (hf : s.h.name ≠ n → s.h.addr ≠ .null → s.h.hdl ≠ some sid) (hn : s.isNew = true → s.failing.isSome = true) (hb : s.isNew = b) :
    ShmOut.sinv n i sid b s.startClean := by
  have h2 := (shm_clean_sinv n i sid s b hs hn hb).2.1
  subst hb
  refine ite_ind (P := ShmOut.sinv n i sid s.isNew) (fun ha => ⟨⟨hs, trivial, hn, ?_⟩, rfl⟩) fun _ => h2
  simp only
  split
  · trivial
  · exact hf ‹_› (by simpa using ha)

/-- a transition of the segment machine at one of its own system calls, given what a bound OS answers at the `ftok` / `shmget`
    sites (own name: the key of `i`, EEXIST, `sid`; another name: another key, another id) -/
theorem shm_after_sinv_plain (n : Nat) (i : Ino) (sid : SegId) (s : ShmSt) (r : Res) (hi : s.sinv n i sid)
    (hpc : match s.pc with | .cSem _ => False | .kSem _ => False | _ => True)
    (o1 : s.h.name = n → s.pc = .cFtok → ∀ k, r = .ok k → k = ftokOf i)
    (o2 : s.h.name = n → s.pc = .cGetExcl → r = .err .EEXIST)
    (o3 : s.h.name = n → s.pc = .cGetPlain → ∀ j, r = .ok j → j = sid)
    (f1 : s.h.name ≠ n → s.pc = .cFtok → ∀ k, r = .ok k → k ≠ ftokOf i)
    (f2 : s.h.name ≠ n → (s.pc = .cGetExcl ∨ s.pc = .cGetPlain) → ∀ j, r = .ok j → j ≠ sid) :
    ShmOut.sinv n i sid s.isNew (s.after r) := by
  obtain ⟨isNew, h, req, pc, built, isExists, failing⟩ := s
  obtain ⟨hs, -, hn, hm⟩ := hi
  replace hs : ∀ ps, h.sem = some ps → ps.nshm := hs
  let Q := ShmOut.sinv n i sid isNew
  have own := fun e : h.name = n => (if_pos e).mp hm
  have other := fun e : ¬h.name = n => (if_neg e).mp hm
  -- a failure exit: the struct keeps lock handle and name, the call is failing from now on; for another name the id
  -- must not be `sid` once something is attached
  have fail : ∀ (h' : PShm) pc' e, h'.sem = h.sem → h'.name = h.name → (h.name ≠ n → h'.addr ≠ .null → h'.hdl ≠ some sid) →
      Q (ShmSt.fail ⟨isNew, h', req, pc', built, isExists, failing⟩ e) := fun h' pc' e e1 e2 hf =>
    shm_startClean_sinv n i sid _ _ (e1 ▸ hs) (e2 ▸ hf) (fun _ => rfl) rfl
  -- the later clean-up steps: the call was failing already if it is a `p_shm_new`
  have clean := fun pc' (hn : isNew = true → failing.isSome = true) =>
    shm_clean_sinv n i sid ⟨isNew, h, req, pc', built, isExists, failing⟩ isNew hs hn rfl
  have err : ∀ e, Q (.done (h, .error e)) := fun _ _ e => nomatch e
  cases pc with
  | cSem st => exact hpc.elim
  | kSem st => exact hpc.elim
  | cOpen =>
    cases r with
    | ok fd => exact ⟨⟨hs, trivial, fun _ => trivial, ite_prop (fun _ => trivial) other⟩, rfl⟩
    | err e =>
      exact ite_both (P := Q) ⟨⟨hs, trivial, fun _ => trivial, ite_prop (fun _ => trivial) other⟩, rfl⟩
        (fail _ _ _ rfl rfl fun e ha => absurd (other e) ha)
    | _ => exact err _
  | cClose fd => cases r <;> exact ⟨⟨hs, trivial, fun _ => trivial, ite_prop (fun _ => trivial) other⟩, rfl⟩
  | cStat =>
    cases r with
    | ok v => exact ⟨⟨hs, trivial, fun _ => trivial, ite_prop (fun _ => trivial) other⟩, rfl⟩
    | _ => exact fail _ _ _ rfl rfl fun e ha => absurd (other e) ha
  | cFtok =>
    cases r with
    | ok k =>
      exact ⟨⟨hs, trivial, fun _ => trivial,
        ite_prop (fun e => congrArg some (o1 e rfl k rfl)) fun e => ⟨other e, k, rfl, f1 e rfl k rfl⟩⟩, rfl⟩
    | _ => exact fail _ _ _ rfl rfl fun e ha => absurd (other e) ha
  | cGetExcl =>
    cases r with
    | ok j =>
      exact ⟨⟨hs, trivial, fun _ => trivial,
        ite_prop (fun e => nomatch o2 e rfl) fun e => ⟨(other e).1, fun e' => f2 e (.inl rfl) j rfl (Option.some.inj e')⟩⟩, rfl⟩
    | err e =>
      exact ite_both (P := Q) ⟨⟨hs, trivial, fun _ => trivial, ite_prop own other⟩, rfl⟩
        (fail _ _ _ rfl rfl fun e ha => absurd (other e).1 ha)
    | _ => exact err _
  | cGetPlain =>
    cases r with
    | ok j =>
      exact ⟨⟨hs, trivial, fun _ => trivial,
        ite_prop (fun e => congrArg some (o3 e rfl j rfl)) fun e => ⟨(other e).1, fun e' => f2 e (.inr rfl) j rfl (Option.some.inj e')⟩⟩, rfl⟩
    | _ => exact fail _ _ _ rfl rfl fun e ha => absurd (other e).1 ha
  | cStatSeg =>
    cases r with
    | stat sz na => exact ⟨⟨hs, trivial, fun _ => trivial, ite_prop own fun e => (other e).2⟩, rfl⟩
    | _ => exact fail _ _ _ rfl rfl fun e ha => absurd (other e).1 ha
  | cAt =>
    cases r with
    | ok a => exact ⟨⟨hs, fun _ => nofun, fun _ => trivial, ite_prop own other⟩, rfl⟩
    | _ => exact fail _ _ _ rfl rfl fun e _ => other e
  | kDt => cases r <;> exact ⟨⟨hs, trivial, hn, ite_prop (fun _ => trivial) other⟩, rfl⟩
  | kStat =>
    cases r with
    | stat sz na => exact ite_both (P := Q) ⟨⟨hs, trivial, hn, ite_prop (fun _ => trivial) other⟩, rfl⟩ (clean _ hn).2.1
    | _ => exact (clean _ hn).2.1
  | kRmid => cases r <;> exact (clean _ hn).2.1
  | kUnlink => cases r <;> exact (clean _ hn).1

theorem sysStep_shmget (p : Pid) (intr : Bool) (k : Key) (size flags : Nat) (os : OS) (nm : Nat) :
    sysStep p intr (.shmget k size flags) os nm = shmgetF os k size flags nm := by
  simp [sysStep, Sys.interruptible]

theorem perm_cases (s : ShmSt) : s.perm = shmPermRO ∨ s.perm = shmPermRW := by
  unfold ShmSt.perm; split
  · exact .inl rfl
  · exact .inr rfl

theorem sem_next_seg (n : Nat) (sid : SegId) (st : SemSt) (hst : st.h.nshm) :
    st.next ≠ .unlink (.shm n) ∧ st.next ≠ .shmctl (some sid) IPC_RMID := by
  obtain ⟨api, sh, spc, _, _, _⟩ := st
  constructor <;> intro e <;> cases spc <;> simp [SemSt.next] at e
  exact hst n e

/-- one transition of the segment machine (of any name) in a bound OS -/
theorem shm_step_sinv (p : Pid) (intr : Bool) (nm : Nat) (s : ShmSt) (os : OS) (n : Nat) (i : Ino) (sid : SegId)
    (hb : SegBound os (.shm n) i sid) (hi : s.sinv n i sid) (hq : s.squiet n) :
    SegBound (sysStep p intr s.next os nm).1 (.shm n) i sid ∧ ShmOut.sinv n i sid s.isNew (s.after (sysStep p intr s.next os nm).2) := by
  obtain ⟨isNew, h, req, pc, built, isExists, failing⟩ := s
  constructor
  · obtain ⟨hs, hsub, -, hm⟩ := hi
    refine sysStep_segbound p intr _ os nm (.shm n) i sid hb ?_ ?_
    · intro e
      cases pc with
      | cSem st => exact (sem_next_seg n sid st hsub).1 e
      | kSem st => exact (sem_next_seg n sid st hsub).1 e
      | kUnlink => exact (hq (KeyFile.shm.inj (Sys.unlink.inj e))).2 rfl
      | _ => cases e
    · intro e
      cases pc with
      | cSem st => exact (sem_next_seg n sid st hsub).2 e
      | kSem st => exact (sem_next_seg n sid st hsub).2 e
      | kRmid =>
        by_cases hname : h.name = n
        · exact (hq hname).1 rfl
        · exact (if_neg hname).mp hm (Sys.shmctl.inj e).1
      | _ => simp [ShmSt.next, shmStatCmd, shmCleanStatCmd, IPC_RMID] at e
  · have hm := hi.2.2.2
    cases pc with
    | cSem st =>
      obtain ⟨hs, hsub, -, -⟩ := hi
      have hfile := after_nshm (sysStep p intr st.next os nm).2 hsub
      simp only [ShmSt.next, ShmSt.after]
      generalize st.after _ = o at hfile
      rcases o with st' | ⟨ps, _ | _⟩
      · exact ⟨⟨hs, hfile, fun _ => trivial, hm⟩, rfl⟩
      · exact shm_startClean_sinv n i sid _ _ hs (fun hne _ => (if_neg hne).mp hm) (fun _ => rfl) rfl
      · exact fun _ _ => ⟨hm, fun ps' hps' => Option.some.inj hps' ▸ hfile⟩
    | kSem st =>
      obtain ⟨hs, hsub, hn, -⟩ := hi
      have hfile := after_nshm (sysStep p intr st.next os nm).2 hsub
      simp only [ShmSt.next, ShmSt.after]
      generalize st.after _ = o at hfile
      rcases o with st' | _
      · exact ⟨⟨hs, hfile, hn, by simp only; split <;> trivial⟩, rfl⟩
      · exact (shm_clean_sinv n i sid _ _ hs hn rfl).2.2
    | cFtok =>
      have key := fun k => keyBound_ftok hb.keyBound p intr nm ftokProj (.shm h.name) k
      exact shm_after_sinv_plain n i sid _ _ hi trivial (fun hname _ k hk => (key k hk).2 (hname ▸ rfl)) nofun nofun
        (fun hname _ k hk e => hname (KeyFile.shm.inj ((key k hk).1 e))) fun _ hp => hp.elim nofun nofun
    | cGetExcl =>
      refine shm_after_sinv_plain n i sid _ _ hi trivial nofun (fun hname _ => ?_) nofun nofun fun hname _ => ?_
      · show (sysStep p intr (.shmget (h.unixKey.getD 0) _ _) os nm).2 = _
        rw [show h.unixKey = _ from (if_pos hname).mp hm, sysStep_shmget]
        exact (shmget_bound_result os _ i sid _ _ nm hb (perm_cases _)).1
      · obtain ⟨-, k, hk, hkn⟩ := (if_neg hname).mp hm
        show ∀ j, (sysStep p intr (.shmget (h.unixKey.getD 0) _ _) os nm).2 = .ok j → _
        rw [hk, sysStep_shmget]
        exact (segbound_shmget os _ i sid k _ _ nm hb).2.2 hkn
    | cGetPlain =>
      refine shm_after_sinv_plain n i sid _ _ hi trivial nofun nofun (fun hname _ j hj => ?_) nofun fun hname _ => ?_
      · replace hj : (sysStep p intr (.shmget (h.unixKey.getD 0) _ _) os nm).2 = .ok j := hj
        rw [show h.unixKey = _ from (if_pos hname).mp hm, sysStep_shmget, Option.getD_some,
          (shmget_bound_result os _ i sid 0 _ nm hb (perm_cases _)).2] at hj
        exact (Res.ok.inj hj).symm
      · obtain ⟨-, k, hk, hkn⟩ := (if_neg hname).mp hm
        show ∀ j, (sysStep p intr (.shmget (h.unixKey.getD 0) _ _) os nm).2 = .ok j → _
        rw [hk, sysStep_shmget]
        exact (segbound_shmget os _ i sid k _ _ nm hb).2.2 hkn
    | _ => all_goals exact shm_after_sinv_plain n i sid _ _ hi trivial nofun nofun nofun nofun fun _ hp => hp.elim nofun nofun

def Handle.sinv (n : Nat) (sid : SegId) : Handle → Prop
  | .sem h => h.nshm
  | .shm m => m.sinv n sid

def Call.sinv (n : Nat) (i : Ino) (sid : SegId) : Call → Prop
  | .semNew _ s => s.h.nshm
  | .semFree s => s.h.nshm
  | .semOp _ s => s.h.nshm
  | .shmNew _ s => s.sinv n i sid ∧ s.isNew = true
  | .shmFree s => s.sinv n i sid
  | .lockOp _ m s => s.h.nshm ∧ m.sinv n sid

/-- no clean-up of segment name `n` is at its IPC_RMID / unlink -/
def Call.squiet (n : Nat) : Call → Prop
  | .shmNew _ s => s.squiet n
  | .shmFree s => s.squiet n
  | _ => True

def CallOut.sinv (n : Nat) (i : Ino) (sid : SegId) : Out Call (Ret × Option (Hid × Option Handle)) → Prop
  | .cont c' => c'.sinv n i sid
  | .done (_, some (_, some x)) => x.sinv n sid
  | .done _ => True

theorem call_step_sinv (p : Pid) (intr : Bool) (c : Call) (os : OS) (n : Nat) (i : Ino) (sid : SegId)
    (hb : SegBound os (.shm n) i sid) (hi : c.sinv n i sid) (hq : c.squiet n) :
    SegBound (sysStep p intr c.next os c.name).1 (.shm n) i sid ∧ CallOut.sinv n i sid (c.after (sysStep p intr c.next os c.name).2) := by
  -- a semaphore machine touches neither the key file nor the segment, and keeps its own key file
  have sem : ∀ s : SemSt, s.h.nshm → SegBound (sysStep p intr s.next os 0).1 (.shm n) i sid ∧
      (s.after (sysStep p intr s.next os 0).2).h.nshm := fun s hs =>
    ⟨sysStep_segbound p intr s.next os 0 _ i sid hb (sem_next_seg n sid s hs).1 (sem_next_seg n sid s hs).2, after_nshm _ hs⟩
  cases c with
  | semNew _ s | semFree s | semOp _ s =>
    obtain ⟨h1, hf⟩ := sem s hi
    refine ⟨h1, ?_⟩
    simp only [Call.next, Call.name, Call.after]
    generalize s.after _ = o at hf
    rcases o with s' | ⟨h, _ | _⟩ <;> first | exact hf | trivial
  | lockOp hid m s =>
    obtain ⟨h1, hf⟩ := sem s hi.1
    refine ⟨h1, ?_⟩
    simp only [Call.next, Call.name, Call.after]
    generalize s.after _ = o at hf
    rcases o with s' | ⟨h, _⟩
    · exact ⟨hf, hi.2⟩
    · exact ⟨hi.2.1, fun ps hps => Option.some.inj hps ▸ hf⟩
  | shmNew hid s =>
    obtain ⟨h1, h2⟩ := shm_step_sinv p intr s.h.name s os n i sid hb hi.1 hq
    refine ⟨h1, ?_⟩
    simp only [Call.next, Call.name, Call.after]
    generalize s.after _ = o at h2
    rcases o with s' | ⟨h, _ | _⟩
    · exact ⟨h2.1, h2.2.trans hi.2⟩
    · trivial
    · exact h2 hi.2 rfl
  | shmFree s =>
    obtain ⟨h1, h2⟩ := shm_step_sinv p intr 0 s os n i sid hb hi hq
    refine ⟨h1, ?_⟩
    simp only [Call.next, Call.name, Call.after]
    generalize s.after _ = o at h2
    rcases o with s' | _
    · exact h2.1
    · trivial

/-- name `n` is bound to segment `sid`; every live struct and every machine in flight respects it -/
structure SegInv (n : Nat) (i : Ino) (sid : SegId) (g : G) : Prop where
  bound : SegBound g.os (.shm n) i sid
  hs : ∀ h p x, g.hs h = some (p, x) → x.sinv n sid
  calls : ∀ t c, g.calls t = some c → c.sinv n i sid

def SegQuiet (n : Nat) (g : G) : Prop := ∀ t c, g.calls t = some c → c.squiet n

theorem seginv_iff_all {n : Nat} {i : Ino} {sid : SegId} {g : G} :
    SegInv n i sid g ↔ g.All (SegBound · (.shm n) i sid) (Handle.sinv n sid) (Call.sinv n i sid) :=
  ⟨fun h => ⟨h.bound, h.hs, h.calls⟩, fun h => ⟨h.os, h.hs, h.calls⟩⟩

theorem seginv_step (n : Nat) (i : Ino) (sid : SegId) (g : G) (t : Tid) (intr : Bool)
    (hi : SegInv n i sid g) (hq : SegQuiet n g) : SegInv n i sid (g.step t intr) :=
  seginv_iff_all.2 ((seginv_iff_all.1 hi).step t intr fun c hc =>
    call_step_sinv (g.pidOf t) intr c g.os n i sid hi.bound (hi.calls t c hc) (hq t c hc))

theorem seginv_kill (n : Nat) (i : Ino) (sid : SegId) (g : G) (p : Pid) (hi : SegInv n i sid g) : SegInv n i sid (g.kill p) := by
  have hb := hi.bound
  refine seginv_iff_all.2 ((seginv_iff_all.1 hi).kill p ⟨hb.file, hb.key, ?_, ?_, hb.sidlt, hb.uniq, hb.inj, hb.ilt, hb.noreuse⟩)
  -- the attachments of the dead process are dropped: an unmarked segment survives that
  · simp only [OS.kill]; split
    · exact hb.alive
    · simp [hb.unmarked, hb.alive]
  · simp only [OS.kill]; split
    · exact hb.unmarked
    · simp [hb.unmarked]

theorem startOK_sinv (n : Nat) (i : Ino) (sid : SegId) :
    StartOK (SegBound · (.shm n) i sid) (Handle.sinv n sid) (Call.sinv n i sid) where
  newSem hid n' init m := fun _ => nofun
  newShm hid n' size ro := ⟨⟨nofun, trivial, fun _ => trivial, by simp only; split <;> simp⟩, rfl⟩
  semOp hid s api _ hs := hs
  lockOp hid m s api _ hm hs := ⟨hm.2 s hs, hm⟩
  ownSem s hs := hs
  ownShm m hm := ⟨hm.1, fun ps hps => by
    obtain ⟨s0, hs0, rfl⟩ := Option.map_eq_some_iff.mp hps
    exact hm.2 s0 hs0⟩
  freeSem s hs := by
    simp only [semFreeStart]
    split
    · have hfile := startClean_file { api := .free, h := s, pc := .kRmid }
      rw [‹SemSt.startClean _ = _›] at hfile
      exact fun k => hfile ▸ hs k
    · trivial
  freeShm m hm := by
    have := shm_startClean_sinv n i sid ({ isNew := false, h := m, pc := .kDt } : ShmSt) false hm.2
      (fun hne _ => (if_neg hne).mp hm.1) nofun rfl
    simp only [shmFreeStart]
    split
    · rw [‹ShmSt.startClean _ = _›] at this
      exact this.1
    · trivial
  store os p a off b os' hb hos := by
    obtain ⟨j, rfl⟩ := store_eq hos
    exact segbound_setSeg hb j _ fun e => e ▸ ⟨hb.alive, hb.unmarked⟩

theorem seginv_start (n : Nat) (i : Ino) (sid : SegId) (g : G) (t : Tid) (op : Op) (hi : SegInv n i sid g) : SegInv n i sid (g.start t op) :=
  seginv_iff_all.2 ((seginv_iff_all.1 hi).start (startOK_sinv n i sid) t op)

/-- no clean-up of segment name `n` reaches its IPC_RMID / unlink in between -/
def SegQuietRun (n : Nat) : G → List Action → Prop
  | _, [] => True
  | g, a :: as => SegQuiet n g ∧ SegQuietRun n (exec g a) as

theorem seginv_execAll (n : Nat) (i : Ino) (sid : SegId) (as : List Action) :
    ∀ g, SegInv n i sid g → SegQuietRun n g as → SegInv n i sid (execAll g as) :=
  execAll_ind (R := SegQuietRun n) (fun _ _ _ h => h) (fun g a hi hq => by
    cases a with
    | start t op => exact seginv_start n i sid g t op hi
    | step t intr => exact seginv_step n i sid g t intr hi hq
    | kill p => exact seginv_kill n i sid g p hi) as

end PV.SysV
