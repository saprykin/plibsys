import PV.Model.UThread
/-!
The transition function of the thread history machine (`PV.Model.UThread`) as a relation: `Step s e s'` has one rule per way
an event can succeed, with the guards as premises and the new state as an update of the old one, so that a field the update
does not mention is unchanged by `rfl`.  `step_ok` reads a rule off `step s e = .ok s'`.
-/
namespace PV.UThread
open PV.Generated.UThread

@[simp] theorem upd_same {α : Type} (f : Nat → α) (i : Nat) (x : α) : upd f i x i = x := by simp [upd]
theorem upd_ne {α : Type} (f : Nat → α) {i j : Nat} (x : α) (h : j ≠ i) : upd f i x j = f j := by simp [upd, h]
@[simp] theorem upd2_same (f : Nat → Nat → Nat) (t n : Nat) (v : Nat) : upd2 f t n v t n = v := by simp [upd2]
theorem upd2_ne (f : Nat → Nat → Nat) {t n t' n' : Nat} (v : Nat) (h : ¬ (t' = t ∧ n' = n)) : upd2 f t n v t' n' = f t' n' := by
  simp [upd2, h]

/-! The transition functions are ladders of `if c then .error e else …`; these two rewrite rules turn "the ladder yields
`.ok a`" into the conjunction of the negated guards (`simp only [f, guard_ok]`). -/

theorem guard_ok {c : Prop} [Decidable c] {e : Err} {α : Type} {x : Except Err α} {a : α} :
    (if c then .error e else x) = .ok a ↔ ¬ c ∧ x = .ok a := by
  by_cases h : c <;> simp [h]

theorem ite_ok_ok {c : Prop} [Decidable c] {α : Type} {b : α} {x : Except Err α} {a : α} :
    (if c then .ok b else x) = .ok a ↔ (c ∧ b = a) ∨ (¬ c ∧ x = .ok a) := by
  by_cases h : c <;> simp [h]

theorem resolve_ok {s : State} {k n : Nat} (h : resolve s k = .ok n) :
    (s.key k).wrapperFreed = false ∧ (s.key k).published = some n := by
  simp only [resolve, guard_ok, Bool.not_eq_true] at h
  obtain ⟨hw, h⟩ := h
  split at h
  · cases h; exact ⟨hw, by assumption⟩
  · cases h

/-- the handle record after `p_uthread_unref`: count and ghost references one less, freed iff the count was at its last -/
def unrefd (x : Handle) (own : Bool) : Handle :=
  { x with
    refCount := x.refCount - unrefDecrement
    userRefs := if own then x.userRefs else x.userRefs - 1
    threadRef := if own then false else x.threadRef
    freed := x.refCount = unrefFreesWhenOldIs }

theorem unrefCore_ok {s s' : State} {h : Nat} {own : Bool} (hs : unrefCore s h own = .ok s') :
    (s.hdl h).freed = false ∧
    s' = { s with
      hdl := upd s.hdl h (unrefd (s.hdl h) own)
      freeLog := if (s.hdl h).refCount = unrefFreesWhenOldIs then s.freeLog ++ [h] else s.freeLog } := by
  simp only [unrefCore, guard_ok, Bool.not_eq_true] at hs
  obtain ⟨hf, hs⟩ := hs
  refine ⟨hf, ?_⟩
  by_cases c : (s.hdl h).refCount = unrefFreesWhenOldIs
  · rw [if_pos c] at hs; cases hs; simp [unrefd, c]
  · rw [if_neg c] at hs; cases hs; simp [unrefd, c, hf]

theorem unrefCore_err {s : State} {h : Nat} {own : Bool} {e : Err} (hs : unrefCore s h own = .error e) :
    e = .useAfterFree h ∧ (s.hdl h).freed = true := by
  unfold unrefCore at hs
  split at hs
  · rename_i hf; cases hs; exact ⟨rfl, hf⟩
  · simp only at hs; split at hs <;> cases hs

abbrev State.withCurrent (s c : State) : State := { s with nH := c.nH, hdl := c.hdl, tls := c.tls }

theorem currentCore_eq (s : State) (t n : Nat) : s.withCurrent (currentCore s t n).1 = (currentCore s t n).1 := by
  unfold currentCore; split <;> rfl

/-- does the destructor of native key `n` run for thread `t` at its end -/
def dtorDue (s : State) (t : Nat) (n : Nat) : Prop :=
  (s.nkey n).live = true ∧ (s.nkey n).dtor = true ∧ s.tls t n ≠ 0
instance (s : State) (t : Nat) (n : Nat) : Decidable (dtorDue s t n) := by unfold dtorDue; exact inferInstance

/-- the state after the native layer cleared the cell and logged the call -/
def cleared (s : State) (t : Nat) (n : Nat) : State :=
  { s with tls := upd2 s.tls t n 0, dtorLog := s.dtorLog ++ [(t, (s.nkey n).owner, s.tls t n)] }

theorem dtorOne_ok {s s' : State} {t : Nat} {n : Nat} (h : dtorOne t s n = .ok s') :
    (¬ dtorDue s t n ∧ s' = s) ∨
    (dtorDue s t n ∧ (s.nkey n).owner ≠ 0 ∧ s' = cleared s t n) ∨
    (dtorDue s t n ∧ (s.nkey n).owner = 0 ∧ unrefCore (cleared s t n) (s.tls t n - 1) true = .ok s') := by
  unfold dtorOne at h
  split at h
  · rename_i hd
    simp only at h
    split at h
    · rename_i ho; exact .inr (.inr ⟨hd, ho, h⟩)
    · rename_i ho; cases h; exact .inr (.inl ⟨hd, ho, rfl⟩)
  · rename_i hd; cases h; exact .inl ⟨hd, rfl⟩

theorem runDtors_cons_ok {s s' : State} {t : Nat} {n : Nat} {r : List Nat} (h : runDtors t s (n :: r) = .ok s') :
    ∃ s1, dtorOne t s n = .ok s1 ∧ runDtors t s1 r = .ok s' := by
  unfold runDtors at h
  split at h
  · cases h
  · rename_i s1 h1; exact ⟨s1, h1, h⟩

abbrev State.withDtors (s c : State) : State :=
  { s with tls := c.tls, dtorLog := c.dtorLog, hdl := c.hdl, freeLog := c.freeLog }

theorem dtorOne_eq {s s' : State} {t n : Nat} (h : dtorOne t s n = .ok s') : s' = s.withDtors s' := by
  rcases dtorOne_ok h with ⟨_, rfl⟩ | ⟨_, _, rfl⟩ | ⟨_, _, hu⟩
  · rfl
  · rfl
  · rw [(unrefCore_ok hu).2]; rfl

theorem runDtors_eq {t : Nat} : ∀ {l : List Nat} {s s' : State}, runDtors t s l = .ok s' → s' = s.withDtors s'
  | [], s, s', hs => by unfold runDtors at hs; cases hs; rfl
  | n :: r, s, s', hs => by
    obtain ⟨s1, h1, h2⟩ := runDtors_cons_ok hs
    rw [runDtors_eq h2, dtorOne_eq h1]

/-- a projection of the records of a table that the replaced record keeps -/
theorem upd_proj {α β : Type} (p : α → β) {hdl : Nat → α} {h0 : Nat} {x : α} (hx : p x = p (hdl h0)) (h : Nat) :
    p (upd hdl h0 x h) = p (hdl h) := by
  by_cases e : h = h0
  · subst e; simp [hx]
  · rw [upd_ne _ _ e]

/-- a projection of the handle records that `p_uthread_unref` of the thread's own reference keeps is not touched by the
    destructors of a terminating thread -/
theorem runDtors_proj {β : Type} (p : Handle → β) (hp : ∀ x, p (unrefd x true) = p x) {t : Nat} :
    ∀ {l : List Nat} {s s' : State}, runDtors t s l = .ok s' → ∀ h, p (s'.hdl h) = p (s.hdl h)
  | [], s, s', hs, _ => by unfold runDtors at hs; cases hs; rfl
  | n :: r, s, s', hs, h => by
    obtain ⟨s1, h1, h2⟩ := runDtors_cons_ok hs
    refine (runDtors_proj p hp h2 h).trans ?_
    rcases dtorOne_ok h1 with ⟨_, rfl⟩ | ⟨_, _, rfl⟩ | ⟨_, _, hu⟩
    · rfl
    · rfl
    · rw [(unrefCore_ok hu).2]; exact upd_proj p (hp _) h

inductive Step : State → Ev → State → Prop
  | spawn {s : State} : Step s .spawn { s with nT := s.nT + 1, thr := upd s.thr s.nT { phase := .running } }
  | createBegin {s : State} (a : Nat) (j n : Bool) (hc : canAct s a) (hspin : s.spin = none) :
      Step s (.createBegin a j n) { s with
        nH := s.nH + 1, nT := s.nT + 1
        hdl := upd s.hdl s.nH { joinable := j, thread := s.nT }
        thr := upd s.thr s.nT { phase := .created, handle := some s.nH }
        spin := some { by_ := a, h := s.nH, joinable := j, named := n } }
  | createEnd {s : State} (a : Nat) (c : Creating) (hspin : s.spin = some c) (hby : c.by_ = a) :
      Step s (.createEnd a) { s with
        hdl := upd s.hdl c.h { s.hdl c.h with
          refCount := createInitRefCount, ours := true, joinable := c.joinable, named := c.named,
          written := true, userRefs := 1, threadRef := true }
        spin := none }
  | createFail {s : State} (a : Nat) (hc : canAct s a) (hspin : s.spin = none) :
      Step s (.createFail a) { s with
        nH := s.nH + 1
        hdl := upd s.hdl s.nH { freed := true, written := true }
        freeLog := s.freeLog ++ [s.nH] }
  | start {s : State} (t h n : Nat) (hph : (s.thr t).phase = .created) (hpd : (s.thr t).pend = none)
      (hh : (s.thr t).handle = some h) (hwf : (s.key 0).wrapperFreed = false) (hp : (s.key 0).published = some n)
      (hspin : s.spin = none) (hf : (s.hdl h).freed = false) :
      Step s (.start t) { s with tls := upd2 s.tls t n (h + 1), thr := upd s.thr t { s.thr t with phase := .running } }
  | startUnstored {s : State} (t h : Nat) (hph : (s.thr t).phase = .created) (hpd : (s.thr t).pend = none)
      (hh : (s.thr t).handle = some h) (hspin : s.spin = none) (hv : valueOf s t 0 = 0) (hf : (s.hdl h).freed = false) :
      Step s (.startUnstored t) { s with
        hdl := upd s.hdl h { s.hdl h with orphan := true }
        thr := upd s.thr t { s.thr t with phase := .running, handle := none, proxy := some h } }
  | current {s : State} (t n : Nat) (hc : canAct s t) (hwf : (s.key 0).wrapperFreed = false)
      (hp : (s.key 0).published = some n) :
      Step s (.current t) { s.withCurrent (currentCore s t n).1 with curLog := s.curLog ++ [(t, (currentCore s t n).2)] }
  /-- `p_uthread_exit` in a thread the library did not create: the call returns -/
  | exitForeign {s : State} (t n : Nat) (code : Int) (hc : canAct s t) (hwf : (s.key 0).wrapperFreed = false)
      (hp : (s.key 0).published = some n) (hf : ((currentCore s t n).1.hdl (currentCore s t n).2).freed = false)
      (ho : ((currentCore s t n).1.hdl (currentCore s t n).2).ours = false) :
      Step s (.exit t code) (s.withCurrent (currentCore s t n).1)
  | exitOurs {s : State} (t n : Nat) (code : Int) (hc : canAct s t) (hwf : (s.key 0).wrapperFreed = false)
      (hp : (s.key 0).published = some n) (hf : ((currentCore s t n).1.hdl (currentCore s t n).2).freed = false)
      (ho : ((currentCore s t n).1.hdl (currentCore s t n).2).ours = true) :
      Step s (.exit t code) { s.withCurrent (currentCore s t n).1 with
        hdl := upd (currentCore s t n).1.hdl (currentCore s t n).2
          { (currentCore s t n).1.hdl (currentCore s t n).2 with retCode := code }
        thr := upd s.thr t { s.thr t with phase := .finished, exitArg := some code } }
  | ret {s : State} (t : Nat) (hc : canAct s t) (ht0 : t ≠ 0) (hpx : (s.thr t).proxy = none) :
      Step s (.ret t) { s with thr := upd s.thr t { s.thr t with phase := .finished } }
  | retUnstored {s : State} (t h : Nat) (hc : canAct s t) (hpx : (s.thr t).proxy = some h) (hf : (s.hdl h).freed = false) :
      Step s (.retUnstored t h) { s with
        hdl := upd s.hdl h (unrefd (s.hdl h) true)
        freeLog := if (s.hdl h).refCount = unrefFreesWhenOldIs then s.freeLog ++ [h] else s.freeLog
        thr := upd s.thr t { s.thr t with phase := .finished } }
  | threadEnd {s : State} (s1 : State) (t : Nat) (hph : (s.thr t).phase = .finished) (hr : runDtors t s (List.range s.nN) = .ok s1) :
      Step s (.threadEnd t) { s.withDtors s1 with thr := upd s.thr t { s.thr t with phase := .ended } }
  | ref {s : State} (a h : Nat) (hc : canAct s a) (hlt : h < s.nH) (hw : (s.hdl h).written = true)
      (hf : (s.hdl h).freed = false) :
      Step s (.ref a h) { s with hdl := upd s.hdl h { s.hdl h with
        refCount := (s.hdl h).refCount + refIncrement, userRefs := (s.hdl h).userRefs + 1 } }
  | unref {s : State} (a h : Nat) (hc : canAct s a) (hlt : h < s.nH) (hw : (s.hdl h).written = true)
      (hf : (s.hdl h).freed = false) :
      Step s (.unref a h) { s with
        hdl := upd s.hdl h (unrefd (s.hdl h) false)
        freeLog := if (s.hdl h).refCount = unrefFreesWhenOldIs then s.freeLog ++ [h] else s.freeLog }
  /-- `p_uthread_join` of a handle that is not joinable: −1 at once -/
  | joinDetached {s : State} (a h : Nat) (hc : canAct s a) (hlt : h < s.nH) (hw : (s.hdl h).written = true)
      (hf : (s.hdl h).freed = false) (hj : (s.hdl h).joinable = false) :
      Step s (.join a h) { s with joinLog := s.joinLog ++ [(a, h, -1)] }
  | joinEnded {s : State} (a h : Nat) (hc : canAct s a) (hlt : h < s.nH) (hw : (s.hdl h).written = true)
      (hf : (s.hdl h).freed = false) (hj : (s.hdl h).joinable = true) (hph : (s.thr (s.hdl h).thread).phase = .ended)
      (hjd : (s.hdl h).joined = false) :
      Step s (.join a h) { s with
        hdl := upd s.hdl h { s.hdl h with joined := true }
        joinLog := s.joinLog ++ [(a, h, (s.hdl h).retCode)] }
  | joinFail {s : State} (a h : Nat) (hc : canAct s a) (hlt : h < s.nH) (hw : (s.hdl h).written = true)
      (hf : (s.hdl h).freed = false) (hj : (s.hdl h).joinable = true) :
      Step s (.joinFail a h) { s with joinLog := s.joinLog ++ [(a, h, (s.hdl h).retCode)] }
  | localNew {s : State} (a : Nat) (nf : Bool) (hc : canAct s a) :
      Step s (.localNew a nf) { s with nK := s.nK + 1, key := upd s.key s.nK { notifier := nf } }
  /-- `p_uthread_local_free` of a key that never got a native key -/
  | localFreeUnused {s : State} (a k : Nat) (hc : canAct s a) (hk0 : k ≠ 0) (hlt : k < s.nK)
      (hwf : (s.key k).wrapperFreed = false) (hp : (s.key k).published = none) :
      Step s (.localFree a k) { s with key := upd s.key k { s.key k with wrapperFreed := true } }
  | localFree {s : State} (a k n : Nat) (hc : canAct s a) (hk0 : k ≠ 0) (hlt : k < s.nK)
      (hwf : (s.key k).wrapperFreed = false) (hp : (s.key k).published = some n) :
      Step s (.localFree a k) { s with
        nkey := upd s.nkey n { s.nkey n with
          live := (s.nkey n).live && !localFreeDeletesKey, blockFreed := (s.nkey n).blockFreed || localFreeFreesBlock }
        keyDelLog := s.keyDelLog ++ (if localFreeDeletesKey then [n] else [])
        blockFreeLog := s.blockFreeLog ++ (if localFreeFreesBlock then [n] else [])
        key := upd s.key k { s.key k with wrapperFreed := true } }
  | keyCreate {s : State} (t k : Nat) (hph : (s.thr t).phase = .running ∨ ((s.thr t).phase = .created ∧ k = 0))
      (hpd : (s.thr t).pend = none) (hlt : k < s.nK) (hwf : (s.key k).wrapperFreed = false)
      (hp : (s.key k).published = none) :
      Step s (.keyCreate t k) { s with
        nN := s.nN + 1
        nkey := upd s.nkey s.nN { owner := k, dtor := (s.key k).notifier, live := true }
        thr := upd s.thr t { s.thr t with pend := some (k, s.nN) } }
  | keyCasWin {s : State} (t k n : Nat) (hpd : (s.thr t).pend = some (k, n)) (hwf : (s.key k).wrapperFreed = false)
      (hp : (s.key k).published = none) :
      Step s (.keyCas t k) { s with
        key := upd s.key k { s.key k with published := some n }
        thr := upd s.thr t { s.thr t with pend := none } }
  | keyCasLose {s : State} (t k n m : Nat) (hpd : (s.thr t).pend = some (k, n)) (hwf : (s.key k).wrapperFreed = false)
      (hp : (s.key k).published = some m) :
      Step s (.keyCas t k) { s with
        nkey := upd s.nkey n { s.nkey n with live := !casLoserDeletesKey, blockFreed := casLoserFreesBlock }
        keyDelLog := s.keyDelLog ++ (if casLoserDeletesKey then [n] else [])
        blockFreeLog := s.blockFreeLog ++ (if casLoserFreesBlock then [n] else [])
        key := upd s.key k { s.key k with losers := (s.key k).losers ++ [n] }
        thr := upd s.thr t { s.thr t with pend := none } }
  | setLocal {s : State} (t k v n : Nat) (hc : canAct s t) (hk0 : k ≠ 0) (hlt : k < s.nK)
      (hwf : (s.key k).wrapperFreed = false) (hp : (s.key k).published = some n) :
      Step s (.setLocal t k v) { s with
        dtorLog := s.dtorLog ++ notifyOld s t k n setCallsNotifier, tls := upd2 s.tls t n v }
  | replaceLocal {s : State} (t k v n : Nat) (hc : canAct s t) (hk0 : k ≠ 0) (hlt : k < s.nK)
      (hwf : (s.key k).wrapperFreed = false) (hp : (s.key k).published = some n) :
      Step s (.replaceLocal t k v) { s with
        dtorLog := s.dtorLog ++ notifyOld s t k n replaceCallsNotifier, tls := upd2 s.tls t n v }
  | storeFail {s : State} (t k n : Nat) (r : Bool) (hc : canAct s t) (hk0 : k ≠ 0) (hlt : k < s.nK)
      (hwf : (s.key k).wrapperFreed = false) (hp : (s.key k).published = some n) :
      Step s (.storeFail t k r) { s with
        dtorLog := s.dtorLog ++ notifyOld s t k n (if r then replaceCallsNotifier else setCallsNotifier) }
  | getLocal {s : State} (t k n : Nat) (hc : canAct s t) (hk0 : k ≠ 0) (hlt : k < s.nK)
      (hwf : (s.key k).wrapperFreed = false) (hp : (s.key k).published = some n) :
      Step s (.getLocal t k) { s with getLog := s.getLog ++ [(t, k, s.tls t n)] }
  | tlsFail {s : State} (t k : Nat) (g : Bool) (hc : canAct s t) (hk0 : k ≠ 0) (hlt : k < s.nK)
      (hwf : (s.key k).wrapperFreed = false) (hp : (s.key k).published = none) :
      Step s (.tlsFail t k g) { s with getLog := s.getLog ++ (if g then [(t, k, 0)] else []) }
  | currentFail {s : State} (t : Nat) (hc : canAct s t) (hwf : (s.key 0).wrapperFreed = false) (hv : valueOf s t 0 = 0) :
      Step s (.currentFail t) { s with
        nH := s.nH + 1
        hdl := upd s.hdl s.nH { freed := true, written := true }
        freeLog := s.freeLog ++ [s.nH] }

theorem step_ok {s s' : State} {e : Ev} (h : step s e = .ok s') : Step s e s' := by
  cases e with
  | spawn => cases h; exact .spawn
  | createBegin a j n =>
    simp only [step, createBegin, guard_ok, Decidable.not_not] at h
    obtain ⟨hc, h⟩ := h
    split at h <;> cases h
    exact .createBegin _ _ _ hc ‹_›
  | createEnd a =>
    simp only [step, createEnd] at h
    split at h
    · cases h
    · simp only [guard_ok, Decidable.not_not] at h
      obtain ⟨hby, h⟩ := h
      cases h; exact .createEnd _ _ ‹_› hby
  | createFail a =>
    simp only [step, createFail, guard_ok, Decidable.not_not] at h
    obtain ⟨hc, h⟩ := h
    split at h <;> cases h
    exact .createFail _ hc ‹_›
  | start t =>
    simp only [step, start, guard_ok, not_or, Decidable.not_not] at h
    obtain ⟨⟨hph, hpd⟩, h⟩ := h
    split at h
    · cases h
    split at h
    · cases h
    split at h
    · cases h
    simp only [guard_ok, Bool.not_eq_true] at h
    obtain ⟨hf, h⟩ := h
    cases h; exact .start _ _ _ hph hpd ‹_› (resolve_ok ‹_›).1 (resolve_ok ‹_›).2 ‹_› hf
  | startUnstored t =>
    simp only [step, startUnstored, guard_ok, not_or, Decidable.not_not] at h
    obtain ⟨⟨hph, hpd⟩, h⟩ := h
    split at h
    · cases h
    split at h
    · cases h
    simp only [guard_ok, Decidable.not_not, Bool.not_eq_true] at h
    obtain ⟨hv, hf, h⟩ := h
    cases h; exact .startUnstored _ _ hph hpd ‹_› ‹_› hv hf
  | current t =>
    simp only [step, current, guard_ok, Decidable.not_not] at h
    obtain ⟨hc, h⟩ := h
    split at h <;> cases h
    rename_i n hr
    rw [← currentCore_eq]; exact .current _ _ hc (resolve_ok hr).1 (resolve_ok hr).2
  | exit t c =>
    simp only [step, exit, guard_ok, Decidable.not_not] at h
    obtain ⟨hc, h⟩ := h
    split at h
    · cases h
    rename_i n hr
    simp only [guard_ok, ite_ok_ok, Bool.not_eq_true, Bool.not_eq_false] at h
    obtain ⟨hf, ⟨ho, rfl⟩ | ⟨ho, h⟩⟩ := h
    · rw [← currentCore_eq]; exact .exitForeign _ _ _ hc (resolve_ok hr).1 (resolve_ok hr).2 hf ho
    · cases h; rw [← currentCore_eq]; exact .exitOurs _ _ _ hc (resolve_ok hr).1 (resolve_ok hr).2 hf ho
  | ret t =>
    simp only [step, ret, guard_ok, not_or, Decidable.not_not] at h
    obtain ⟨⟨hc, ht0, hpx⟩, h⟩ := h
    cases h; exact .ret _ hc ht0 hpx
  | retUnstored t h' =>
    simp only [step, retUnstored, guard_ok, not_or, Decidable.not_not] at h
    obtain ⟨⟨hc, hpx⟩, h⟩ := h
    split at h <;> cases h
    rename_i s1 hu
    obtain ⟨hf, rfl⟩ := unrefCore_ok hu
    exact .retUnstored _ _ hc hpx hf
  | threadEnd t =>
    simp only [step, threadEnd, guard_ok, Decidable.not_not] at h
    obtain ⟨hph, h⟩ := h
    split at h <;> cases h
    rename_i s1 hr
    rw [runDtors_eq hr]; exact .threadEnd s1 _ hph hr
  | ref a h' =>
    simp only [step, ref, guard_ok, not_or, Decidable.not_not, Bool.not_eq_false, Bool.not_eq_true] at h
    obtain ⟨⟨hc, hlt, hw⟩, hf, h⟩ := h
    cases h; exact .ref _ _ hc hlt hw hf
  | unref a h' =>
    simp only [step, unref, guard_ok, not_or, Decidable.not_not, Bool.not_eq_false] at h
    obtain ⟨⟨hc, hlt, hw⟩, h⟩ := h
    obtain ⟨hf, rfl⟩ := unrefCore_ok h
    exact .unref _ _ hc hlt hw hf
  | join a h' =>
    simp only [step, join, guard_ok, ite_ok_ok, not_or, Decidable.not_not, Bool.not_eq_true, Bool.not_eq_false] at h
    obtain ⟨⟨hc, hlt, hw⟩, hf, ⟨hj, rfl⟩ | ⟨hj, hph, hjd, h⟩⟩ := h
    · exact .joinDetached _ _ hc hlt hw hf hj
    · cases h; exact .joinEnded _ _ hc hlt hw hf hj hph hjd
  | joinFail a h' =>
    simp only [step, joinFail, guard_ok, not_or, Decidable.not_not, Bool.not_eq_true, Bool.not_eq_false] at h
    obtain ⟨⟨hc, hlt, hw⟩, hf, hj, h⟩ := h
    cases h; exact .joinFail _ _ hc hlt hw hf hj
  | localNew a nf =>
    simp only [step, localNew, guard_ok, Decidable.not_not] at h
    obtain ⟨hc, h⟩ := h
    cases h; exact .localNew _ _ hc
  | localFree a k =>
    simp only [step, localFree, guard_ok, not_or, Decidable.not_not, Bool.not_eq_true] at h
    obtain ⟨⟨hc, hk0, hlt⟩, hwf, h⟩ := h
    split at h <;> cases h
    · exact .localFreeUnused _ _ hc hk0 hlt hwf ‹_›
    · exact .localFree _ _ _ hc hk0 hlt hwf ‹_›
  | keyCreate t k =>
    simp only [step, keyCreate, guard_ok, Decidable.not_not, Bool.not_eq_true] at h
    obtain ⟨⟨hph, hpd, hlt⟩, hwf, h⟩ := h
    split at h <;> cases h
    exact .keyCreate _ _ hph hpd hlt hwf ‹_›
  | keyCas t k =>
    simp only [step, keyCas] at h
    split at h
    · cases h
    rename_i k' n hpd
    simp only [guard_ok, Decidable.not_not, Bool.not_eq_true] at h
    obtain ⟨rfl, hwf, h⟩ := h
    split at h <;> cases h
    · exact .keyCasWin _ _ _ hpd hwf ‹_›
    · exact .keyCasLose _ _ _ _ hpd hwf ‹_›
  | setLocal t k v =>
    simp only [step, setLocal, guard_ok, not_or, Decidable.not_not] at h
    obtain ⟨⟨hc, hk0, hlt⟩, h⟩ := h
    split at h <;> cases h
    rename_i n hr
    exact .setLocal _ _ _ _ hc hk0 hlt (resolve_ok hr).1 (resolve_ok hr).2
  | replaceLocal t k v =>
    simp only [step, replaceLocal, guard_ok, not_or, Decidable.not_not] at h
    obtain ⟨⟨hc, hk0, hlt⟩, h⟩ := h
    split at h <;> cases h
    rename_i n hr
    exact .replaceLocal _ _ _ _ hc hk0 hlt (resolve_ok hr).1 (resolve_ok hr).2
  | storeFail t k r =>
    simp only [step, storeFail, guard_ok, not_or, Decidable.not_not] at h
    obtain ⟨⟨hc, hk0, hlt⟩, h⟩ := h
    split at h <;> cases h
    rename_i n hr
    exact .storeFail _ _ _ _ hc hk0 hlt (resolve_ok hr).1 (resolve_ok hr).2
  | getLocal t k =>
    simp only [step, getLocal, guard_ok, not_or, Decidable.not_not] at h
    obtain ⟨⟨hc, hk0, hlt⟩, h⟩ := h
    split at h <;> cases h
    rename_i n hr
    exact .getLocal _ _ _ hc hk0 hlt (resolve_ok hr).1 (resolve_ok hr).2
  | tlsFail t k g =>
    simp only [step, tlsFail, guard_ok, not_or, Decidable.not_not, Bool.not_eq_true] at h
    obtain ⟨⟨hc, hk0, hlt⟩, hwf, h⟩ := h
    split at h <;> cases h
    have := Step.tlsFail _ _ g hc hk0 hlt hwf ‹_›
    cases g <;> simpa using this
  | currentFail t =>
    simp only [step, currentFail, guard_ok, Decidable.not_not, Bool.not_eq_true] at h
    obtain ⟨hc, hwf, hv, h⟩ := h
    cases h; exact .currentFail _ hc hwf hv

end PV.UThread
