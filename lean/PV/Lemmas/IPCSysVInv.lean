import PV.Lemmas.IPCSysV
/-! One set per name (System V semaphore machine): the binding `Bound`, what each system call does to it, what each
machine step does to it, and the invariant over arbitrary action lists. -/
namespace PV.SysV
open PV.Generated.IPCSysV

/-- key file `f` has inode `i`, whose ftok key names the live set `id`; nothing else refers to `i` / `id`;
    inode numbers are not reused (the oracle is off) -/
structure Bound (os : OS) (f : KeyFile) (i : Ino) (id : SemId) : Prop where
  file : os.files f = some i
  key : os.semKeys (ftokOf i) = some id
  alive : (os.sems id).alive = true
  idlt : id < os.nextSem
  uniq : ∀ k, os.semKeys k = some id → k = ftokOf i
  inj : ∀ g, os.files g = some i → g = f
  ilt : i < os.nextIno
  noreuse : os.reuse = false


/-- the key-file half of a binding (shared with the binding of a segment name): `f` has inode `i`, nothing else has it,
    inode numbers are not reused -/
structure KeyBound (os : OS) (f : KeyFile) (i : Ino) : Prop where
  file : os.files f = some i
  inj : ∀ g, os.files g = some i → g = f
  ilt : i < os.nextIno
  noreuse : os.reuse = false

theorem Bound.keyBound {os : OS} {f : KeyFile} {i : Ino} {id : SemId} (hb : Bound os f i id) : KeyBound os f i :=
  ⟨hb.file, hb.inj, hb.ilt, hb.noreuse⟩

theorem keyBound_open {os : OS} {f : KeyFile} {i : Ino} (hk : KeyBound os f i) (g : KeyFile) (flags : Nat) :
    KeyBound (openF os g flags).1 f i := by
  unfold openF
  cases hg : os.files g with
  | some j => exact ite_both (P := fun x : OS × Res => KeyBound x.1 f i) hk hk
  | none =>
    refine ite_both (P := fun x : OS × Res => KeyBound x.1 f i) (?_) hk
    -- a new file, not `f`, gets a fresh inode number, not `i`
    have hgf : f ≠ g := fun e => by rw [← e, hk.file] at hg; cases hg
    simp only [hk.noreuse]
    refine ⟨(if_neg hgf).trans hk.file, fun g' hg' => ?_, Nat.lt_succ_of_lt hk.ilt, rfl⟩
    simp only at hg'
    split at hg'
    · exact absurd (Option.some.inj hg') (Nat.ne_of_gt hk.ilt)
    · exact hk.inj g' hg'

theorem keyBound_unlink {os : OS} {f : KeyFile} {i : Ino} (hk : KeyBound os f i) {g : KeyFile} (hg : g ≠ f) :
    KeyBound (unlinkF os g).1 f i := by
  unfold unlinkF
  cases os.files g with
  | none => exact hk
  | some j =>
    refine ⟨(if_neg (Ne.symm hg)).trans hk.file, fun g' hg' => ?_, hk.ilt, hk.noreuse⟩
    simp only at hg'
    split at hg'
    · cases hg'
    · exact hk.inj g' hg'

/-- `os'` differs from `os` at most in the key-file tables -/
structure OS.FilesOnly (os os' : OS) : Prop where
  semKeys : os'.semKeys = os.semKeys
  sems : os'.sems = os.sems
  nextSem : os'.nextSem = os.nextSem
  shmKeys : os'.shmKeys = os.shmKeys
  segs : os'.segs = os.segs
  nextSeg : os'.nextSeg = os.nextSeg
  procs : os'.procs = os.procs
  reuse : os'.reuse = os.reuse

theorem openF_frame (os : OS) (g : KeyFile) (flags : Nat) : os.FilesOnly (openF os g flags).1 := by
  unfold openF; (repeat' split) <;> exact ⟨rfl, rfl, rfl, rfl, rfl, rfl, rfl, rfl⟩

theorem unlinkF_frame (os : OS) (g : KeyFile) : os.FilesOnly (unlinkF os g).1 := by
  unfold unlinkF; split <;> exact ⟨rfl, rfl, rfl, rfl, rfl, rfl, rfl, rfl⟩

theorem bound_open (os : OS) (f g : KeyFile) (i : Ino) (id : SemId) (flags : Nat) (hb : Bound os f i id) :
    Bound (openF os g flags).1 f i id := by
  have k := keyBound_open hb.keyBound g flags
  have e := openF_frame os g flags
  exact ⟨k.file, e.semKeys ▸ hb.key, e.sems ▸ hb.alive, e.nextSem ▸ hb.idlt, e.semKeys ▸ hb.uniq, k.inj, k.ilt, k.noreuse⟩

theorem bound_unlink (os : OS) (f g : KeyFile) (i : Ino) (id : SemId) (hb : Bound os f i id) (hg : g ≠ f) :
    Bound (unlinkF os g).1 f i id := by
  have k := keyBound_unlink hb.keyBound hg
  have e := unlinkF_frame os g
  exact ⟨k.file, e.semKeys ▸ hb.key, e.sems ▸ hb.alive, e.nextSem ▸ hb.idlt, e.semKeys ▸ hb.uniq, k.inj, k.ilt, k.noreuse⟩

theorem bound_semget (os : OS) (f : KeyFile) (i : Ino) (id : SemId) (k : Key) (flags : Nat) (hb : Bound os f i id) :
    Bound (semgetF os k flags).1 f i id ∧ ((semgetF os k flags).1.sems id = os.sems id) ∧
    (k ≠ ftokOf i → ∀ j, (semgetF os k flags).2 = .ok j → j ≠ id) := by
  let P (x : OS × Res) := Bound x.1 f i id ∧ x.1.sems id = os.sems id ∧ (k ≠ ftokOf i → ∀ j, x.2 = .ok j → j ≠ id)
  have fails : ∀ e, P (os, .err e) := fun e => ⟨hb, rfl, fun _ _ h => nomatch h⟩
  unfold semgetF
  cases hk : os.semKeys k with
  | some j => exact ite_both (P := P) (fails _) ⟨hb, rfl, fun hne j' h e => hne (hb.uniq k (by cases h; exact e ▸ hk))⟩
  | none =>
    refine ite_both (P := P) (?_) (fails _)
    -- a new set gets the id `nextSem`, which is not `id`, under a key that was free, which is not the key of `i`
    have hne : ftokOf i ≠ k := fun e => by rw [← e, hb.key] at hk; cases hk
    have hid : id ≠ os.nextSem := Nat.ne_of_lt hb.idlt
    refine ⟨⟨hb.file, (if_neg hne).trans hb.key, (congrArg SemSet.alive (if_neg hid)).trans hb.alive, Nat.lt_succ_of_lt hb.idlt,
      fun k' hk' => ?_, hb.inj, hb.ilt, hb.noreuse⟩, if_neg hid, fun _ j h => by cases h; exact Ne.symm hid⟩
    simp only at hk'
    split at hk'
    · exact absurd (Option.some.inj hk').symm hid
    · exact hb.uniq k' hk'

theorem bound_setSem {os : OS} {f : KeyFile} {i : Ino} {id : SemId} (hb : Bound os f i id) (j : SemId) (s' : SemSet)
    (h : j = id → s'.alive = true) : Bound (os.setSem j s') f i id :=
  ⟨hb.file, hb.key, ite_ind (P := fun s : SemSet => s.alive = true) (fun e => h e.symm) fun _ => hb.alive,
    hb.idlt, hb.uniq, hb.inj, hb.ilt, hb.noreuse⟩

/-- `semctl` on another id, or SETVAL on `id` -/
theorem bound_semctl (os : OS) (f : KeyFile) (i : Ino) (id : SemId) (h : Option SemId) (cmd v : Nat) (hb : Bound os f i id)
    (hq : h = some id → cmd ≠ IPC_RMID) :
    Bound (semctlF os h cmd v).1 f i id ∧ (h ≠ some id → (semctlF os h cmd v).1.sems id = os.sems id) := by
  unfold semctlF
  cases ha : semAlive os h with
  | none => exact ⟨hb, fun _ => rfl⟩
  | some j =>
    obtain ⟨rfl, hal⟩ := semAlive_some ha
    let P (x : OS × Res) := Bound x.1 f i id ∧ (some j ≠ some id → x.1.sems id = os.sems id)
    have same : ∀ r, P (os, r) := fun _ => ⟨hb, fun _ => rfl⟩
    have other : some j ≠ some id → id ≠ j := fun hn e => hn (congrArg some e.symm)
    refine ite_both (P := P) (ite_both (P := P) (same _) ⟨bound_setSem hb j _ fun _ => hal, fun hn => if_neg (other hn)⟩)
      (ite_ind (P := P) (fun hc => ?_) fun _ => same _)
    -- IPC_RMID of another set: its key goes, `id` and its key stay
    have e' : id ≠ j := fun e => hq (congrArg some e.symm) hc
    have hb' := bound_setSem hb j { (os.sems j) with alive := false } fun e => absurd e.symm e'
    refine ⟨⟨hb.file, ?_, hb'.alive, hb.idlt, fun k hk => ?_, hb.inj, hb.ilt, hb.noreuse⟩, fun _ => if_neg e'⟩
    · exact (if_neg fun e => e' (Option.some.inj (hb.key.symm.trans e))).trans hb.key
    · simp only at hk
      split at hk
      · cases hk
      · exact hb.uniq k hk

theorem semopF_os (os : OS) (p : Pid) (h : Option SemId) (op : Int) (flg : Nat) :
    (semopF os p h op flg).1 = os ∨
    ∃ j s', semAlive os h = some j ∧ s'.alive = (os.sems j).alive ∧ (semopF os p h op flg).1 = os.setSem j s' := by
  unfold semopF
  cases semAlive os h with
  | none => exact .inl rfl
  | some j =>
    let P (x : OS × Res) := x.1 = os ∨ ∃ j' s', some j = some j' ∧ s'.alive = (os.sems j').alive ∧ x.1 = os.setSem j' s'
    have same : ∀ r, P (os, r) := fun r => .inl rfl
    have upd : ∀ s' r, s'.alive = (os.sems j).alive → P (os.setSem j s', r) := fun s' r e => .inr ⟨j, s', rfl, e, rfl⟩
    (repeat' apply ite_both (P := P)) <;> first | exact same _ | exact upd _ _ rfl

theorem bound_semop (os : OS) (f : KeyFile) (i : Ino) (id : SemId) (p : Pid) (h : Option SemId) (op : Int) (flg : Nat) (hb : Bound os f i id) :
    Bound (semopF os p h op flg).1 f i id ∧ (h ≠ some id → (semopF os p h op flg).1.sems id = os.sems id) := by
  rcases semopF_os os p h op flg with e | ⟨j, s', ha, hs', e⟩ <;> rw [e]
  · exact ⟨hb, fun _ => rfl⟩
  · obtain ⟨rfl, hal⟩ := semAlive_some ha
    exact ⟨bound_setSem hb j s' fun _ => hs'.trans hal, fun hn => if_neg fun e => hn (congrArg some e.symm)⟩

/-- `os'` differs from `os` at most in the set tables -/
structure OS.SemsOnly (os os' : OS) : Prop where
  files : os'.files = os.files
  shmKeys : os'.shmKeys = os.shmKeys
  segs : os'.segs = os.segs
  nextSeg : os'.nextSeg = os.nextSeg
  nextIno : os'.nextIno = os.nextIno
  reuse : os'.reuse = os.reuse
  procs : os'.procs = os.procs

theorem semgetF_frame (os : OS) (k : Key) (flags : Nat) : os.SemsOnly (semgetF os k flags).1 := by
  unfold semgetF
  cases os.semKeys k <;> (repeat' apply ite_both (P := fun x : OS × Res => os.SemsOnly x.1)) <;> exact ⟨rfl, rfl, rfl, rfl, rfl, rfl, rfl⟩

theorem semctlF_frame (os : OS) (id : Option SemId) (cmd v : Nat) : os.SemsOnly (semctlF os id cmd v).1 := by
  unfold semctlF
  cases semAlive os id <;> (repeat' apply ite_both (P := fun x : OS × Res => os.SemsOnly x.1)) <;> exact ⟨rfl, rfl, rfl, rfl, rfl, rfl, rfl⟩

theorem semopF_frame (os : OS) (p : Pid) (id : Option SemId) (o : Int) (flg : Nat) : os.SemsOnly (semopF os p id o flg).1 := by
  rcases semopF_os os p id o flg with e | ⟨j, s', -, -, e⟩ <;> rw [e] <;> exact ⟨rfl, rfl, rfl, rfl, rfl, rfl, rfl⟩

theorem bound_of_eq {os os' : OS} {f : KeyFile} {i : Ino} {id : SemId} (hb : Bound os f i id)
    (h : os'.files = os.files ∧ os'.semKeys = os.semKeys ∧ os'.sems = os.sems ∧ os'.nextSem = os.nextSem ∧
      os'.nextIno = os.nextIno ∧ os'.reuse = os.reuse) : Bound os' f i id := by
  obtain ⟨h1, h2, h3, h4, h5, h6⟩ := h
  exact ⟨h1 ▸ hb.file, h2 ▸ hb.key, h3 ▸ hb.alive, h4 ▸ hb.idlt, h2 ▸ hb.uniq, h1 ▸ hb.inj, h5 ▸ hb.ilt, h6 ▸ hb.noreuse⟩

theorem shm_calls_frame (os : OS) (p : Pid) (k : Key) (size flags name cmd : Nat) (sid : Option SegId) (a : Option Nat) :
    (∀ os', os' = (shmgetF os k size flags name).1 ∨ os' = (shmctlF os sid cmd).1 ∨ os' = (shmatF os p sid flags).1 ∨ os' = (shmdtF os p a).1 →
      os'.files = os.files ∧ os'.semKeys = os.semKeys ∧ os'.sems = os.sems ∧ os'.nextSem = os.nextSem ∧ os'.nextIno = os.nextIno ∧ os'.reuse = os.reuse) := by
  let P (x : OS × Res) := x.1.files = os.files ∧ x.1.semKeys = os.semKeys ∧ x.1.sems = os.sems ∧ x.1.nextSem = os.nextSem ∧
    x.1.nextIno = os.nextIno ∧ x.1.reuse = os.reuse
  have any : ∀ {c : Prop} [Decidable c] {a b : OS × Res}, P a → P b → P (if c then a else b) := ite_both
  intro os' h
  rcases h with h | h | h | h <;> subst h
  · unfold shmgetF
    cases os.shmKeys k <;> (repeat' apply any) <;> exact ⟨rfl, rfl, rfl, rfl, rfl, rfl⟩
  · unfold shmctlF
    cases segAlive os sid <;> (repeat' apply any) <;> exact ⟨rfl, rfl, rfl, rfl, rfl, rfl⟩
  · unfold shmatF
    cases segAlive os sid <;> exact ⟨rfl, rfl, rfl, rfl, rfl, rfl⟩
  · simp only [shmdtF]
    split <;> exact ⟨rfl, rfl, rfl, rfl, rfl, rfl⟩

/-- one system call keeps the binding unless it is `unlink f` or IPC_RMID of `id`; a `semctl` / `semop` on another
    id, and every other call, leaves the set `id` itself (value, adjustments) alone -/
theorem sysStep_bound (p : Pid) (intr : Bool) (c : Sys) (os : OS) (nm : Nat) (f : KeyFile) (i : Ino) (id : SemId) (hb : Bound os f i id)
    (h1 : c ≠ .unlink f) (h2 : ∀ v, c ≠ .semctl (some id) IPC_RMID v) :
    Bound (sysStep p intr c os nm).1 f i id ∧
    ((∀ cmd v, c ≠ .semctl (some id) cmd v) → (∀ n o fl, c ≠ .semop (some id) n o fl) → (sysStep p intr c os nm).1.sems id = os.sems id) := by
  -- the shm calls do not touch anything the binding reads
  have frame : ∀ {os' : OS} {A B : Prop}, (os'.files = os.files ∧ os'.semKeys = os.semKeys ∧ os'.sems = os.sems ∧
      os'.nextSem = os.nextSem ∧ os'.nextIno = os.nextIno ∧ os'.reuse = os.reuse) →
      Bound os' f i id ∧ (A → B → os'.sems id = os.sems id) :=
    fun h => ⟨bound_of_eq hb h, fun _ _ => congrFun h.2.2.1 id⟩
  unfold sysStep
  split
  · exact ⟨hb, fun _ _ => rfl⟩
  · cases c with
    | «open» g fl m => exact ⟨bound_open os f g i id fl hb, fun _ _ => congrFun (openF_frame os g fl).sems id⟩
    | close fd => exact ⟨hb, fun _ _ => rfl⟩
    | stat g => simp only; split <;> exact ⟨hb, fun _ _ => rfl⟩
    | ftok g pr => simp only; split <;> exact ⟨hb, fun _ _ => rfl⟩
    | unlink g => exact ⟨bound_unlink os f g i id hb fun e => h1 (e ▸ rfl), fun _ _ => congrFun (unlinkF_frame os g).sems id⟩
    | semget k n fl => exact ⟨(bound_semget os f i id k fl hb).1, fun _ _ => (bound_semget os f i id k fl hb).2.1⟩
    | semctl h cmd v =>
      have := bound_semctl os f i id h cmd v hb fun e c' => h2 v (e ▸ c' ▸ rfl)
      exact ⟨this.1, fun hn _ => this.2 fun e => hn cmd v (e ▸ rfl)⟩
    | semop h n o fl =>
      have := bound_semop os f i id p h o fl hb
      exact ⟨this.1, fun _ hn => this.2 fun e => hn n o fl (e ▸ rfl)⟩
    | shmget k sz fl => exact frame (shm_calls_frame os p k sz fl nm 0 none none _ (.inl rfl))
    | shmctl sid cmd => exact frame (shm_calls_frame os p 0 0 0 nm cmd sid none _ (.inr (.inl rfl)))
    | shmat sid fl => exact frame (shm_calls_frame os p 0 0 fl nm 0 sid none _ (.inr (.inr (.inl rfl))))
    | shmdt a => exact frame (shm_calls_frame os p 0 0 0 nm 0 none a _ (.inr (.inr (.inr rfl))))


/-- a struct at rest: a handle of `f` refers to `id`, a handle of another name does not -/
def PSem.inv (f : KeyFile) (id : SemId) (h : PSem) : Prop :=
  if h.file = f then h.hdl = some id else h.hdl ≠ some id

/-- a semaphore machine between two of its system calls.  For `f`: a creation in flight is a plain `p_semaphore_new`
    that owns nothing yet and has read the key of `f`'s inode; a semop loop runs on `id`.  For another name: it has not
    created anything before its semget, its key is not `f`'s, and the id it works on is not `id`. -/
def SemSt.inv (f : KeyFile) (i : Ino) (id : SemId) (s : SemSt) : Prop :=
  if s.h.file = f then
    match s.pc with
    | .cOpen | .cStat | .cFtok => s.api = .new ∧ s.h.fileCreated = false ∧ s.h.semCreated = false
    | .cGetExcl | .cGetPlain => s.api = .new ∧ s.h.fileCreated = false ∧ s.h.semCreated = false ∧ s.h.unixKey = some (ftokOf i)
    | .cSetval => s.api = .new ∧ s.h.fileCreated = false ∧ s.h.semCreated = false ∧ s.h.hdl = some id
    | .op => s.h.hdl = some id
    | _ => True
  else
    match s.pc with
    | .cOpen | .cClose _ | .cStat | .cFtok => s.h.semCreated = false ∧ (s.api ≠ .new → s.h.hdl ≠ some id)
    | .cGetExcl | .cGetPlain => s.h.semCreated = false ∧ (s.api ≠ .new → s.h.hdl ≠ some id) ∧ ∃ k, s.h.unixKey = some k ∧ k ≠ ftokOf i
    | .cSetval | .op | .kRmid => s.h.hdl ≠ some id
    | .kUnlink => True

/-- no clean-up of `f` (IPC_RMID of its set, unlink of its key file) is at its system calls: no owner free in flight; nor is
    a machine of `f` at the `close` of a key file it has just created (`cClose`): `SemSt.inv` says nothing there and the step
    sets `file_created`, which the invariant denies a creation of `f` — with `f` bound, `open` answers EEXIST and never leads there -/
def SemSt.quiet (f : KeyFile) (s : SemSt) : Prop :=
  s.h.file = f → s.pc ≠ .kRmid ∧ s.pc ≠ .kUnlink ∧ (∀ fd, s.pc ≠ .cClose fd)

/-- what one transition hands on: the next machine state, or the struct (stored as a handle unless a `p_semaphore_new` failed) -/
def SemOut.inv (f : KeyFile) (i : Ino) (id : SemId) (api : SemApi) : SemOut → Prop
  | .cont s' => s'.inv f i id ∧ s'.api = api
  | .done (h, r) => (api = .new → r = .ok ()) → h.inv f id

section
variable {f : KeyFile} {i : Ino} {id : SemId} {s : SemSt}

/-! The exits of `SemSt.after` run through `startClean`, `afterClean`, `afterGet`, `created`: what each of them hands on
for a machine of another name, and for a `p_semaphore_new` of `f` itself that has arrived at `id` -/

theorem afterClean_foreign (hf : s.h.file ≠ f) : SemOut.inv f i id s.api s.afterClean := by
  have hc : s.h.cleaned.inv f id := (if_neg hf).mpr nofun
  simp only [SemSt.afterClean]
  split
  · exact fun _ => hc
  · split
    · exact fun _ => hc
    · exact fun _ => hc
    · exact ⟨(if_neg hf).mpr ⟨rfl, fun _ => nofun⟩, rfl⟩
    · exact ⟨(if_neg hf).mpr ⟨rfl, fun _ => nofun⟩, rfl⟩

/-- the clean-up removes a set only if this struct created it: then it is not `id` -/
theorem startClean_foreign (hf : s.h.file ≠ f) (h : s.h.semCreated = false ∨ s.h.hdl ≠ some id) :
    SemOut.inv f i id s.api s.startClean :=
  ite_ind (P := SemOut.inv f i id s.api)
    (fun hc => ⟨(if_neg hf).mpr (h.resolve_left fun c => nomatch c.symm.trans (Bool.and_eq_true_iff.mp hc).2), rfl⟩)
    fun _ => ite_both (P := SemOut.inv f i id s.api) ⟨(if_neg hf).mpr trivial, rfl⟩ (afterClean_foreign hf)

/-- `created` hands the struct on as it is: what holds of the struct at rest holds of what comes out -/
theorem created_inv (h : s.h.inv f id) : SemOut.inv f i id s.api s.created := by
  unfold SemSt.created
  split
  · refine ⟨?_, rfl⟩
    by_cases hf : s.h.file = f
    · exact (if_pos hf).mpr ((if_pos hf).mp h)
    · exact (if_neg hf).mpr ((if_neg hf).mp h)
  · exact fun _ => h

theorem afterGet_foreign (hf : s.h.file ≠ f) (h : s.h.hdl ≠ some id) : SemOut.inv f i id s.api s.afterGet :=
  ite_both (P := SemOut.inv f i id s.api) ⟨(if_neg hf).mpr h, rfl⟩ (created_inv ((if_neg hf).mpr h))


theorem afterGet_own (hf : s.h.file = f) (ha : s.api = .new) (fc : s.h.fileCreated = false) (sc : s.h.semCreated = false)
    (h : s.h.hdl = some id) : SemOut.inv f i id s.api s.afterGet :=
  ite_both (P := SemOut.inv f i id s.api) ⟨(if_pos hf).mpr ⟨ha, fc, sc, h⟩, rfl⟩ (created_inv ((if_pos hf).mpr h))

/-- a failing `p_semaphore_new` that owns nothing makes no system call and returns no struct -/
theorem fail_new (e : Errno) (ha : s.api = .new) (fc : s.h.fileCreated = false) (sc : s.h.semCreated = false) :
    SemOut.inv f i id s.api (s.fail e) := by
  simp only [SemSt.fail, SemSt.startClean, SemSt.afterClean, sc, fc, Bool.and_false, Bool.false_eq_true, if_false]
  exact fun h => nomatch h ha

end

theorem sem_after_erange (s : SemSt) (h : s.pc = .op) : s.after (.err .ERANGE) = .done (s.h, .error .ERANGE) := by
  obtain ⟨api, _, _, _, _, _⟩ := s
  cases h
  cases api <;>
    simp [SemSt.after, Errno.num, acquireRetryErrno, releaseRetryErrno, acquireRecreateErrnos, releaseRecreateErrnos, PV.Generated.IPCSysV.ERANGE]

/-- a machine of another name: whatever the result of its system call — provided an `ftok` does not yield `f`'s key and a
    `semget` does not yield `id` — the next state keeps the invariant -/
theorem sem_after_inv_foreign (f : KeyFile) (i : Ino) (id : SemId) (s : SemSt) (r : Res) (hf : s.h.file ≠ f) (hi : s.inv f i id)
    (hr1 : s.pc = .cFtok → ∀ k, r = .ok k → k ≠ ftokOf i)
    (hr2 : (s.pc = .cGetExcl ∨ s.pc = .cGetPlain) → ∀ j, r = .ok j → j ≠ id) :
    SemOut.inv f i id s.api (s.after r) := by
  obtain ⟨api, h, pc, built, failing, recreated⟩ := s
  replace hf : h.file ≠ f := hf
  replace hi := (if_neg hf).mp hi
  -- an error return of a call other than `p_semaphore_new` stores the struct as it is
  have back : ∀ e, (api ≠ .new → h.hdl ≠ some id) → SemOut.inv f i id api (.done (h, .error e)) :=
    fun e hh hn => (if_neg hf).mpr (hh fun ha => nomatch hn ha)
  cases pc with
  | cOpen =>
    cases r with
    | ok fd => exact ⟨(if_neg hf).mpr hi, rfl⟩
    | err e =>
      exact ite_both (P := SemOut.inv f i id api) ⟨(if_neg hf).mpr hi, rfl⟩
        (startClean_foreign hf (.inl hi.1))
    | _ => exact back _ hi.2
  | cClose fd => cases r <;> exact ⟨(if_neg hf).mpr hi, rfl⟩
  | cStat =>
    cases r with
    | ok v => exact ⟨(if_neg hf).mpr hi, rfl⟩
    | _ => exact startClean_foreign hf (.inl hi.1)
  | cFtok =>
    cases r with
    | ok k => exact ⟨(if_neg hf).mpr ⟨hi.1, hi.2, k, rfl, hr1 rfl k rfl⟩, rfl⟩
    | _ => exact startClean_foreign hf (.inl hi.1)
  | cGetExcl =>
    cases r with
    | ok j =>
      exact afterGet_foreign (s := ⟨api, { h with hdl := some j, semCreated := true, fileCreated := built == 1 }, .cGetExcl, built, failing, recreated⟩)
        hf fun e => hr2 (.inl rfl) j rfl (Option.some.inj e)
    | err e =>
      exact ite_both (P := SemOut.inv f i id api) ⟨(if_neg hf).mpr ⟨hi.1, fun _ => nofun, hi.2.2⟩, rfl⟩
        (startClean_foreign hf (.inl hi.1))
    | _ => exact back _ hi.2.1
  | cGetPlain =>
    cases r with
    | ok j =>
      exact afterGet_foreign (s := ⟨api, { h with hdl := some j }, .cGetPlain, built, failing, recreated⟩)
        hf fun e => hr2 (.inr rfl) j rfl (Option.some.inj e)
    | _ =>
      exact startClean_foreign (s := ⟨api, { h with hdl := none }, .cGetPlain, built, some _, recreated⟩) hf (.inl hi.1)
  | cSetval =>
    cases r with
    | ok v => exact created_inv ((if_neg hf).mpr hi)
    | _ => exact startClean_foreign hf (.inr hi)
  | kRmid =>
    cases r <;> exact ite_both (P := SemOut.inv f i id api) ⟨(if_neg hf).mpr trivial, rfl⟩ (afterClean_foreign hf)
  | kUnlink => cases r <;> exact afterClean_foreign hf
  | op =>
    cases r with
    | ok v => exact fun _ => (if_neg hf).mpr hi
    | block => exact ⟨(if_neg hf).mpr hi, rfl⟩
    | stat a b => exact back _ fun _ => hi
    | err e =>
      -- whatever the errno: the loop goes round again, the handle is made anew, or the error is returned
      exact ite_both (P := SemOut.inv f i id api) ⟨(if_neg hf).mpr hi, rfl⟩
        (ite_both (P := SemOut.inv f i id api) (startClean_foreign hf (.inr hi)) (back _ fun _ => hi))

/-- a quiet machine of `f` itself, given what the bound OS answers: `open` EEXIST, `stat` ok, `ftok` the key of `i`,
    exclusive `semget` EEXIST, plain `semget` the id, `semop` never EIDRM / EINVAL -/
theorem sem_after_inv_own (f : KeyFile) (i : Ino) (id : SemId) (s : SemSt) (r : Res) (hf : s.h.file = f) (hi : s.inv f i id)
    (hq : s.quiet f)
    (r1 : s.pc = .cOpen → r = .err .EEXIST) (r2 : s.pc = .cStat → r = .ok 0) (r3 : s.pc = .cFtok → r = .ok (ftokOf i))
    (r4 : s.pc = .cGetExcl → r = .err .EEXIST) (r5 : s.pc = .cGetPlain → r = .ok id)
    (r6 : s.pc = .op → ∀ e, r = .err e → e = .EINTR ∨ e = .ERANGE) :
    SemOut.inv f i id s.api (s.after r) := by
  obtain ⟨api, h, pc, built, failing, recreated⟩ := s
  replace hf : h.file = f := hf
  replace hi := (if_pos hf).mp hi
  obtain ⟨q1, q2, q3⟩ := hq hf
  cases pc with
  | cOpen => cases r1 rfl; exact ⟨(if_pos hf).mpr hi, rfl⟩
  | cStat => cases r2 rfl; exact ⟨(if_pos hf).mpr hi, rfl⟩
  | cFtok => cases r3 rfl; exact ⟨(if_pos hf).mpr ⟨hi.1, hi.2.1, hi.2.2, rfl⟩, rfl⟩
  | cGetExcl => cases r4 rfl; exact ⟨(if_pos hf).mpr hi, rfl⟩
  | cGetPlain =>
    cases r5 rfl
    exact afterGet_own hf hi.1 hi.2.1 hi.2.2.1 rfl
  | cSetval =>
    cases r with
    | ok v => exact created_inv ((if_pos hf).mpr hi.2.2.2)
    | _ => exact fail_new _ hi.1 hi.2.1 hi.2.2.1
  | op =>
    cases r with
    | ok v => exact fun _ => (if_pos hf).mpr hi
    | block => exact ⟨(if_pos hf).mpr hi, rfl⟩
    | stat a b => exact fun _ => (if_pos hf).mpr hi
    | err e =>
      rcases r6 rfl e rfl with rfl | rfl
      · rw [sem_after_eintr _ rfl]; exact ⟨(if_pos hf).mpr hi, rfl⟩
      · rw [sem_after_erange _ rfl]; exact fun _ => (if_pos hf).mpr hi
  | cClose fd => exact absurd rfl (q3 fd)
  | kRmid => exact absurd rfl q1
  | kUnlink => exact absurd rfl q2


theorem sys_open_f (p : Pid) (intr : Bool) (nm m : Nat) (os : OS) (f : KeyFile) (i : Ino) (id : SemId) (hb : Bound os f i id) :
    (sysStep p intr (.open f keyFileOpenFlags m) os nm).2 = .err .EEXIST := by
  simp [sysStep, Sys.interruptible, openF, hb.file, hasFlag, keyFileOpenFlags, O_CREAT, O_EXCL]

theorem sys_stat_ftok_f (p : Pid) (intr : Bool) (nm pr : Nat) (os : OS) (f : KeyFile) (i : Ino) (id : SemId) (hb : Bound os f i id) :
    (sysStep p intr (.stat f) os nm).2 = .ok 0 ∧ (sysStep p intr (.ftok f pr) os nm).2 = .ok (ftokOf i) := by
  simp [sysStep, Sys.interruptible, hb.file]

theorem sys_semget_f (p : Pid) (intr : Bool) (nm n : Nat) (os : OS) (f : KeyFile) (i : Ino) (id : SemId) (hb : Bound os f i id) :
    (sysStep p intr (.semget (ftokOf i) n semgetExclFlags) os nm).2 = .err .EEXIST ∧
    (sysStep p intr (.semget (ftokOf i) n semgetPlainFlags) os nm).2 = .ok id := by
  simp [sysStep, Sys.interruptible, semgetF, hb.key, hasFlag, semgetExclFlags, semgetPlainFlags, IPC_CREAT, IPC_EXCL]

/-- `semop` on a live set: a unit, a wait, ERANGE at SEMVMX, or EINTR — never EIDRM / EINVAL -/
theorem sys_semop_alive (p : Pid) (intr : Bool) (nm n : Nat) (o : Int) (fl : Nat) (os : OS) (id : SemId) (ha : (os.sems id).alive = true) :
    ∀ e, (sysStep p intr (.semop (some id) n o fl) os nm).2 = .err e → e = .EINTR ∨ e = .ERANGE := by
  let P (x : OS × Res) := ∀ e, x.2 = .err e → e = .EINTR ∨ e = .ERANGE
  have no : ∀ os' r, (∀ e, r ≠ .err e) → P (os', r) := fun _ _ h e he => absurd he (h e)
  have erange : ∀ os', P (os', .err .ERANGE) := fun _ e he => .inr (Res.err.inj he).symm
  unfold sysStep
  refine ite_ind (P := P) (fun _ e he => .inl (Res.err.inj he).symm) fun _ => ?_
  simp only [semopF, semAlive, ha, if_true]
  (repeat' apply ite_both (P := P)) <;> first | exact erange _ | exact no _ _ nofun

theorem keyBound_ftok {os : OS} {f : KeyFile} {i : Ino} (hk : KeyBound os f i) (p : Pid) (intr : Bool) (nm pr : Nat) (g : KeyFile) (k : Key)
    (h : (sysStep p intr (.ftok g pr) os nm).2 = .ok k) : k = ftokOf i ↔ g = f := by
  simp only [sysStep, Sys.interruptible, Bool.and_false, Bool.false_eq_true, if_false] at h
  cases hj : os.files g with
  | none => simp [hj] at h
  | some j =>
    simp only [hj, Res.ok.injEq] at h
    subst h
    exact ⟨fun e => hk.inj g ((show j = i from e) ▸ hj), fun e => congrArg ftokOf (Option.some.inj (hj.symm.trans (e ▸ hk.file)))⟩

theorem sys_ftok_foreign (p : Pid) (intr : Bool) (nm pr : Nat) (os : OS) (f g : KeyFile) (i : Ino) (id : SemId) (hb : Bound os f i id) (hg : g ≠ f) :
    ∀ k, (sysStep p intr (.ftok g pr) os nm).2 = .ok k → k ≠ ftokOf i :=
  fun k hk e => hg ((keyBound_ftok hb.keyBound p intr nm pr g k hk).1 e)

theorem sys_semget_foreign (p : Pid) (intr : Bool) (nm n fl : Nat) (os : OS) (f : KeyFile) (i : Ino) (id : SemId) (k : Key) (hb : Bound os f i id)
    (hk : k ≠ ftokOf i) : ∀ j, (sysStep p intr (.semget k n fl) os nm).2 = .ok j → j ≠ id := by
  intro j hj
  simp only [sysStep, Sys.interruptible, Bool.and_false, Bool.false_eq_true, if_false] at hj
  exact (bound_semget os f i id k fl hb).2.2 hk j hj

/-- what a machine of the bound name `f` gets from the bound OS at each of its calls: the hypotheses of `sem_after_inv_own` -/
theorem sem_answers_own (p : Pid) (intr : Bool) (nm : Nat) (s : SemSt) (os : OS) (f : KeyFile) (i : Ino) (id : SemId)
    (hb : Bound os f i id) (hf : s.h.file = f) (hi : s.inv f i id) :
    let r := (sysStep p intr s.next os nm).2
    (s.pc = .cOpen → r = .err .EEXIST) ∧ (s.pc = .cStat → r = .ok 0) ∧ (s.pc = .cFtok → r = .ok (ftokOf i)) ∧
    (s.pc = .cGetExcl → r = .err .EEXIST) ∧ (s.pc = .cGetPlain → r = .ok id) ∧
    (s.pc = .op → ∀ e, r = .err e → e = .EINTR ∨ e = .ERANGE) := by
  intro r
  obtain ⟨api, h, pc, built, failing, recreated⟩ := s
  cases hf
  have hi' := (if_pos rfl).mp hi
  refine ⟨?_, ?_, ?_, ?_, ?_, ?_⟩ <;> intro hpc <;> cases hpc
  · exact sys_open_f p intr nm _ os _ i id hb
  · exact (sys_stat_ftok_f p intr nm 0 os _ i id hb).1
  · exact (sys_stat_ftok_f p intr nm _ os _ i id hb).2
  · show (sysStep p intr (.semget (h.unixKey.getD 0) _ _) os nm).2 = _
    rw [hi'.2.2.2]; exact (sys_semget_f p intr nm _ os _ i id hb).1
  · show (sysStep p intr (.semget (h.unixKey.getD 0) _ _) os nm).2 = _
    rw [hi'.2.2.2]; exact (sys_semget_f p intr nm _ os _ i id hb).2
  · show ∀ e, (sysStep p intr (.semop h.hdl _ _ _) os nm).2 = .err e → _
    rw [show h.hdl = some id from hi']; exact sys_semop_alive p intr nm _ _ _ os id hb.alive

/-- one transition of a semaphore machine (of any name) in a bound OS: the binding stays, the next machine state / the
    struct handed back keeps the invariant, and a machine of another name does not touch the set -/
theorem sem_step_inv (p : Pid) (intr : Bool) (nm : Nat) (s : SemSt) (os : OS) (f : KeyFile) (i : Ino) (id : SemId)
    (hb : Bound os f i id) (hi : s.inv f i id) (hq : s.quiet f) :
    Bound (sysStep p intr s.next os nm).1 f i id ∧ SemOut.inv f i id s.api (s.after (sysStep p intr s.next os nm).2) ∧
    (s.h.file ≠ f → (sysStep p intr s.next os nm).1.sems id = os.sems id) := by
  obtain ⟨api, h, pc, built, failing, recreated⟩ := s
  by_cases hf : h.file = f
  · -- the name itself: the clean-up calls are excluded
    obtain ⟨r1, r2, r3, r4, r5, r6⟩ := sem_answers_own p intr nm _ os f i id hb hf hi
    cases hf
    obtain ⟨q1, q2, q3⟩ := hq rfl
    refine ⟨(sysStep_bound p intr _ os nm _ i id hb ?_ ?_).1, sem_after_inv_own _ i id _ _ rfl hi hq r1 r2 r3 r4 r5 r6,
      fun hn => absurd rfl hn⟩
    · intro e; cases pc <;> first | exact q2 rfl | cases e
    · intro v e; cases pc <;> first | exact q1 rfl | simp [SemSt.next, semSetvalCmd, IPC_RMID] at e
  · -- another name: its calls are not the excluded ones and do not name `id`; `ftok` and `semget` answer with another key, another id
    have hi' := (if_neg hf).mp hi
    have n1 : SemSt.next ⟨api, h, pc, built, failing, recreated⟩ ≠ .unlink f := by
      intro e; cases pc <;> first | exact hf (Sys.unlink.inj e) | cases e
    have n2 : ∀ cmd v, SemSt.next ⟨api, h, pc, built, failing, recreated⟩ ≠ .semctl (some id) cmd v := by
      intro cmd v e; cases pc <;> first | exact hi' (Sys.semctl.inj e).1 | cases e
    have n3 : ∀ n o fl, SemSt.next ⟨api, h, pc, built, failing, recreated⟩ ≠ .semop (some id) n o fl := by
      intro n o fl e; cases pc <;> first | exact hi' (Sys.semop.inj e).1 | cases e
    have hS := sysStep_bound p intr _ os nm f i id hb n1 (fun v => n2 IPC_RMID v)
    refine ⟨hS.1, sem_after_inv_foreign f i id _ _ hf hi ?_ ?_, fun _ => hS.2 n2 n3⟩
    · intro hpc; cases hpc
      exact sys_ftok_foreign p intr nm _ os f h.file i id hb hf
    · intro hpc
      rcases hpc with hpc | hpc <;> cases hpc <;> obtain ⟨-, -, k, hk, hkn⟩ := hi' <;>
        (show ∀ j, (sysStep p intr (.semget (h.unixKey.getD 0) _ _) os nm).2 = .ok j → _
         rw [hk]; exact sys_semget_foreign p intr nm _ _ os f i id k hb hkn)

/-! ### the segment machine: its own system calls do not touch semaphores; its lock-semaphore sub-machine is a `SemSt` -/

def ShmSt.inv (f : KeyFile) (i : Ino) (id : SemId) (s : ShmSt) : Prop :=
  (∀ ps, s.h.sem = some ps → ps.inv f id) ∧
  (match s.pc with
   | .cSem st => st.inv f i id
   | .kSem st => st.inv f i id
   | _ => True)

def ShmSt.quiet (f : KeyFile) (s : ShmSt) : Prop :=
  match s.pc with
  | .cSem st => st.quiet f
  | .kSem st => st.quiet f
  | _ => True

def ShmOut.inv (f : KeyFile) (i : Ino) (id : SemId) : ShmOut → Prop
  | .cont s' => s'.inv f i id
  | .done (h, _) => ∀ ps, h.sem = some ps → ps.inv f id

theorem lockSt_inv (f : KeyFile) (i : Ino) (id : SemId) (s : ShmSt) : s.lockSt.inv f i id := by
  simp only [ShmSt.lockSt, SemSt.inv]
  split <;> simp

theorem startClean_free_inv (f : KeyFile) (i : Ino) (id : SemId) (ps : PSem) (hp : ps.inv f id) (st : SemSt)
    (h : ({ api := .free, h := ps, pc := .kRmid } : SemSt).startClean = .cont st) : st.inv f i id := by
  simp only [SemSt.startClean, SemSt.afterClean] at h
  split at h
  · -- at the IPC_RMID: of another name, so not of `id`
    cases h
    exact ite_prop (fun _ => trivial) fun hf => (if_neg hf).mp hp
  · split at h
    · cases h
      exact ite_prop (fun _ => trivial) fun _ => trivial
    · cases h

theorem shm_clean_inv (f : KeyFile) (i : Ino) (id : SemId) (s : ShmSt) (hs : ∀ ps, s.h.sem = some ps → ps.inv f id) :
    ShmOut.inv f i id s.cleanSem ∧ ShmOut.inv f i id s.cleanFile ∧ ShmOut.inv f i id s.startClean ∧ ShmOut.inv f i id s.afterClean := by
  have h4 : ShmOut.inv f i id s.afterClean := by
    simp only [ShmSt.afterClean]; split <;> exact nofun
  have h1 : ShmOut.inv f i id s.cleanSem := by
    simp only [ShmSt.cleanSem]
    split
    · exact h4
    · split
      · exact ⟨hs, startClean_free_inv f i id _ (hs _ ‹_›) _ ‹_›⟩
      · exact h4
  have h2 : ShmOut.inv f i id s.cleanFile := ite_both (P := ShmOut.inv f i id) ⟨hs, trivial⟩ h1
  exact ⟨h1, h2, ite_both (P := ShmOut.inv f i id) ⟨hs, trivial⟩ h2, h4⟩

/-- a transition of the segment machine at one of its own system calls (any result): the struct's lock handle is carried
    along unchanged or dropped, a lock-semaphore sub-machine starts in a state that keeps the invariant -/
theorem shm_after_inv_plain (f : KeyFile) (i : Ino) (id : SemId) (s : ShmSt) (r : Res) (hs : ∀ ps, s.h.sem = some ps → ps.inv f id)
    (hpc : match s.pc with | .cSem _ => False | .kSem _ => False | _ => True) : ShmOut.inv f i id (s.after r) := by
  obtain ⟨isNew, h, req, pc, built, isExists, failing⟩ := s
  replace hs : ∀ ps, h.sem = some ps → ps.inv f id := hs
  -- the clean-up entry points, for any state that carries the same lock handle
  have clean := fun (s' : ShmSt) (e : s'.h.sem = h.sem) => shm_clean_inv f i id s' (e ▸ hs)
  cases pc with
  | cSem st => exact hpc.elim
  | kSem st => exact hpc.elim
  | cOpen =>
    cases r with
    | ok fd => exact ⟨hs, trivial⟩
    | err e => exact ite_both (P := ShmOut.inv f i id) ⟨hs, trivial⟩ ((clean _ rfl).2.2.1)
    | _ => exact hs
  | cClose fd => cases r <;> exact ⟨hs, trivial⟩
  | cStat =>
    cases r with
    | ok v => exact ⟨hs, trivial⟩
    | _ => exact (clean _ rfl).2.2.1
  | cFtok =>
    cases r with
    | ok k => exact ⟨hs, trivial⟩
    | _ => exact (clean _ rfl).2.2.1
  | cGetExcl =>
    cases r with
    | ok j => exact ⟨hs, trivial⟩
    | err e => exact ite_both (P := ShmOut.inv f i id) ⟨hs, trivial⟩ ((clean _ rfl).2.2.1)
    | _ => exact hs
  | cGetPlain =>
    cases r with
    | ok j => exact ⟨hs, trivial⟩
    | _ => exact (clean ⟨isNew, { h with hdl := none }, req, .cGetPlain, built, isExists, some _⟩ rfl).2.2.1
  | cStatSeg =>
    cases r with
    | stat sz n => exact ⟨hs, trivial⟩
    | _ => exact (clean _ rfl).2.2.1
  | cAt =>
    cases r with
    | ok a => exact ⟨hs, lockSt_inv f i id _⟩
    | _ => exact (clean ⟨isNew, { h with addr := .bad }, req, .cAt, built, isExists, some _⟩ rfl).2.2.1
  | kDt => cases r <;> exact ⟨hs, trivial⟩
  | kStat =>
    cases r with
    | stat sz n => exact ite_both (P := ShmOut.inv f i id) ⟨hs, trivial⟩ ((clean _ rfl).2.1)
    | _ => exact (clean _ rfl).2.1
  | kRmid => cases r <;> exact (clean _ rfl).2.1
  | kUnlink => cases r <;> exact (clean _ rfl).1

/-- at its own system calls the segment machine issues no `semctl` / `semop` and unlinks no semaphore key file: the binding
    and the set are left alone -/
theorem shm_plain_bound (p : Pid) (intr : Bool) (nm : Nat) (s : ShmSt) (os : OS) (f : KeyFile) (i : Ino) (id : SemId)
    (hfs : ∀ n, f ≠ .shm n) (hb : Bound os f i id) (hpc : match s.pc with | .cSem _ => False | .kSem _ => False | _ => True) :
    Bound (sysStep p intr s.next os nm).1 f i id ∧ (sysStep p intr s.next os nm).1.sems id = os.sems id := by
  have n : s.next ≠ .unlink f ∧ (∀ j cmd v, s.next ≠ .semctl j cmd v) ∧ (∀ j n o fl, s.next ≠ .semop j n o fl) := by
    obtain ⟨isNew, h, req, pc, built, isExists, failing⟩ := s
    cases pc with
    | cSem st => exact hpc.elim
    | kSem st => exact hpc.elim
    | kUnlink => exact ⟨fun e => hfs _ (Sys.unlink.inj e).symm, nofun, nofun⟩
    | _ => exact ⟨nofun, nofun, nofun⟩
  have hS := sysStep_bound p intr _ os nm f i id hb n.1 fun v => n.2.1 _ _ v
  exact ⟨hS.1, hS.2 (n.2.1 _) (n.2.2 _)⟩

theorem shm_step_inv (p : Pid) (intr : Bool) (nm : Nat) (s : ShmSt) (os : OS) (f : KeyFile) (i : Ino) (id : SemId) (hfs : ∀ n, f ≠ .shm n)
    (hb : Bound os f i id) (hi : s.inv f i id) (hq : s.quiet f) :
    Bound (sysStep p intr s.next os nm).1 f i id ∧ ShmOut.inv f i id (s.after (sysStep p intr s.next os nm).2) ∧
    (s.file ≠ f → (sysStep p intr s.next os nm).1.sems id = os.sems id) := by
  obtain ⟨isNew, h, req, pc, built, isExists, failing⟩ := s
  obtain ⟨hs, hpc⟩ := hi
  replace hs : ∀ ps, h.sem = some ps → ps.inv f id := hs
  cases pc with
  | cSem st =>
    obtain ⟨h1, h2, h3⟩ := sem_step_inv p intr nm st os f i id hb hpc hq
    refine ⟨h1, ?_, h3⟩
    simp only [ShmSt.next, ShmSt.after]
    generalize st.after _ = o at h2
    rcases o with st' | ⟨ps, _ | _⟩
    · exact ⟨hs, h2.1⟩
    · exact (shm_clean_inv f i id _ hs).2.2.1
    · exact fun ps' hps' => Option.some.inj hps' ▸ h2 fun _ => rfl
  | kSem st =>
    obtain ⟨h1, h2, h3⟩ := sem_step_inv p intr nm st os f i id hb hpc hq
    refine ⟨h1, ?_, h3⟩
    simp only [ShmSt.next, ShmSt.after]
    generalize st.after _ = o at h2
    rcases o with st' | _
    · exact ⟨hs, h2.1⟩
    · exact (shm_clean_inv f i id _ hs).2.2.2
  | _ =>
    all_goals
      exact ⟨(shm_plain_bound p intr nm _ os f i id hfs hb (by trivial)).1, shm_after_inv_plain f i id _ _ hs trivial,
        fun _ => (shm_plain_bound p intr nm _ os f i id hfs hb (by trivial)).2⟩

def Handle.inv (f : KeyFile) (id : SemId) : Handle → Prop
  | .sem h => h.inv f id
  | .shm m => ∀ ps, m.sem = some ps → ps.inv f id

def Call.inv (f : KeyFile) (i : Ino) (id : SemId) : Call → Prop
  | .semNew _ s => s.inv f i id
  | .semFree s => s.inv f i id
  | .semOp _ s => s.inv f i id ∧ s.api ≠ .new
  | .shmNew _ s => s.inv f i id
  | .shmFree s => s.inv f i id
  | .lockOp _ _ s => s.inv f i id ∧ s.api ≠ .new

/-- the call in flight is not at the IPC_RMID / unlink of a clean-up of `f` (no owner free of `f` is running), nor at the
    `close` of a key file `f` it has just created (see `SemSt.quiet`) -/
def Call.quiet (f : KeyFile) : Call → Prop
  | .semNew _ s => s.quiet f
  | .semFree s => s.quiet f
  | .semOp _ s => s.quiet f
  | .shmNew _ s => s.quiet f
  | .shmFree s => s.quiet f
  | .lockOp _ _ s => s.quiet f

def CallOut.inv (f : KeyFile) (i : Ino) (id : SemId) : Out Call (Ret × Option (Hid × Option Handle)) → Prop
  | .cont c' => c'.inv f i id
  | .done (_, some (_, some x)) => x.inv f id
  | .done _ => True

theorem call_step_inv (p : Pid) (intr : Bool) (c : Call) (os : OS) (f : KeyFile) (i : Ino) (id : SemId) (hfs : ∀ n, f ≠ .shm n)
    (hb : Bound os f i id) (hi : c.inv f i id) (hq : c.quiet f) :
    Bound (sysStep p intr c.next os c.name).1 f i id ∧ CallOut.inv f i id (c.after (sysStep p intr c.next os c.name).2) ∧
    (c.file ≠ f → (sysStep p intr c.next os c.name).1.sems id = os.sems id) := by
  cases c with
  | semNew _ s | semFree s =>
    obtain ⟨h1, h2, h3⟩ := sem_step_inv p intr 0 s os f i id hb hi hq
    refine ⟨h1, ?_, h3⟩
    simp only [Call.next, Call.name, Call.after]
    generalize s.after _ = o at h2
    rcases o with s' | ⟨h, _ | _⟩ <;> first | exact h2.1 | trivial | exact h2 fun _ => rfl
  | semOp hid s =>
    obtain ⟨h1, h2, h3⟩ := sem_step_inv p intr 0 s os f i id hb hi.1 hq
    refine ⟨h1, ?_, h3⟩
    simp only [Call.next, Call.name, Call.after]
    generalize s.after _ = o at h2
    rcases o with s' | ⟨h, _⟩
    · exact ⟨h2.1, h2.2 ▸ hi.2⟩
    · exact h2 fun e => absurd e hi.2
  | lockOp hid m s =>
    obtain ⟨h1, h2, h3⟩ := sem_step_inv p intr 0 s os f i id hb hi.1 hq
    refine ⟨h1, ?_, h3⟩
    simp only [Call.next, Call.name, Call.after]
    generalize s.after _ = o at h2
    rcases o with s' | ⟨h, _⟩
    · exact ⟨h2.1, h2.2 ▸ hi.2⟩
    · exact fun ps hps => Option.some.inj hps ▸ h2 fun e => absurd e hi.2
  | shmNew hid s =>
    obtain ⟨h1, h2, h3⟩ := shm_step_inv p intr s.h.name s os f i id hfs hb hi hq
    refine ⟨h1, ?_, h3⟩
    simp only [Call.next, Call.name, Call.after]
    generalize s.after _ = o at h2
    rcases o with s' | ⟨h, _ | _⟩
    · exact h2
    · trivial
    · exact h2
  | shmFree s =>
    obtain ⟨h1, h2, h3⟩ := shm_step_inv p intr 0 s os f i id hfs hb hi hq
    refine ⟨h1, ?_, h3⟩
    simp only [Call.next, Call.name, Call.after]
    generalize s.after _ = o at h2
    rcases o with s' | _
    · exact h2
    · trivial


/-- `f` is bound to `id`; every live struct and every machine in flight (of any thread of any process) respects it -/
structure Inv (f : KeyFile) (i : Ino) (id : SemId) (g : G) : Prop where
  bound : Bound g.os f i id
  hs : ∀ h p x, g.hs h = some (p, x) → x.inv f id
  calls : ∀ t c, g.calls t = some c → c.inv f i id

def Quiet (f : KeyFile) (g : G) : Prop := ∀ t c, g.calls t = some c → c.quiet f

theorem inv_iff_all {f : KeyFile} {i : Ino} {id : SemId} {g : G} :
    Inv f i id g ↔ g.All (Bound · f i id) (Handle.inv f id) (Call.inv f i id) :=
  ⟨fun h => ⟨h.bound, h.hs, h.calls⟩, fun h => ⟨h.os, h.hs, h.calls⟩⟩

theorem inv_step (f : KeyFile) (i : Ino) (id : SemId) (hfs : ∀ n, f ≠ .shm n) (g : G) (t : Tid) (intr : Bool)
    (hi : Inv f i id g) (hq : Quiet f g) : Inv f i id (g.step t intr) := by
  refine inv_iff_all.2 ((inv_iff_all.1 hi).step t intr fun c hc => ?_)
  have := call_step_inv (g.pidOf t) intr c g.os f i id hfs hi.bound (hi.calls t c hc) (hq t c hc)
  exact ⟨this.1, this.2.1⟩

theorem inv_kill (f : KeyFile) (i : Ino) (id : SemId) (g : G) (p : Pid) (hi : Inv f i id g) : Inv f i id (g.kill p) := by
  have hb := hi.bound
  refine inv_iff_all.2 ((inv_iff_all.1 hi).kill p ⟨hb.file, hb.key, ?_, hb.idlt, hb.uniq, hb.inj, hb.ilt, hb.noreuse⟩)
  simp only [OS.kill, hb.alive, if_true]

theorem startOK_inv (f : KeyFile) (i : Ino) (id : SemId) : StartOK (Bound · f i id) (Handle.inv f id) (Call.inv f i id) where
  newSem hid n init m := by
    simp only [Call.inv, SemSt.inv]
    split <;> simp
  newShm hid n size ro := ⟨nofun, trivial⟩
  semOp hid s api ha hs := ⟨hs, ha⟩
  lockOp hid m s api ha hm hs := ⟨hm s hs, ha⟩
  ownSem s hs := hs
  ownShm m hm ps hps := by
    obtain ⟨s0, hs0, rfl⟩ := Option.map_eq_some_iff.mp hps
    exact hm s0 hs0
  freeSem s hs := by
    simp only [semFreeStart]
    split
    · exact startClean_free_inv f i id s hs _ ‹_›
    · trivial
  freeShm m hm := by
    have := (shm_clean_inv f i id ({ isNew := false, h := m, pc := .kDt } : ShmSt) hm).2.2.1
    simp only [shmFreeStart]
    split
    · rwa [‹ShmSt.startClean _ = _›] at this
    · trivial
  store os p a off b os' hb hos := by
    obtain ⟨j, rfl⟩ := store_eq hos
    exact bound_of_eq hb ⟨rfl, rfl, rfl, rfl, rfl, rfl⟩

theorem inv_start (f : KeyFile) (i : Ino) (id : SemId) (g : G) (t : Tid) (op : Op) (hi : Inv f i id g) : Inv f i id (g.start t op) :=
  inv_iff_all.2 ((inv_iff_all.1 hi).start (startOK_inv f i id) t op)

theorem inv_exec (f : KeyFile) (i : Ino) (id : SemId) (hfs : ∀ n, f ≠ .shm n) (g : G) (a : Action)
    (hi : Inv f i id g) (hq : Quiet f g) : Inv f i id (exec g a) := by
  cases a with
  | start t op => exact inv_start f i id g t op hi
  | step t intr => exact inv_step f i id hfs g t intr hi hq
  | kill p => exact inv_kill f i id g p hi

/-- no owner free of `f` in between: before every action of the schedule no call is at the IPC_RMID / unlink of a
    clean-up of `f` (nor at the `cClose` of `SemSt.quiet`) -/
def QuietRun (f : KeyFile) : G → List Action → Prop
  | _, [] => True
  | g, a :: as => Quiet f g ∧ QuietRun f (exec g a) as

theorem inv_execAll (f : KeyFile) (i : Ino) (id : SemId) (hfs : ∀ n, f ≠ .shm n) (as : List Action) :
    ∀ g, Inv f i id g → QuietRun f g as → Inv f i id (execAll g as) :=
  execAll_ind (R := QuietRun f) (fun _ _ _ h => h) (inv_exec f i id hfs) as

end PV.SysV
