import PV.Model.Locks
/-! Where the interpreters of `PV.Model.Atomics` do not give the spec expression verbatim (compare-and-swap,
`fetch_sub (1) == 1`, a comparison result kept in a word); wrapping words; runs of spec operations. -/
namespace PV.Atomics
variable {n : Nat}

theorem interp_cas {i : AtomicImpl} {w a b e d : BitVec n} (hb : i.builtin.isCas = true) (hr : i.ret = .casResult)
    (ho : operandVals a b i.operands = some [e, d]) :
    interp i w a b = some (if w = e then (d, .bool true) else (w, .bool false)) := by
  have hs : builtinSem i.builtin w [e, d] = if w = e then some (d, .flag true) else some (w, .flag false) := by
    unfold Builtin.isCas at hb
    split at hb
    · next h => rw [h]; rfl
    · next h => rw [h]; rfl
    · cases hb
  simp only [interp, ho, hs, hr]
  by_cases h : w = e
  · rw [if_pos h, if_pos h]; rfl
  · rw [if_neg h, if_neg h]; rfl

/-- `dec_and_test` of the lock-free back-ends tests the *old* value against 1 -/
theorem beq_one_eq_sub_one_beq_zero (w : BitVec n) : (w == 1) = (w - 1 == 0) := by
  rw [Bool.eq_iff_iff, beq_iff_eq, beq_iff_eq, BitVec.sub_eq_iff_eq_add]; simp

/-! The statement language keeps a comparison result in a word (C's `int`), tested with `= 0` and returned
as `!= 0`: nothing is lost on a word of at least one bit. -/

theorem one_ne_zero (hn : 0 < n) : (1 : BitVec n) ≠ 0 := fun h => by
  simpa [Nat.ne_of_gt hn] using congrArg BitVec.toNat h

theorem b2w_eq_zero (hn : 0 < n) (c : Bool) : (b2w c : BitVec n) = 0#n ↔ c = false := by
  cases c
  · exact iff_of_true rfl rfl
  · exact iff_of_false (one_ne_zero hn) Bool.noConfusion

theorem b2w_bne_zero (hn : 0 < n) (c : Bool) : ((b2w c : BitVec n) != 0#n) = c := by
  cases c
  · exact bne_self_eq_false _
  · exact bne_iff_ne.2 (one_ne_zero hn)

theorem sub_ofNat_beq_zero (w : BitVec n) {k : Nat} (hk : k ≤ w.toNat) :
    (w - BitVec.ofNat n k == 0) = decide (k = w.toNat) := by
  have hlt := w.isLt
  rw [Bool.eq_iff_iff, beq_iff_eq, decide_eq_true_eq, BitVec.sub_eq_iff_eq_add, ← BitVec.toNat_inj]
  show w.toNat = (0 + k % 2 ^ n) % 2 ^ n ↔ _
  rw [Nat.zero_add, Nat.mod_mod, Nat.mod_eq_of_lt (by omega)]; exact eq_comm

theorem ofNat_inj_of_lt {i j : Nat} (hi : i < 2 ^ n) (hj : j < 2 ^ n) (h : BitVec.ofNat n i = BitVec.ofNat n j) :
    i = j := by
  have h := congrArg BitVec.toNat h
  rwa [BitVec.toNat_ofNat, BitVec.toNat_ofNat, Nat.mod_eq_of_lt hi, Nat.mod_eq_of_lt hj] at h

end PV.Atomics

namespace PV.Locks
open PV.Atomics

theorem specRun_snoc {n : Nat} (w : BitVec n) (l : List (LOp n)) (o : LOp n) :
    specRun w (l ++ [o]) =
      ((spec o.impl.op (specRun w l).1 o.a o.b).1, (specRun w l).2 ++ [(spec o.impl.op (specRun w l).1 o.a o.b).2]) := by
  induction l generalizing w with
  | nil => simp [specRun]
  | cons p rest ih => simp [specRun, ih]

end PV.Locks
