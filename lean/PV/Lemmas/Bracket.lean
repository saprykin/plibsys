import PV.Model.Locks
/-! Linearizability of lock-bracketed bodies (`BStep`), for any number of threads, any bodies. -/
namespace PV.Locks
open PV.Atomics

variable {n : Nat} {ρ : Type}

theorem seqRun_snoc {w0 w1 w2 : BitVec n} {l : List (Tid × Res n ρ)} {rs : List (Tid × ρ)} {t : Tid}
    {prog : Res n ρ} {r : ρ} (h1 : seqRun w0 l = some (w1, rs)) (h2 : runRes prog w1 = some (w2, r)) :
    seqRun w0 (l ++ [(t, prog)]) = some (w2, rs ++ [(t, r)]) := by
  fun_induction seqRun w0 l generalizing rs with
  | case1 => cases h1; simp [seqRun, h2]
  | case2 => cases h1
  | case3 => cases h1
  | case4 _ _ _ _ _ _ hq _ _ hr ih => cases h1; simp [seqRun, hq, ih hr]

def BPC.quiet : BPC n ρ → Prop
  | .idle => True
  | .waiting _ => True
  | _ => False

theorem not_quiet_of_inBody {p : BPC n ρ} {r : Res n ρ} (h : p = .inBody r) : ¬ p.quiet := h ▸ id

structure BInv (w0 : BitVec n) (s : BState n ρ) : Prop where
  owner : ∀ t, ¬ (s.pc t).quiet → s.owner = some t
  /-- what remains of the body, run from the present word, gives what the whole body gives from the word
      that the operations acquired earlier left -/
  body : ∀ t r, s.pc t = .inBody r → ∃ prog acq' w', s.acq = acq' ++ [(t, prog)] ∧
    seqRun w0 acq' = some (w', s.done) ∧ runRes r s.word = runRes prog w'
  rest : (∀ t r, s.pc t ≠ .inBody r) → seqRun w0 s.acq = some (s.word, s.done)

/-- stated on the components, so that no goal carries projections of a structure instance -/
theorem BInv.of {w0 word : BitVec n} {owner : Option Tid} {pc : Tid → BPC n ρ} {acq : List (Tid × Res n ρ)}
    {done : List (Tid × ρ)} (h1 : ∀ t, ¬ (pc t).quiet → owner = some t)
    (h2 : ∀ t r, pc t = .inBody r → ∃ prog acq' w', acq = acq' ++ [(t, prog)] ∧
      seqRun w0 acq' = some (w', done) ∧ runRes r word = runRes prog w')
    (h3 : (∀ t r, pc t ≠ .inBody r) → seqRun w0 acq = some (word, done)) : BInv w0 ⟨word, owner, pc, acq, done⟩ :=
  ⟨h1, h2, h3⟩

theorem BInv.excl {w0 : BitVec n} {s : BState n ρ} (inv : BInv w0 s) {t u : Tid}
    (ht : ¬ (s.pc t).quiet) (hu : ¬ (s.pc u).quiet) : t = u :=
  Option.some.inj ((inv.owner t ht).symm.trans (inv.owner u hu))

theorem BInv.owner_upd {w0 : BitVec n} {s : BState n ρ} (inv : BInv w0 s) {t : Tid}
    (ht : ¬ (s.pc t).quiet) (x : BPC n ρ) (u : Tid) (hu : ¬ (upd s.pc t x u).quiet) : s.owner = some u := by
  by_cases e : u = t
  · rw [e]; exact inv.owner t ht
  · rw [upd_other _ _ _ _ e] at hu; exact inv.owner u hu

theorem BInv.others_quiet {w0 : BitVec n} {s : BState n ρ} (inv : BInv w0 s) {t u : Tid}
    (ht : ¬ (s.pc t).quiet) (e : u ≠ t) : (s.pc u).quiet :=
  Classical.byContradiction fun h => e (inv.excl h ht)

theorem BInv.bodyStep {w0 w' : BitVec n} {s : BState n ρ} (inv : BInv w0 s) {t : Tid} {r r' : Res n ρ}
    (hpc : s.pc t = .inBody r) (hr : runRes r s.word = runRes r' w') :
    BInv w0 { s with word := w', pc := upd s.pc t (.inBody r') } := by
  have ht := not_quiet_of_inBody hpc
  refine .of (inv.owner_upd ht _) (fun u r₁ hu => ?_) fun h => absurd (upd_same _ _ _) (h t r')
  rcases upd_eq_iff.1 hu with ⟨rfl, h⟩ | ⟨e, h⟩
  · cases h
    obtain ⟨prog, acq', w₁, h1, h2, h3⟩ := inv.body u r hpc
    exact ⟨prog, acq', w₁, h1, h2, hr.symm.trans h3⟩
  · exact absurd (inv.others_quiet ht e) (not_quiet_of_inBody h)

theorem BInv.step {Ops : Res n ρ → Prop} {w0 : BitVec n} {s s' : BState n ρ} (inv : BInv w0 s)
    (st : BStep Ops s s') : BInv w0 s' := by
  cases st with
  | call t prog hpc _ =>
    refine .of (fun u hu => ?_) (fun u r hu => ?_) fun h => inv.rest fun u r hu => ?_
    · by_cases e : u = t
      · subst e; rw [upd_same] at hu; exact absurd trivial hu
      · rw [upd_other _ _ _ _ e] at hu; exact inv.owner u hu
    · rcases upd_eq_iff.1 hu with ⟨_, h⟩ | ⟨_, h⟩
      · cases h
      · exact inv.body u r h
    · exact h u r ((upd_other _ _ _ _ fun e => nomatch (e ▸ hpc).symm.trans hu).trans hu)
  | lock t prog hpc ho =>
    -- the mutex was free, so everybody was quiet and `inv.rest` applies: `t` starts its body on that word
    have quiet : ∀ u, (s.pc u).quiet := fun u => Classical.byContradiction fun h => nomatch ho.symm.trans (inv.owner u h)
    refine .of (fun u hu => ?_) (fun u r hu => ?_) fun h => absurd (upd_same _ _ _) (h t prog)
    · by_cases e : u = t
      · rw [e]
      · rw [upd_other _ _ _ _ e] at hu; exact absurd (quiet u) hu
    · rcases upd_eq_iff.1 hu with ⟨rfl, h⟩ | ⟨_, h⟩
      · cases h
        exact ⟨prog, s.acq, s.word, rfl, inv.rest fun v r hv => absurd (quiet v) (not_quiet_of_inBody hv), rfl⟩
      · exact absurd (quiet u) (not_quiet_of_inBody h)
  | load t k hpc => exact inv.bodyStep hpc rfl
  | store t v k hpc => exact inv.bodyStep hpc rfl
  | fin t r hpc =>
    -- nothing remains of the body: by `inv.body` the present word and `r` are what the whole operation gives
    have ht := not_quiet_of_inBody hpc
    refine .of (inv.owner_upd ht _) (fun u r₁ hu => ?_) fun _ => ?_
    · rcases upd_eq_iff.1 hu with ⟨_, h⟩ | ⟨e, h⟩
      · cases h
      · exact absurd (inv.others_quiet ht e) (not_quiet_of_inBody h)
    · obtain ⟨prog, acq', w', h1, h2, h3⟩ := inv.body t _ hpc
      rw [h1]; exact seqRun_snoc h2 h3.symm
  | unlock t r hpc =>
    have ht : ¬ (s.pc t).quiet := by rw [hpc]; exact id
    have quiet : ∀ u, (upd s.pc t .idle u).quiet := fun u => by
      by_cases e : u = t
      · subst e; rw [upd_same]; trivial
      · rw [upd_other _ _ _ _ e]; exact inv.others_quiet ht e
    refine .of (fun u hu => absurd (quiet u) hu) (fun u r₁ hu => absurd (quiet u) (not_quiet_of_inBody hu)) fun _ => ?_
    exact inv.rest fun u r₁ hu => by
      have e : u = t := inv.excl (not_quiet_of_inBody hu) ht
      rw [e, hpc] at hu; cases hu

theorem bInv_reach {Ops : Res n ρ → Prop} {w0 : BitVec n} {s : BState n ρ} (r : BReach Ops w0 s) : BInv w0 s := by
  induction r with
  | init => exact ⟨fun _ h => absurd trivial h, fun _ _ h => (nomatch h), fun _ => rfl⟩
  | step _ st ih => exact ih.step st

/-- at most one thread is inside a body (between lock and unlock) -/
theorem bracket_excl {Ops : Res n ρ → Prop} {w0 : BitVec n} {s : BState n ρ} (r : BReach Ops w0 s) (t u : Tid)
    (ht : ¬ (s.pc t).quiet) (hu : ¬ (s.pc u).quiet) : t = u :=
  (bInv_reach r).excl ht hu

/-- whenever the mutex is free: the word and all return values are those of running the operations one
    at a time in the order of their lock acquisitions -/
theorem bracket_quiescent {Ops : Res n ρ → Prop} {w0 : BitVec n} {s : BState n ρ} (r : BReach Ops w0 s)
    (free : s.owner = none) : seqRun w0 s.acq = some (s.word, s.done) :=
  (bInv_reach r).rest fun t _ h => nomatch free.symm.trans ((bInv_reach r).owner t (not_quiet_of_inBody h))

/-- at any moment: the return values produced so far are those of the sequential execution of a prefix of
    the acquisition order -/
theorem bracket_prefix {Ops : Res n ρ → Prop} {w0 : BitVec n} {s : BState n ρ} (r : BReach Ops w0 s) :
    ∃ k w, seqRun w0 (s.acq.take k) = some (w, s.done) := by
  by_cases h : ∃ t r, s.pc t = .inBody r
  · obtain ⟨t, r', h⟩ := h
    obtain ⟨_, acq', w', h1, h2, _⟩ := (bInv_reach r).body t r' h
    exact ⟨acq'.length, w', by rw [h1, List.take_left]; exact h2⟩
  · exact ⟨s.acq.length, s.word, by rw [List.take_length]; exact (bInv_reach r).rest fun t r' ht => h ⟨t, r', ht⟩⟩

/-- every operation that was started obeys `Ops` -/
theorem bracket_acq_ops {Ops : Res n ρ → Prop} {w0 : BitVec n} {s : BState n ρ} (r : BReach Ops w0 s) :
    (∀ t prog, s.pc t = .waiting prog → Ops prog) ∧ (∀ p ∈ s.acq, Ops p.2) := by
  induction r with
  | init => exact ⟨fun _ _ h => (nomatch h), fun _ h => (nomatch h)⟩
  | @step s _ _ st ih =>
    obtain ⟨ih1, ih2⟩ := ih
    -- no step but `call` makes a thread wait
    have keep : ∀ {t x}, (∀ q, x ≠ .waiting q) → ∀ u q, upd s.pc t x u = .waiting q → Ops q := fun hx _ _ h =>
      (upd_eq_iff.1 h).elim (fun h => absurd h.2 (hx _)) fun h => ih1 _ _ h.2
    cases st with
    | call t prog _ hop =>
      exact ⟨fun u q h => (upd_eq_iff.1 h).elim (fun h => by cases h.2; exact hop) fun h => ih1 u q h.2, ih2⟩
    | lock t prog hpc _ =>
      exact ⟨keep nofun, fun p hp => (List.mem_append.1 hp).elim (ih2 p) fun h => by
        cases List.mem_singleton.1 h; exact ih1 t prog hpc⟩
    | load => exact ⟨keep nofun, ih2⟩
    | store => exact ⟨keep nofun, ih2⟩
    | fin => exact ⟨keep nofun, ih2⟩
    | unlock => exact ⟨keep nofun, ih2⟩

theorem repeat_comm {α : Type} (f : α → α) (i : Nat) (a : α) : Nat.repeat f i (f a) = f (Nat.repeat f i a) := by
  induction i with
  | zero => rfl
  | succ i ih => exact congrArg f ih

/-- operations that all act as `w ↦ (f w, g w)`: the `i`-th result is `g (f^i w)` -/
theorem seqRun_uniform {f : BitVec n → BitVec n} {g : BitVec n → ρ} {l : List (Tid × Res n ρ)}
    (hl : ∀ p ∈ l, ∀ w, runRes p.2 w = some (f w, g w)) {w wf : BitVec n} {rs : List (Tid × ρ)}
    (h : seqRun w l = some (wf, rs)) (i : Nat) (hi : i < rs.length) : (rs[i]).2 = g (Nat.repeat f i w) := by
  induction l generalizing w rs i with
  | nil => cases h; cases hi
  | cons p rest ih =>
    simp only [seqRun, hl p List.mem_cons_self w] at h
    split at h
    · cases h
    · next hr =>
      cases h
      cases i with
      | zero => rfl
      | succ j =>
        exact (ih (fun q hq => hl q (List.mem_cons_of_mem _ hq)) hr j (Nat.lt_of_succ_lt_succ hi)).trans
          (congrArg g (repeat_comm f j w))

theorem bracket_uniform {Ops : Res n ρ → Prop} {w0 : BitVec n} {s : BState n ρ}
    {f : BitVec n → BitVec n} {g : BitVec n → ρ}
    (hops : ∀ prog, Ops prog → ∀ w, runRes prog w = some (f w, g w)) (r : BReach Ops w0 s)
    (i : Nat) (hi : i < s.done.length) : (s.done[i]).2 = g (Nat.repeat f i w0) := by
  obtain ⟨k, w, hk⟩ := bracket_prefix r
  exact seqRun_uniform (fun p hp => hops _ ((bracket_acq_ops r).2 p (List.mem_of_mem_take hp))) hk i hi

/-- `prog` behaves like `fetch_and_add (1)` returning the old value -/
def IsFetchInc (prog : Res n (Ret n)) : Prop := ∀ w, runRes prog w = some (w + 1, Ret.val w)

/-- `prog` behaves like `dec_and_test` -/
def IsDecTest (prog : Res n (Ret n)) : Prop := ∀ w, runRes prog w = some (w - 1, Ret.bool (w - 1 == 0))

theorem repeat_add_one (i : Nat) (w : BitVec n) : Nat.repeat (· + 1) i w = w + BitVec.ofNat n i := by
  induction i with
  | zero => exact (BitVec.add_zero w).symm
  | succ i ih => rw [Nat.repeat, ih, BitVec.add_assoc]; exact congrArg (w + ·) (BitVec.ofNat_add i 1).symm

theorem repeat_sub_one (i : Nat) (w : BitVec n) : Nat.repeat (· - 1) i w = w - BitVec.ofNat n i := by
  induction i with
  | zero => exact (BitVec.sub_zero w).symm
  | succ i ih => rw [Nat.repeat, ih, BitVec.sub_sub]; exact congrArg (w - ·) (BitVec.ofNat_add i 1).symm

end PV.Locks
