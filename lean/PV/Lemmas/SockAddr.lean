import PV.Model.SockAddr
import PV.Spec.SockAddr
/-! Helper lemmas for C17 (socket address conversions): byte order rewritten into `Spec.ofBe16` / `Spec.ofLe32` and their
inverses; buffers and address vectors opened into explicit cells, after which the bounds-checked accessors compute
(`newFromNative_eq_decode`, `toNative_eq_encode`); what `Spec.decode` does on a buffer; IPv4 text by a 256-row table. -/
namespace PV.SockAddr
open PV.Generated

theorem ofBe16_toNat (h l : UInt8) : (Spec.ofBe16 h l).toNat = h.toNat * 256 + l.toNat := by
  have h0 := UInt8.toNat_lt h
  have h1 := UInt8.toNat_lt l
  simp only [Spec.ofBe16, UInt16.toNat_ofNat']
  omega

theorem digits16 (h l : Nat) (hl : l < 256) : (h * 256 + l) / 256 = h ∧ (h * 256 + l) % 256 = l := by
  omega

theorem hi_ofBe16 (h l : UInt8) : Spec.hi (Spec.ofBe16 h l) = h := by
  rw [Spec.hi, ofBe16_toNat, (digits16 _ _ (UInt8.toNat_lt l)).1, UInt8.ofNat_toNat]

theorem lo_ofBe16 (h l : UInt8) : Spec.lo (Spec.ofBe16 h l) = l := by
  rw [Spec.lo, ofBe16_toNat, (digits16 _ _ (UInt8.toNat_lt l)).2, UInt8.ofNat_toNat]

theorem ofBe16_hi_lo (p : UInt16) : Spec.ofBe16 (Spec.hi p) (Spec.lo p) = p := by
  have hp : p.toNat < 65536 := by simpa using p.toNat_lt
  rw [← UInt16.toNat_inj, ofBe16_toNat]
  simp only [Spec.hi, Spec.lo, UInt8.toNat_ofNat']
  omega

theorem swap16_ofBe16 (h l : UInt8) : swap16 (Spec.ofBe16 h l) = Spec.ofBe16 l h := by
  rw [swap16, ofBe16_toNat, (digits16 _ _ (UInt8.toNat_lt l)).1, (digits16 _ _ (UInt8.toNat_lt l)).2]
  rfl

/-- on this little-endian machine the first byte in memory is the low one -/
theorem hostU16_eq (b0 b1 : UInt8) : hostU16 b0 b1 = Spec.ofBe16 b1 b0 :=
  congrArg UInt16.ofNat (by omega)

theorem ntohs_host (h l : UInt8) : ntohs (hostU16 h l) = Spec.ofBe16 h l := by
  rw [hostU16_eq]
  exact swap16_ofBe16 l h

theorem bytesU16_eq (x : UInt16) : bytesU16 x = [Spec.lo x, Spec.hi x] := rfl

theorem bytes_htons (p : UInt16) : bytesU16 (htons p) = [Spec.hi p, Spec.lo p] := by
  have e : htons p = Spec.ofBe16 (Spec.lo p) (Spec.hi p) := by
    conv => lhs; rw [← ofBe16_hi_lo p]
    exact swap16_ofBe16 _ _
  rw [bytesU16_eq, e, lo_ofBe16, hi_ofBe16]

theorem family_eq_iff (b0 b1 f : UInt8) : (hostU16 b0 b1).toNat = f.toNat ↔ b0 = f ∧ b1 = 0 := by
  have h0 := UInt8.toNat_lt b0
  have hf := UInt8.toNat_lt f
  rw [hostU16_eq, ofBe16_toNat, ← UInt8.toNat_inj, ← UInt8.toNat_inj (a := b1)]
  show _ ↔ _ ∧ b1.toNat = 0
  omega

theorem bytesU16_two : bytesU16 2 = [2, 0] := by decide
theorem bytesU16_ten : bytesU16 10 = [10, 0] := by decide

theorem digits32 (x0 x1 x2 x3 : Nat) (h0 : x0 < 256) (h1 : x1 < 256) (h2 : x2 < 256) :
    (x0 + 256 * x1 + 65536 * x2 + 16777216 * x3) % 256 = x0 ∧
    (x0 + 256 * x1 + 65536 * x2 + 16777216 * x3) / 256 % 256 = x1 ∧
    (x0 + 256 * x1 + 65536 * x2 + 16777216 * x3) / 65536 % 256 = x2 ∧
    (x0 + 256 * x1 + 65536 * x2 + 16777216 * x3) / 16777216 = x3 := by
  omega

theorem hostU32_eq (b0 b1 b2 b3 : UInt8) : hostU32 b0 b1 b2 b3 = Spec.ofLe32 b0 b1 b2 b3 := rfl

theorem bytesU32_eq (x : UInt32) : bytesU32 x = Spec.le32 x := rfl

theorem ofLe32_toNat (b0 b1 b2 b3 : UInt8) :
    (Spec.ofLe32 b0 b1 b2 b3).toNat = b0.toNat + 256 * b1.toNat + 65536 * b2.toNat + 16777216 * b3.toNat := by
  have h0 := UInt8.toNat_lt b0
  have h1 := UInt8.toNat_lt b1
  have h2 := UInt8.toNat_lt b2
  have h3 := UInt8.toNat_lt b3
  simp only [Spec.ofLe32, UInt32.toNat_ofNat']
  omega

theorem le32_ofLe32 (b0 b1 b2 b3 : UInt8) : Spec.le32 (Spec.ofLe32 b0 b1 b2 b3) = [b0, b1, b2, b3] := by
  obtain ⟨e0, e1, e2, e3⟩ := digits32 b0.toNat b1.toNat b2.toNat b3.toNat (UInt8.toNat_lt b0) (UInt8.toNat_lt b1) (UInt8.toNat_lt b2)
  simp only [Spec.le32, ofLe32_toNat, e0, e1, e2, e3, UInt8.ofNat_toNat]

theorem ofLe32_le32 (x : UInt32) :
    Spec.ofLe32 (UInt8.ofNat (x.toNat % 256)) (UInt8.ofNat (x.toNat / 256 % 256)) (UInt8.ofNat (x.toNat / 65536 % 256))
      (UInt8.ofNat (x.toNat / 16777216)) = x := by
  have hx : x.toNat < 4294967296 := by simpa using x.toNat_lt
  have h3 : x.toNat / 16777216 < 256 := by omega
  rw [← UInt32.toNat_inj, ofLe32_toNat]
  simp only [UInt8.toNat_ofNat', Nat.reducePow, Nat.mod_mod, Nat.mod_eq_of_lt h3]
  omega

theorem ofLe32_inj (b0 b1 b2 b3 c0 c1 c2 c3 : UInt8) :
    Spec.ofLe32 b0 b1 b2 b3 = Spec.ofLe32 c0 c1 c2 c3 ↔ b0 = c0 ∧ b1 = c1 ∧ b2 = c2 ∧ b3 = c3 := by
  constructor
  · intro h
    simpa [le32_ofLe32] using congrArg Spec.le32 h
  · rintro ⟨rfl, rfl, rfl, rfl⟩
    rfl

theorem ofLe32_eq_zero (b0 b1 b2 b3 : UInt8) : Spec.ofLe32 b0 b1 b2 b3 = 0 ↔ b0 = 0 ∧ b1 = 0 ∧ b2 = 0 ∧ b3 = 0 :=
  ofLe32_inj b0 b1 b2 b3 0 0 0 0

theorem ntohl_host (b0 b1 b2 b3 : UInt8) : ntohl (hostU32 b0 b1 b2 b3) = Spec.ofLe32 b3 b2 b1 b0 := by
  obtain ⟨e0, e1, e2, e3⟩ := digits32 b0.toNat b1.toNat b2.toNat b3.toNat (UInt8.toNat_lt b0) (UInt8.toNat_lt b1) (UInt8.toNat_lt b2)
  simp only [ntohl, SA.littleEndian, if_true, swap32, hostU32_eq, ofLe32_toNat, e0, e1, e2, e3]
  exact congrArg UInt32.ofNat (by omega)

theorem htonl_one : htonl 1 = Spec.ofLe32 0 0 0 1 := by decide

theorem exists_cons4 {α : Type} {l : List α} {n : Nat} (h : n + 4 ≤ l.length) :
    ∃ b0 b1 b2 b3 r, l = b0 :: b1 :: b2 :: b3 :: r ∧ n ≤ r.length :=
  match l, h with
  | b0 :: b1 :: b2 :: b3 :: r, h => ⟨b0, b1, b2, b3, r, rfl, by simpa using h⟩

theorem exists_cons16 {α : Type} {l : List α} {n : Nat} (h : n + 16 ≤ l.length) :
    ∃ b0 b1 b2 b3 b4 b5 b6 b7 b8 b9 b10 b11 b12 b13 b14 b15 r,
      l = b0 :: b1 :: b2 :: b3 :: b4 :: b5 :: b6 :: b7 :: b8 :: b9 :: b10 :: b11 :: b12 :: b13 :: b14 :: b15 :: r ∧
      n ≤ r.length := by
  obtain ⟨b0, b1, b2, b3, l1, rfl, h1⟩ := exists_cons4 (n := n + 12) h
  obtain ⟨b4, b5, b6, b7, l2, rfl, h2⟩ := exists_cons4 (n := n + 8) h1
  obtain ⟨b8, b9, b10, b11, l3, rfl, h3⟩ := exists_cons4 (n := n + 4) h2
  obtain ⟨b12, b13, b14, b15, r, rfl, h4⟩ := exists_cons4 h3
  exact ⟨_, _, _, _, _, _, _, _, _, _, _, _, _, _, _, _, r, rfl, h4⟩

theorem exists_cons28 {α : Type} {l : List α} {n : Nat} (h : n + 28 ≤ l.length) :
    ∃ b0 b1 b2 b3 b4 b5 b6 b7 b8 b9 b10 b11 b12 b13 b14 b15 b16 b17 b18 b19 b20 b21 b22 b23 b24 b25 b26 b27 r,
      l = b0 :: b1 :: b2 :: b3 :: b4 :: b5 :: b6 :: b7 :: b8 :: b9 :: b10 :: b11 :: b12 :: b13 :: b14 :: b15 :: b16 ::
        b17 :: b18 :: b19 :: b20 :: b21 :: b22 :: b23 :: b24 :: b25 :: b26 :: b27 :: r ∧ n ≤ r.length := by
  obtain ⟨b0, b1, b2, b3, b4, b5, b6, b7, b8, b9, b10, b11, b12, b13, b14, b15, l1, rfl, h1⟩ :=
    exists_cons16 (n := n + 12) h
  obtain ⟨b16, b17, b18, b19, l2, rfl, h2⟩ := exists_cons4 (n := n + 8) h1
  obtain ⟨b20, b21, b22, b23, l3, rfl, h3⟩ := exists_cons4 (n := n + 4) h2
  obtain ⟨b24, b25, b26, b27, r, rfl, h4⟩ := exists_cons4 h3
  exact ⟨_, _, _, _, _, _, _, _, _, _, _, _, _, _, _, _, _, _, _, _, _, _, _, _, _, _, _, _, r, rfl, h4⟩

theorem vec4_cases (a : Vector UInt8 4) : ∃ c0 c1 c2 c3, a = #v[c0, c1, c2, c3] := by
  obtain ⟨⟨l⟩, h⟩ := a
  obtain ⟨c0, c1, c2, c3, r, rfl, -⟩ := exists_cons4 (n := 0) (l := l) (by simp at h; omega)
  obtain rfl : r = [] := by simpa using h
  exact ⟨c0, c1, c2, c3, rfl⟩

theorem vec16_cases (a : Vector UInt8 16) : ∃ c0 c1 c2 c3 c4 c5 c6 c7 c8 c9 c10 c11 c12 c13 c14 c15,
    a = #v[c0, c1, c2, c3, c4, c5, c6, c7, c8, c9, c10, c11, c12, c13, c14, c15] := by
  obtain ⟨⟨l⟩, h⟩ := a
  obtain ⟨c0, c1, c2, c3, c4, c5, c6, c7, c8, c9, c10, c11, c12, c13, c14, c15, r, rfl, -⟩ :=
    exists_cons16 (n := 0) (l := l) (by simp at h; omega)
  obtain rfl : r = [] := by simpa using h
  exact ⟨_, _, _, _, _, _, _, _, _, _, _, _, _, _, _, _, rfl⟩

theorem decode_none_of_lt (bytes : List UInt8) (len : Nat) (h : len < 16) : Spec.decode bytes len = none := by
  unfold Spec.decode
  split
  · simp; omega
  · simp; omega
  · rfl

theorem decode_none_of_family (b0 b1 : UInt8) (r : List UInt8) (len : Nat)
    (h4 : ¬ (b0 = 2 ∧ b1 = 0)) (h6 : ¬ (b0 = 10 ∧ b1 = 0)) : Spec.decode (b0 :: b1 :: r) len = none := by
  unfold Spec.decode
  split
  · rename_i heq
    simp only [List.cons.injEq] at heq
    exact absurd ⟨heq.1, heq.2.1⟩ h4
  · rename_i heq
    simp only [List.cons.injEq] at heq
    exact absurd ⟨heq.1, heq.2.1⟩ h6
  · rfl

theorem cons2_of_take {l : List UInt8} {x y : UInt8} (h : l.take 2 = [x, y]) : ∃ r, l = x :: y :: r :=
  match l, h with
  | _ :: _ :: r, h => ⟨r, by simpa using h⟩

theorem decode_inet (bytes : List UInt8) (len : Nat) (hf : bytes.take 2 = [2, 0]) :
    Spec.decode bytes len = if 16 ≤ len then Spec.decode bytes 16 else none := by
  obtain ⟨r, rfl⟩ := cons2_of_take hf
  unfold Spec.decode
  split
  · by_cases h : 16 ≤ len <;> simp [h]
  · rename_i heq
    simp only [List.cons.injEq] at heq
    exact absurd heq.1 (by decide)
  · simp

theorem decode_inet6 (bytes : List UInt8) (len : Nat) (hf : bytes.take 2 = [10, 0]) :
    Spec.decode bytes len = if 28 ≤ len then Spec.decode bytes 28 else none := by
  obtain ⟨r, rfl⟩ := cons2_of_take hf
  unfold Spec.decode
  split
  · rename_i heq
    simp only [List.cons.injEq] at heq
    exact absurd heq.1 (by decide)
  · by_cases h : 28 ≤ len <;> simp [h]
  · simp

section
/- the platform's layout (offsets, sizes, family numbers, configuration flags) is a set of numerals: `simp` puts them in -/
attribute [local simp] SA.afInet SA.afInet6 SA.saFamilyOff SA.sizeofSockaddrIn SA.sizeofSockaddrIn6 SA.sinAddrOff
  SA.sinPortOff SA.sinFamilyOff SA.sinZeroOff SA.sinZeroLen SA.sin6AddrOff SA.sin6FamilyOff SA.sin6PortOff SA.sin6FlowOff
  SA.sin6ScopeOff SA.hasFlowinfo SA.hasScopeId

/-- `p_socket_address_new_from_native` (with the family read guarded by the length) is the layout's inverse -/
theorem newFromNative_eq_decode (bytes : List UInt8) (len : Nat) (hlen : len ≤ bytes.length)
    (hmin : SA.fromNativeMinLen = 2) :
    newFromNative bytes len = .ok (Spec.decode bytes len) := by
  by_cases h2 : len < 2
  · simp [newFromNative, hmin, h2, decode_none_of_lt bytes len (by omega)]
  · obtain ⟨b0, b1, r, rfl⟩ : ∃ b0 b1 r, bytes = b0 :: b1 :: r :=
      match bytes, hlen with
      | b0 :: b1 :: r, _ => ⟨b0, b1, r, rfl⟩
      | [_], h | [], h => absurd (Nat.le_trans (Nat.le_of_not_lt h2) h) (by simp)
    by_cases hf4 : (hostU16 b0 b1).toNat = 2
    · obtain ⟨rfl, rfl⟩ := (family_eq_iff b0 b1 2).1 hf4
      by_cases hl : len < 16
      · simp [newFromNative, hmin, h2, rdU16, rd, hf4, hl, decode_none_of_lt _ len hl]
      · obtain ⟨c0, c1, c2, c3, c4, c5, c6, c7, c8, c9, c10, c11, c12, c13, c14, c15, r', hr, -⟩ :=
          exists_cons16 (n := 0) (l := ((2 : UInt8) :: 0 :: r)) (by omega)
        simp only [List.cons.injEq] at hr
        obtain ⟨rfl, rfl, rfl⟩ := hr
        have hl' : 16 ≤ len := by omega
        simp [newFromNative, hmin, h2, rdU16, rd, hf4, hl, ntohs_host, Spec.decode, hl']
    · by_cases hf6 : (hostU16 b0 b1).toNat = 10
      · obtain ⟨rfl, rfl⟩ := (family_eq_iff b0 b1 10).1 hf6
        by_cases hl : len < 28
        · have hd : Spec.decode (10 :: 0 :: r) len = none := by rw [decode_inet6 _ len rfl, if_neg (by omega)]
          simp [newFromNative, hmin, h2, rdU16, rd, hf6, hl, hd]
        · obtain ⟨c0, c1, c2, c3, c4, c5, c6, c7, c8, c9, c10, c11, c12, c13, c14, c15, c16, c17, c18, c19, c20, c21,
              c22, c23, c24, c25, c26, c27, r', hr, -⟩ :=
            exists_cons28 (n := 0) (l := ((10 : UInt8) :: 0 :: r)) (by omega)
          simp only [List.cons.injEq] at hr
          obtain ⟨rfl, rfl, rfl⟩ := hr
          have hl' : 28 ≤ len := by omega
          simp [newFromNative, hmin, h2, rdU16, rdU32, rd, hf6, hl, ntohs_host, hostU32_eq, Spec.decode, hl']
      · have n4 : ¬ (b0 = 2 ∧ b1 = 0) := fun h => hf4 ((family_eq_iff b0 b1 2).2 h)
        have n6 : ¬ (b0 = 10 ∧ b1 = 0) := fun h => hf6 ((family_eq_iff b0 b1 10).2 h)
        simp [newFromNative, hmin, h2, rdU16, rd, hf4, hf6, decode_none_of_family b0 b1 r len n4 n6]

/-- a conversion into a buffer that is too small fails and leaves the buffer alone -/
theorem toNative_small (a : Addr) (dest : Buf) (destlen : Nat) (h : destlen < nativeSize a) :
    toNative a dest destlen = .ok (false, dest) := by
  by_cases h0 : destlen = 0
  · simp [toNative, h0]
  · cases a with
    | v4 addr port =>
      have : destlen < 16 := h
      simp [toNative, h0, this]
    | v6 addr port flow scope =>
      have : destlen < 28 := h
      simp [toNative, h0, this]

/-- `p_socket_address_to_native` writes exactly the layout and nothing behind it -/
theorem toNative_eq_encode (a : Addr) (dest : Buf) (destlen : Nat) (h1 : nativeSize a ≤ destlen)
    (h2 : destlen ≤ dest.length) :
    toNative a dest destlen = .ok (true, Spec.encode a ++ dest.drop (nativeSize a)) := by
  cases a with
  | v4 addr port =>
    have hs : 16 ≤ destlen := h1
    have h0 : destlen ≠ 0 := by omega
    have hn : ¬ destlen < 16 := by omega
    obtain ⟨a0, a1, a2, a3, rfl⟩ := vec4_cases addr
    obtain ⟨c0, c1, c2, c3, c4, c5, c6, c7, c8, c9, c10, c11, c12, c13, c14, c15, r', rfl, -⟩ :=
      exists_cons16 (n := 0) (l := dest) (by omega)
    simp [toNative, h0, hn, wr, wrU16, bytes_htons, bytesU16_two, Spec.encode, nativeSize]
  | v6 addr port flow scope =>
    have hs : 28 ≤ destlen := h1
    have h0 : destlen ≠ 0 := by omega
    have hn : ¬ destlen < 28 := by omega
    obtain ⟨a0, a1, a2, a3, a4, a5, a6, a7, a8, a9, a10, a11, a12, a13, a14, a15, rfl⟩ := vec16_cases addr
    obtain ⟨c0, c1, c2, c3, c4, c5, c6, c7, c8, c9, c10, c11, c12, c13, c14, c15, c16, c17, c18, c19, c20, c21,
      c22, c23, c24, c25, c26, c27, r', rfl, -⟩ := exists_cons28 (n := 0) (l := dest) (by omega)
    simp [toNative, h0, hn, wr, wrU16, wrU32, bytes_htons, bytesU32_eq, Spec.encode, Spec.le32, nativeSize, bytesU16_ten]

end

theorem encode_length (a : Addr) : (Spec.encode a).length = nativeSize a := by
  cases a <;> simp [Spec.encode, Spec.le32, nativeSize, SA.sizeofSockaddrIn, SA.sizeofSockaddrIn6]

theorem decode_encode (a : Addr) (rest : List UInt8) (n : Nat) (h : nativeSize a ≤ n) :
    Spec.decode (Spec.encode a ++ rest) n = some a := by
  cases a with
  | v4 addr port =>
    have hs : 16 ≤ n := h
    obtain ⟨a0, a1, a2, a3, rfl⟩ := vec4_cases addr
    simp [Spec.encode, Spec.decode, hs, ofBe16_hi_lo]
  | v6 addr port flow scope =>
    have hs : 28 ≤ n := h
    obtain ⟨a0, a1, a2, a3, a4, a5, a6, a7, a8, a9, a10, a11, a12, a13, a14, a15, rfl⟩ := vec16_cases addr
    simp [Spec.encode, Spec.decode, Spec.le32, hs, ofBe16_hi_lo, ofLe32_le32]


/-- a buffer that denotes `a` begins with the native image of `a` (for IPv4 up to `sin_zero`, which is not looked at)
    and the stated length covers it -/
theorem decode_eq_some {bytes : List UInt8} {len : Nat} {a : Addr} (h : Spec.decode bytes len = some a) :
    nativeSize a ≤ len ∧
    ((∃ x p z r, a = .v4 x p ∧ z.length = 8 ∧ bytes = [2, 0, Spec.hi p, Spec.lo p] ++ x.toList ++ z ++ r) ∨
     (∃ x p f s r, a = .v6 x p f s ∧ bytes = Spec.encode a ++ r)) := by
  unfold Spec.decode at h
  split at h
  · split at h
    · injection h with h
      subst h
      rename_i z0 z1 z2 z3 z4 z5 z6 z7 r hlen
      exact ⟨hlen, Or.inl ⟨_, _, [z0, z1, z2, z3, z4, z5, z6, z7], r, rfl, rfl, by simp [hi_ofBe16, lo_ofBe16]⟩⟩
    · exact absurd h (by simp)
  · split at h
    · injection h with h
      subst h
      rename_i r hlen
      exact ⟨hlen, Or.inr ⟨_, _, _, _, r, rfl, by simp [Spec.encode, hi_ofBe16, lo_ofBe16, le32_ofLe32]⟩⟩
    · exact absurd h (by simp)
  · exact absurd h (by simp)

theorem decode_isSome_iff (bytes : List UInt8) (len : Nat) (hb : 28 ≤ bytes.length) (hl : 28 ≤ len) :
    (Spec.decode bytes len).isSome ↔ bytes.take 2 = [10, 0] ∨ bytes.take 2 = [2, 0] := by
  obtain ⟨c0, c1, c2, c3, c4, c5, c6, c7, c8, c9, c10, c11, c12, c13, c14, c15, c16, c17, c18, c19, c20, c21,
    c22, c23, c24, c25, c26, c27, r, rfl, -⟩ := exists_cons28 (n := 0) (l := bytes) (by omega)
  have hl' : 16 ≤ len := by omega
  by_cases h4 : c0 = 2 ∧ c1 = 0
  · obtain ⟨rfl, rfl⟩ := h4
    simp [Spec.decode, hl']
  · by_cases h6 : c0 = 10 ∧ c1 = 0
    · obtain ⟨rfl, rfl⟩ := h6
      simp [Spec.decode, hl]
    · rw [decode_none_of_family c0 c1 _ len h4 h6]
      simpa using And.intro h6 h4

theorem encode_append_take_drop {α : Type} (e dest : List α) (sz k : Nat) (he : e.length = sz) (hk : sz ≤ k) :
    (e ++ dest.drop sz).take k = e ++ (dest.take k).drop sz ∧ (e ++ dest.drop sz).drop k = dest.drop k := by
  constructor
  · rw [List.take_append, he, List.take_of_length_le (by omega), List.drop_take]
  · rw [List.drop_append, he, List.drop_of_length_le (by omega), List.nil_append, List.drop_drop]
    congr 1; omega

theorem decode_take (bytes : List UInt8) (len k : Nat) (hk : 28 ≤ k) (hkl : k ≤ len) (hl : len ≤ bytes.length) :
    Spec.decode bytes len = Spec.decode (bytes.take k) k := by
  obtain ⟨j, rfl⟩ : ∃ j, k = j + 28 := ⟨k - 28, by omega⟩
  obtain ⟨c0, c1, c2, c3, c4, c5, c6, c7, c8, c9, c10, c11, c12, c13, c14, c15, c16, c17, c18, c19, c20, c21,
    c22, c23, c24, c25, c26, c27, r, rfl, -⟩ := exists_cons28 (n := 0) (l := bytes) (by omega)
  simp only [List.take_succ_cons]
  have a1 : 16 ≤ len := by omega
  have a2 : 28 ≤ len := by omega
  by_cases h4 : c0 = 2 ∧ c1 = 0
  · obtain ⟨rfl, rfl⟩ := h4
    simp [Spec.decode, a1]
  · by_cases h6 : c0 = 10 ∧ c1 = 0
    · obtain ⟨rfl, rfl⟩ := h6
      simp [Spec.decode, a2]
    · rw [decode_none_of_family c0 c1 _ len h4 h6, decode_none_of_family c0 c1 _ _ h4 h6]

/-- `x & 0xff000000` is the top octet of a 32-bit value, in place: `&&&` acts on `x / 2^24` and `x % 2^24` apart -/
theorem and_top_octet (n : Nat) : n &&& 0xff000000 = 16777216 * (n / 16777216 % 256) := by
  have h := Nat.and_two_pow_sub_one_eq_mod (n / 16777216) 8
  rw [← Nat.div_add_mod (n &&& 0xff000000) (2 ^ 24), Nat.and_div_two_pow, Nat.and_mod_two_pow]
  simp only [Nat.reducePow, Nat.reduceDiv, Nat.reduceMod, Nat.reduceSub, Nat.and_zero, Nat.add_zero] at h ⊢
  rw [h]

/-- the C code compares 32-bit words; `Spec` looks at the bytes: the same, since `ofLe32` is injective -/
theorem isAny_eq_spec (a : Addr) : isAny a = Spec.isAny a := by
  rw [Bool.eq_iff_iff]
  cases a with
  | v4 a p =>
    obtain ⟨c0, c1, c2, c3, rfl⟩ := vec4_cases a
    simp only [isAny, addr4Host, Vector.getElem_mk, List.getElem_toArray, List.getElem_cons_zero,
      List.getElem_cons_succ, ntohl_host, SA.inaddrAny, beq_iff_eq]
    rw [show (0 : Nat) = (0 : UInt32).toNat from rfl, UInt32.toNat_inj, ofLe32_eq_zero]
    simp [Spec.isAny, Spec.addrBytes]
    exact ⟨fun ⟨h3, h2, h1, h0⟩ => ⟨h0, h1, h2, h3⟩, fun ⟨h0, h1, h2, h3⟩ => ⟨h3, h2, h1, h0⟩⟩
  | v6 a p f s =>
    obtain ⟨c0, c1, c2, c3, c4, c5, c6, c7, c8, c9, c10, c11, c12, c13, c14, c15, rfl⟩ := vec16_cases a
    simp [isAny, Spec.isAny, Spec.addrBytes, word6, hostU32_eq, ofLe32_eq_zero, and_assoc]

theorem isLoopback_eq_spec (a : Addr) : isLoopback a = Spec.isLoopback a := by
  rw [Bool.eq_iff_iff]
  cases a with
  | v4 a p =>
    obtain ⟨c0, c1, c2, c3, rfl⟩ := vec4_cases a
    have h0 := UInt8.toNat_lt c0
    simp only [isLoopback, addr4Host, Vector.getElem_mk, List.getElem_toArray, List.getElem_cons_zero,
      List.getElem_cons_succ, ntohl_host, ofLe32_toNat, SA.loopMask, SA.loopValue, beq_iff_eq, Spec.isLoopback]
    rw [and_top_octet, (digits32 _ _ _ _ (UInt8.toNat_lt c3) (UInt8.toNat_lt c2) (UInt8.toNat_lt c1)).2.2.2, ← UInt8.toNat_inj]
    show _ ↔ c0.toNat = 127
    omega
  | v6 a p f s =>
    obtain ⟨c0, c1, c2, c3, c4, c5, c6, c7, c8, c9, c10, c11, c12, c13, c14, c15, rfl⟩ := vec16_cases a
    simp [isLoopback, Spec.isLoopback, word6, hostU32_eq, ofLe32_eq_zero, htonl_one, ofLe32_inj, and_assoc]

/-- one octet: printing gives decimal digits only, and glibc's digit loop reads the octet back -/
theorem decByte_table : ∀ n, n < 256 →
    parseOctet (decByte (UInt8.ofNat n)) = some (UInt8.ofNat n) ∧
    (∀ c ∈ decByte (UInt8.ofNat n), c ≠ dot ∧ c ≠ 58) := by
  decide +kernel

theorem parseOctet_decByte (b : UInt8) : parseOctet (decByte b) = some b := by
  have := (decByte_table b.toNat (UInt8.toNat_lt b)).1
  rwa [UInt8.ofNat_toNat] at this

theorem decByte_no_dot (b : UInt8) : ∀ c ∈ decByte b, c ≠ dot := by
  have := (decByte_table b.toNat (UInt8.toNat_lt b)).2
  rw [UInt8.ofNat_toNat] at this
  exact fun c hc => (this c hc).1

theorem decByte_no_colon (b : UInt8) : ∀ c ∈ decByte b, c ≠ 58 := by
  have := (decByte_table b.toNat (UInt8.toNat_lt b)).2
  rw [UInt8.ofNat_toNat] at this
  exact fun c hc => (this c hc).2

theorem splitDot_nodot (d : List UInt8) (hd : ∀ c ∈ d, c ≠ dot) : splitDot d = (d, []) := by
  induction d with
  | nil => rfl
  | cons c r ih =>
    have hc : c ≠ dot := hd c (by simp)
    have hr := ih (fun x hx => hd x (by simp [hx]))
    simp [splitDot, hr, hc]

theorem splitDot_append (d : List UInt8) (hd : ∀ c ∈ d, c ≠ dot) (rest : List UInt8) :
    splitDot (d ++ dot :: rest) = (d, (splitDot rest).1 :: (splitDot rest).2) := by
  induction d with
  | nil => simp [splitDot]
  | cons c r ih =>
    have hc : c ≠ dot := hd c (by simp)
    have hr := ih (fun x hx => hd x (by simp [hx]))
    simp [splitDot, hr, hc]

theorem pton4_ntop4 (a : Vector UInt8 4) : pton4 (ntop4 a) = some a := by
  obtain ⟨c0, c1, c2, c3, rfl⟩ := vec4_cases a
  simp only [pton4, ntop4]
  rw [splitDot_append _ (decByte_no_dot _), splitDot_append _ (decByte_no_dot _), splitDot_append _ (decByte_no_dot _),
    splitDot_nodot _ (decByte_no_dot _)]
  simp [parseOctet_decByte]

theorem ntop4_no_colon (a : Vector UInt8 4) : (ntop4 a).contains 58 = false := by
  have h : ∀ b, 58 ∉ decByte b := fun b hb => decByte_no_colon b 58 hb rfl
  have hd : (58 : UInt8) ≠ dot := by decide
  simp [ntop4, h, hd]

end PV.SockAddr
