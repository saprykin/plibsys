import PV.Lemmas.IPCSysVSeg
/-! Attachments: `attached_sysStep` (a struct stays attached unless its own process detaches exactly its address) and the
invariant `AttInv` for one thread per process (fresh addresses, every struct at rest attached, pairwise distinct per process,
no `shmdt` in flight carries the address of a struct at rest) with its per-action lemmas: `G.kill` and every step of the
semaphore calls, of lock / unlock and of `p_shm_new`.  NOT here: `p_shm_free` after its `shmdt`, `G.start`, the lift over
action lists — so `Attached` stays a hypothesis of `C07.same_name_same_bytes_sysv`. -/
namespace PV.SysV
open PV.Generated.IPCSysV

/-- the struct's address is an attachment of the process to the segment `shm_hdl` names -/
def attached (pr : Proc) (m : PShm) : Prop :=
  ∃ a att, m.addr = .at a ∧ findAtt pr a = some att ∧ m.hdl = some att.seg


/-- every call except `shmat` / `shmdt` leaves all attachment lists alone -/
theorem sysStep_procs (p : Pid) (intr : Bool) (c : Sys) (os : OS) (nm : Nat)
    (h1 : ∀ id fl, c ≠ .shmat id fl) (h2 : ∀ a, c ≠ .shmdt a) : (sysStep p intr c os nm).1.procs = os.procs := by
  let P (x : OS × Res) := x.1.procs = os.procs
  unfold sysStep
  split
  · rfl
  · cases c with
    | «open» g fl m => exact (openF_frame os g fl).procs
    | close fd => rfl
    | stat g => simp only; split <;> rfl
    | ftok g pr => simp only; split <;> rfl
    | unlink g => exact (unlinkF_frame os g).procs
    | semget k n fl => exact (semgetF_frame os k fl).procs
    | semctl h cmd v => exact (semctlF_frame os h cmd v).procs
    | semop h n o fl => exact (semopF_frame os p h o fl).procs
    | shmget k sz fl =>
      simp only; unfold shmgetF
      cases os.shmKeys k with
      | some j => exact ite_both (P := P) rfl rfl
      | none => exact ite_both (P := P) (ite_both (P := P) rfl rfl) rfl
    | shmctl h cmd =>
      simp only; unfold shmctlF
      cases segAlive os h with
      | none => rfl
      | some j => exact ite_both (P := P) rfl (ite_both (P := P) rfl rfl)
    | shmat h fl => exact absurd rfl (h1 h fl)
    | shmdt a => exact absurd rfl (h2 a)

/-- a system call of process `p` never touches the attachment list of another process -/
theorem sysStep_procs_other (p q : Pid) (intr : Bool) (c : Sys) (os : OS) (nm : Nat) (hq : q ≠ p) :
    (sysStep p intr c os nm).1.procs q = os.procs q := by
  by_cases h1 : ∃ id fl, c = .shmat id fl
  · obtain ⟨id, fl, rfl⟩ := h1
    simp only [sysStep, Sys.interruptible, Bool.and_false, Bool.false_eq_true, if_false, shmatF]
    split <;> simp [OS.setProc, OS.setSeg, hq]
  · by_cases h2 : ∃ a, c = .shmdt a
    · obtain ⟨a, rfl⟩ := h2
      simp only [sysStep, Sys.interruptible, Bool.and_false, Bool.false_eq_true, if_false, shmdtF]
      split <;> simp [OS.setProc, OS.setSeg, hq]
    · rw [sysStep_procs p intr c os nm (fun id fl e => h1 ⟨id, fl, e⟩) (fun a e => h2 ⟨a, e⟩)]

theorem findAtt_cons_ne (pr : Proc) (x : Att) (a : Nat) (nx : Nat) (h : x.addr ≠ a) :
    findAtt { pr with atts := x :: pr.atts, nextAddr := nx } a = findAtt pr a := by
  simp [findAtt, h]

theorem findAtt_cons_self (pr : Proc) (x : Att) (nx : Nat) :
    findAtt { pr with atts := x :: pr.atts, nextAddr := nx } x.addr = some x := by
  simp [findAtt]

theorem findAtt_filter_ne (pr : Proc) (a b : Nat) (h : a ≠ b) :
    findAtt { pr with atts := pr.atts.filter (fun x => decide (x.addr ≠ b)) } a = findAtt pr a := by
  simp only [findAtt, List.find?_filter]
  congr 1
  funext x
  by_cases e : x.addr = a
  · simp [e, h]
  · simp [e]

theorem findAtt_mem (pr : Proc) (a : Nat) (att : Att) (h : findAtt pr a = some att) : att ∈ pr.atts ∧ att.addr = a := by
  simp only [findAtt] at h
  exact ⟨List.mem_of_find?_eq_some h, by simpa using List.find?_some h⟩


abbrev HS := Hid → Option (Pid × Handle)

/-- no struct at rest of process `p` (other than slot `ex`) carries the address `ad` -/
def Clear (hs : HS) (p : Pid) (ad : Addr) (ex : Option Hid) : Prop :=
  ∀ h m', hs h = some (p, .shm m') → some h ≠ ex → m'.addr ≠ ad

/-- a call in flight of the (one) thread of process `p`: a `p_shm_new` has nothing attached before its `shmat`, holds a fresh
    attachment afterwards, and is failing when it cleans up; a `shmdt` about to be issued never carries the address of a struct
    at rest; a lock / unlock works on a copy of an attached struct -/
def Call.ainv (pr : Proc) (hs : HS) (p : Pid) : Call → Prop
  | .shmNew _ s =>
    match s.pc with
    | .cSem _ => attached pr s.h ∧ Clear hs p s.h.addr none
    | .kDt => s.failing.isSome = true ∧ Clear hs p s.h.addr none
    | .kStat | .kRmid | .kUnlink | .kSem _ => s.failing.isSome = true
    | _ => s.h.addr = .null
  | .shmFree s =>
    match s.pc with
    | .kDt => Clear hs p s.h.addr none
    | .kStat | .kRmid | .kUnlink | .kSem _ => True
    | _ => False
  | .lockOp hid m _ => attached pr m ∧ Clear hs p m.addr (some hid)
  | _ => True

structure AttInv (g : G) : Prop where
  inj : ∀ t t', g.pidOf t = g.pidOf t' → t = t'
  fresh : ∀ p att, att ∈ (g.os.procs p).atts → att.addr < (g.os.procs p).nextAddr
  hs : ∀ h p m, g.hs h = some (p, .shm m) → attached (g.os.procs p) m
  distinct : ∀ h1 h2 p m1 m2, g.hs h1 = some (p, .shm m1) → g.hs h2 = some (p, .shm m2) → m1.addr = m2.addr → h1 = h2
  calls : ∀ t c, g.calls t = some c → c.ainv (g.os.procs (g.pidOf t)) g.hs (g.pidOf t)

theorem clear_mono (hs hs' : HS) (p : Pid) (ad : Addr) (ex : Option Hid)
    (hsub : ∀ h m, hs' h = some (p, .shm m) → ∃ m0, hs h = some (p, .shm m0) ∧ m0.addr = m.addr) (hc : Clear hs p ad ex) : Clear hs' p ad ex := by
  intro h m' hm' hex
  obtain ⟨m0, h0, ha⟩ := hsub h m' hm'
  rw [← ha]; exact hc h m0 h0 hex

theorem ainv_mono (pr : Proc) (hs hs' : HS) (p : Pid) (c : Call)
    (hsub : ∀ h m, hs' h = some (p, .shm m) → ∃ m0, hs h = some (p, .shm m0) ∧ m0.addr = m.addr) (hc : c.ainv pr hs p) : c.ainv pr hs' p := by
  cases c with
  | shmNew hid s =>
    obtain ⟨isNew, h, req, pc, built, isExists, failing⟩ := s
    cases pc with
    | cSem st => exact ⟨hc.1, clear_mono hs hs' p _ _ hsub hc.2⟩
    | kDt => exact ⟨hc.1, clear_mono hs hs' p _ _ hsub hc.2⟩
    | _ => exact hc
  | shmFree s =>
    obtain ⟨isNew, h, req, pc, built, isExists, failing⟩ := s
    cases pc with
    | kDt => exact clear_mono hs hs' p _ _ hsub hc
    | _ => exact hc
  | lockOp hid m s => exact ⟨hc.1, clear_mono hs hs' p _ _ hsub hc.2⟩
  | _ => trivial

/-- same attachment lists, no new segment struct at rest: the invariant carries over, given the invariant of the calls
    that are new -/
theorem attinv_of_sub (g g' : G) (hi : AttInv g) (hp : g'.os.procs = g.os.procs) (hpid : g'.pidOf = g.pidOf)
    (hsub : ∀ h p m, g'.hs h = some (p, .shm m) → ∃ m0, g.hs h = some (p, .shm m0) ∧ m0.addr = m.addr ∧ m0.hdl = m.hdl)
    (hcalls : ∀ t c, g'.calls t = some c → g.calls t = some c ∨ c.ainv (g.os.procs (g.pidOf t)) g'.hs (g.pidOf t)) : AttInv g' := by
  have hsub' : ∀ p h m, g'.hs h = some (p, .shm m) → ∃ m0, g.hs h = some (p, .shm m0) ∧ m0.addr = m.addr := by
    intro p h m hm; obtain ⟨m0, a, b, _⟩ := hsub h p m hm; exact ⟨m0, a, b⟩
  refine ⟨by rw [hpid]; exact hi.inj, by rw [hp]; exact hi.fresh, ?_, ?_, ?_⟩
  · intro h p m hm
    obtain ⟨m0, h0, ha, hh⟩ := hsub h p m hm
    obtain ⟨a, att, e1, e2, e3⟩ := hi.hs h p m0 h0
    rw [hp]
    exact ⟨a, att, by rw [← ha]; exact e1, e2, by rw [← hh]; exact e3⟩
  · intro h1 h2 p m1 m2 e1 e2 ea
    obtain ⟨n1, k1, a1, _⟩ := hsub h1 p m1 e1
    obtain ⟨n2, k2, a2, _⟩ := hsub h2 p m2 e2
    exact hi.distinct h1 h2 p n1 n2 k1 k2 (by rw [a1, a2]; exact ea)
  · intro t c hc
    rw [hp, hpid]
    rcases hcalls t c hc with h | h
    · exact ainv_mono _ g.hs g'.hs _ c (hsub' _) (hi.calls t c h)
    · exact h


def ShmOut.ainv (pr : Proc) (hs : HS) (p : Pid) (hid : Hid) : ShmOut → Prop
  | .cont s' => (Call.shmNew hid s').ainv pr hs p
  | .done (h, .ok ()) => attached pr h ∧ Clear hs p h.addr none
  | .done (_, .error _) => True

/-- clean-up entry points of a failing `p_shm_new` -/
theorem shm_clean_ainv (pr : Proc) (hs : HS) (p : Pid) (hid : Hid) (s : ShmSt) (hf : s.failing.isSome = true) :
    ShmOut.ainv pr hs p hid s.cleanSem ∧ ShmOut.ainv pr hs p hid s.cleanFile ∧ ShmOut.ainv pr hs p hid s.afterClean := by
  have h4 : ShmOut.ainv pr hs p hid s.afterClean := by
    simp only [ShmSt.afterClean]
    cases hfl : s.failing with
    | none => rw [hfl] at hf; cases hf
    | some e => trivial
  have h1 : ShmOut.ainv pr hs p hid s.cleanSem := by
    simp only [ShmSt.cleanSem]
    split
    · exact h4
    · split
      · exact hf
      · exact h4
  refine ⟨h1, ?_, h4⟩
  simp only [ShmSt.cleanFile]; split
  · exact hf
  · exact h1

/-- … and its first step, given that its address is clear of the structs at rest -/
theorem shm_startClean_ainv (pr : Proc) (hs : HS) (p : Pid) (hid : Hid) (s : ShmSt) (hf : s.failing.isSome = true) (hc : Clear hs p s.h.addr none) :
    ShmOut.ainv pr hs p hid s.startClean := by
  simp only [ShmSt.startClean]; split
  · exact ⟨hf, hc⟩
  · exact (shm_clean_ainv pr hs p hid s hf).2.1

theorem clear_null (hs : HS) (p : Pid) (ex : Option Hid) (ad : Addr) (hn : ad = .null ∨ ad = .bad)
    (hat : ∀ h m, hs h = some (p, .shm m) → ∃ a, m.addr = .at a) : Clear hs p ad ex := by
  intro h m' hm' _ e
  obtain ⟨a, ha⟩ := hat h m' hm'
  rw [ha] at e
  rcases hn with hn | hn <;> rw [hn] at e <;> cases e

/-- one transition of a `p_shm_new` at a system call that is neither its `shmat` nor its `shmdt` -/
theorem shmNew_after_ainv (pr : Proc) (hs : HS) (p : Pid) (hid : Hid) (s : ShmSt) (r : Res)
    (hat : ∀ h m, hs h = some (p, .shm m) → ∃ a, m.addr = .at a)
    (hi : (Call.shmNew hid s).ainv pr hs p) (h1 : s.pc ≠ .cAt) (h2 : s.pc ≠ .kDt) : ShmOut.ainv pr hs p hid (s.after r) := by
  obtain ⟨isNew, h, req, pc, built, isExists, failing⟩ := s
  -- a failure before anything is attached: the clean-up starts with an address no struct at rest carries
  have failed : ∀ (h' : PShm) pc' e, h'.addr = .null →
      ShmOut.ainv pr hs p hid (ShmSt.fail ⟨isNew, h', req, pc', built, isExists, failing⟩ e) := fun h' pc' e ha =>
    shm_startClean_ainv pr hs p hid _ rfl (ha ▸ clear_null hs p none _ (.inl rfl) hat)
  cases pc with
  | cAt => exact absurd rfl h1
  | kDt => exact absurd rfl h2
  | cSem st =>
    simp only [ShmSt.after]
    cases hr : st.after r with
    | cont st' => exact hi
    | done x =>
      obtain ⟨ps, e⟩ := x
      cases e with
      | ok u => exact hi
      | error e => exact shm_startClean_ainv pr hs p hid _ rfl hi.2
  | kSem st =>
    simp only [ShmSt.after]
    cases hr : st.after r with
    | cont st' => exact hi
    | done x => exact (shm_clean_ainv pr hs p hid _ hi).2.2
  | cOpen =>
    cases r with
    | ok fd => exact hi
    | err e => exact ite_both (P := ShmOut.ainv pr hs p hid) hi (failed _ _ _ hi)
    | _ => trivial
  | cClose fd => cases r <;> exact hi
  | cStat =>
    cases r with
    | ok v => exact hi
    | _ => exact failed _ _ _ hi
  | cFtok =>
    cases r with
    | ok k => exact hi
    | _ => exact failed _ _ _ hi
  | cGetExcl =>
    cases r with
    | ok j => exact hi
    | err e => exact ite_both (P := ShmOut.ainv pr hs p hid) hi (failed _ _ _ hi)
    | _ => trivial
  | cGetPlain =>
    cases r with
    | ok j => exact hi
    | _ => exact failed _ _ _ hi
  | cStatSeg =>
    cases r with
    | stat sz na => exact hi
    | _ => exact failed _ _ _ hi
  | kStat =>
    cases r with
    | stat sz na => exact ite_both (P := ShmOut.ainv pr hs p hid) hi ((shm_clean_ainv pr hs p hid _ hi).2.1)
    | _ => exact (shm_clean_ainv pr hs p hid _ hi).2.1
  | kRmid => cases r <;> exact (shm_clean_ainv pr hs p hid _ hi).2.1
  | kUnlink => cases r <;> exact (shm_clean_ainv pr hs p hid _ hi).1


/-- One system call of ANY process `q` keeps the struct `m` of process `p` attached — unless it is a `shmdt` of `p` itself
    carrying exactly `m`'s address.  (`shmat` hands out fresh addresses: `hfresh`.) -/
theorem attached_sysStep (p q : Pid) (intr : Bool) (c : Sys) (os : OS) (nm : Nat) (m : PShm)
    (ha : attached (os.procs p) m) (hfresh : ∀ att, att ∈ (os.procs p).atts → att.addr < (os.procs p).nextAddr)
    (hdt : q = p → ∀ a, c = .shmdt (some a) → m.addr ≠ .at a) : attached ((sysStep q intr c os nm).1.procs p) m := by
  by_cases hq : p = q
  · subst hq
    by_cases h1 : ∃ id fl, c = .shmat id fl
    · obtain ⟨id, fl, rfl⟩ := h1
      obtain ⟨a, att, e1, e2, e3⟩ := ha
      have hlt := hfresh att (findAtt_mem _ a att e2).1
      have hadr := (findAtt_mem _ a att e2).2
      simp only [sysStep, Sys.interruptible, Bool.and_false, Bool.false_eq_true, if_false, shmatF]
      split
      · exact ⟨a, att, e1, e2, e3⟩
      · refine ⟨a, att, e1, ?_, e3⟩
        simp only [OS.setProc, OS.setSeg, if_true]
        rw [findAtt_cons_ne]
        · exact e2
        · simp only; omega
    · by_cases h2 : ∃ b, c = .shmdt b
      · obtain ⟨b, rfl⟩ := h2
        obtain ⟨a, att, e1, e2, e3⟩ := ha
        simp only [sysStep, Sys.interruptible, Bool.and_false, Bool.false_eq_true, if_false, shmdtF]
        split
        · exact ⟨a, att, e1, e2, e3⟩
        · rename_i x hx
          refine ⟨a, att, e1, ?_, e3⟩
          simp only [OS.setProc, OS.setSeg, if_true]
          cases b with
          | none => simp at hx
          | some b' =>
            simp only [Option.bind_some] at hx
            have hxa : x.addr = b' := by simpa using List.find?_some hx
            have hne : a ≠ b' := by
              intro e; subst e
              exact hdt rfl a rfl e1
            rw [hxa]
            rw [findAtt_filter_ne _ a b' hne]
            exact e2
      · rw [sysStep_procs p intr c os nm (fun id fl e => h1 ⟨id, fl, e⟩) (fun a e => h2 ⟨a, e⟩)]
        exact ha
  · rw [sysStep_procs_other q p intr c os nm hq]
    exact ha


theorem attinv_kill (g : G) (q : Pid) (hi : AttInv g) : AttInv (g.kill q) := by
  have hprocs : ∀ p, p ≠ q → (g.kill q).os.procs p = g.os.procs p := by
    intro p hp; simp [G.kill, OS.kill, hp]
  refine ⟨hi.inj, ?_, ?_, ?_, ?_⟩
  · intro p att hatt
    by_cases hp : p = q
    · subst hp; simp [G.kill, OS.kill] at hatt
    · rw [hprocs p hp] at hatt ⊢; exact hi.fresh p att hatt
  · intro h p m hm
    obtain ⟨h0, hp⟩ := kill_hs hm
    rw [hprocs p hp]; exact hi.hs h p m h0
  · intro h1 h2 p m1 m2 e1 e2 ea
    exact hi.distinct h1 h2 p m1 m2 (kill_hs e1).1 (kill_hs e2).1 ea
  · intro t c hc
    obtain ⟨hc, hp⟩ := kill_calls hc
    rw [show (g.kill q).pidOf t = g.pidOf t from rfl, hprocs _ hp]
    exact ainv_mono _ g.hs _ _ c (fun h m hm => ⟨m, (kill_hs hm).1, rfl⟩) (hi.calls t c hc)

/-- a step that changes no attachment list and does not store a segment struct -/
theorem attinv_step_plain (g : G) (t : Tid) (intr : Bool) (c : Call) (hi : AttInv g) (hc : g.calls t = some c)
    (hproc : (sysStep (g.pidOf t) intr c.next g.os c.name).1.procs = g.os.procs)
    (hout : match c.after (sysStep (g.pidOf t) intr c.next g.os c.name).2 with
            | .cont c' => c'.ainv (g.os.procs (g.pidOf t)) g.hs (g.pidOf t)
            | .done (_, some (_, some (.shm _))) => False
            | _ => True) : AttInv (g.step t intr) := by
  rw [step_eq g t intr c hc]
  refine attinv_of_sub g _ hi (by rw [startOut_os]; exact hproc) (startOut_pidOf ..) (fun h p m hm => ?_) fun t' c' h' => ?_
  · rcases startOut_hs_shm hm with e | ⟨ret, e, -⟩
    · exact ⟨m, e, rfl, rfl⟩
    · rw [e] at hout; exact hout.elim
  · rcases startOut_calls h' with e | ⟨rfl, e⟩
    · simp only [G.setCall] at e
      split at e
      · cases e
      · exact .inl e
    · rw [e] at hout
      simp only [e]
      exact .inr hout

/-- a step of the thread of process `p` that changes `p`'s attachment list but stores no struct -/
theorem attinv_step_procs (g : G) (t : Tid) (intr : Bool) (c c' : Call) (hi : AttInv g) (hc : g.calls t = some c)
    (hr : c.after (sysStep (g.pidOf t) intr c.next g.os c.name).2 = .cont c')
    (hfresh : ∀ att, att ∈ ((sysStep (g.pidOf t) intr c.next g.os c.name).1.procs (g.pidOf t)).atts →
      att.addr < ((sysStep (g.pidOf t) intr c.next g.os c.name).1.procs (g.pidOf t)).nextAddr)
    (hkeep : ∀ h m, g.hs h = some (g.pidOf t, .shm m) → attached ((sysStep (g.pidOf t) intr c.next g.os c.name).1.procs (g.pidOf t)) m)
    (hnew : c'.ainv ((sysStep (g.pidOf t) intr c.next g.os c.name).1.procs (g.pidOf t)) g.hs (g.pidOf t)) :
    AttInv (g.step t intr) := by
  have hos := step_os g t intr c hc
  have hother : ∀ q, q ≠ g.pidOf t → (sysStep (g.pidOf t) intr c.next g.os c.name).1.procs q = g.os.procs q :=
    fun q hq => sysStep_procs_other (g.pidOf t) q intr c.next g.os c.name hq
  simp only [G.step, hc, hr] at hos ⊢
  refine ⟨hi.inj, ?_, ?_, hi.distinct, ?_⟩
  · intro p att hatt
    simp only [G.setCall] at hatt ⊢
    by_cases hp : p = g.pidOf t
    · subst hp; exact hfresh att hatt
    · rw [hother p hp] at hatt ⊢; exact hi.fresh p att hatt
  · intro h p m hm
    simp only [G.setCall] at hm ⊢
    by_cases hp : p = g.pidOf t
    · subst hp; exact hkeep h m hm
    · rw [hother p hp]; exact hi.hs h p m hm
  · intro t' c'' h'
    simp only [G.setCall] at h' ⊢
    split at h'
    · rename_i e
      simp only [Option.some.injEq] at h'
      subst h'; subst e
      exact hnew
    · rename_i e
      have hp : g.pidOf t' ≠ g.pidOf t := fun e' => e (hi.inj t' t e')
      rw [hother _ hp]
      exact hi.calls t' c'' h'

/-- `shmdt (a)` of process `p`: the list shrinks, the next address stays -/
theorem shmdt_atts (os : OS) (p : Pid) (intr : Bool) (nm : Nat) (b : Option Nat) :
    (∀ att, att ∈ ((sysStep p intr (.shmdt b) os nm).1.procs p).atts → att ∈ (os.procs p).atts) ∧
    ((sysStep p intr (.shmdt b) os nm).1.procs p).nextAddr = (os.procs p).nextAddr := by
  simp only [sysStep, Sys.interruptible, Bool.and_false, Bool.false_eq_true, if_false, shmdtF]
  split
  · exact ⟨fun _ h => h, rfl⟩
  · simp only [OS.setProc, OS.setSeg, if_true]
    exact ⟨fun att h => (List.mem_filter.mp h).1, trivial⟩

/-- the `shmdt` step of a clean-up whose address is clear of the structs at rest -/
theorem attinv_step_shmdt (g : G) (t : Tid) (intr : Bool) (c c' : Call) (s : ShmSt) (hi : AttInv g) (hc : g.calls t = some c)
    (hn : c.next = .shmdt (addrOpt s.h.addr)) (hclear : Clear g.hs (g.pidOf t) s.h.addr none)
    (hr : c.after (sysStep (g.pidOf t) intr c.next g.os c.name).2 = .cont c')
    (hnew : ∀ pr, c'.ainv pr g.hs (g.pidOf t)) : AttInv (g.step t intr) := by
  refine attinv_step_procs g t intr c c' hi hc hr ?_ ?_ (hnew _)
  · intro att hatt
    rw [hn] at hatt ⊢
    have := shmdt_atts g.os (g.pidOf t) intr c.name (addrOpt s.h.addr)
    rw [this.2]
    exact hi.fresh _ att (this.1 att hatt)
  · intro h m hm
    refine attached_sysStep (g.pidOf t) (g.pidOf t) intr c.next g.os c.name m (hi.hs h _ m hm) (hi.fresh _) ?_
    intro _ a ha
    rw [hn] at ha
    simp only [Sys.shmdt.injEq] at ha
    have hne := hclear h m hm (by simp)
    intro e
    apply hne
    rw [e]
    cases hsa : s.h.addr with
    | null => rw [hsa] at ha; simp [addrOpt] at ha
    | bad => rw [hsa] at ha; simp [addrOpt] at ha
    | «at» a' => rw [hsa] at ha; simp only [addrOpt, Option.some.injEq] at ha; rw [ha]

/-- a completion that stores a segment struct (of `p_shm_new`, or of a lock / unlock) -/
theorem attinv_step_store (g : G) (t : Tid) (intr : Bool) (c : Call) (hid : Hid) (m : PShm) (ret : Ret) (hi : AttInv g)
    (hc : g.calls t = some c) (hproc : (sysStep (g.pidOf t) intr c.next g.os c.name).1.procs = g.os.procs)
    (hr : c.after (sysStep (g.pidOf t) intr c.next g.os c.name).2 = .done (ret, some (hid, some (.shm m))))
    (hatt : attached (g.os.procs (g.pidOf t)) m) (hcl : Clear g.hs (g.pidOf t) m.addr (some hid)) : AttInv (g.step t intr) := by
  have hproc' : (g.step t intr).os.procs = g.os.procs := by rw [step_os g t intr c hc]; exact hproc
  have hhs : (g.step t intr).hs = fun h => if h = hid then some (g.pidOf t, Handle.shm m) else g.hs h := by
    simp [G.step, hc, hr, G.setHandle, G.setRet, G.setCall]
  have hcalls : (g.step t intr).calls = fun t' => if t' = t then none else g.calls t' := by
    simp [G.step, hc, hr, G.setHandle, G.setRet, G.setCall]
  have hpid : (g.step t intr).pidOf = g.pidOf := by
    simp [G.step, hc, hr, G.setHandle, G.setRet, G.setCall]
  refine ⟨by rw [hpid]; exact hi.inj, by rw [hproc']; exact hi.fresh, ?_, ?_, ?_⟩
  · intro h p m' hm'
    rw [hproc']
    rw [hhs] at hm'
    simp only at hm'
    split at hm'
    · simp only [Option.some.injEq, Prod.mk.injEq, Handle.shm.injEq] at hm'
      obtain ⟨rfl, rfl⟩ := hm'
      exact hatt
    · exact hi.hs h p m' hm'
  · intro h1 h2 p m1 m2 e1 e2 ea
    rw [hhs] at e1 e2
    simp only at e1 e2
    split at e1 <;> split at e2
    · rename_i a b; rw [a, b]
    · rename_i a b
      simp only [Option.some.injEq, Prod.mk.injEq, Handle.shm.injEq] at e1
      obtain ⟨rfl, rfl⟩ := e1
      exact absurd ea.symm (hcl h2 m2 e2 (by simpa using b))
    · rename_i a b
      simp only [Option.some.injEq, Prod.mk.injEq, Handle.shm.injEq] at e2
      obtain ⟨rfl, rfl⟩ := e2
      exact absurd ea (hcl h1 m1 e1 (by simpa using a))
    · exact hi.distinct h1 h2 p m1 m2 e1 e2 ea
  · intro t' c'' h'
    rw [hcalls] at h'
    simp only at h'
    split at h'
    · cases h'
    · rename_i e
      have hp : g.pidOf t' ≠ g.pidOf t := fun e' => e (hi.inj t' t e')
      rw [hproc', hpid]
      refine ainv_mono _ g.hs _ _ c'' ?_ (hi.calls t' c'' h')
      intro h m0 hm0
      rw [hhs] at hm0
      simp only at hm0
      split at hm0
      · simp only [Option.some.injEq, Prod.mk.injEq] at hm0
        exact absurd hm0.1.symm hp
      · exact ⟨m0, hm0, rfl⟩

theorem hs_at (g : G) (hi : AttInv g) (p : Pid) : ∀ h m, g.hs h = some (p, .shm m) → ∃ a, m.addr = .at a := by
  intro h m hm
  obtain ⟨a, _, e, _, _⟩ := hi.hs h p m hm
  exact ⟨a, e⟩

theorem shmatF_alive (os : OS) (p : Pid) (id : Option SegId) (i : SegId) (fl : Nat) (ha : segAlive os id = some i) :
    (shmatF os p id fl).2 = .ok (os.procs p).nextAddr ∧
    (shmatF os p id fl).1.procs p = { (os.procs p) with
      atts := ⟨(os.procs p).nextAddr, i, hasFlag fl SHM_RDONLY && fl != 0⟩ :: (os.procs p).atts,
      nextAddr := (os.procs p).nextAddr + 1 } := by
  simp [shmatF, ha, OS.setProc, OS.setSeg]

/-- the `shmat` step of `p_shm_new` -/
theorem attinv_step_shmat (g : G) (t : Tid) (intr : Bool) (hid : Hid) (s : ShmSt) (hi : AttInv g)
    (hc : g.calls t = some (.shmNew hid s)) (hpc : s.pc = .cAt) : AttInv (g.step t intr) := by
  have hstep : sysStep (g.pidOf t) intr (Call.shmNew hid s).next g.os (Call.shmNew hid s).name =
      shmatF g.os (g.pidOf t) s.h.hdl (if s.h.ro = true then shmatFlagsRO else shmatFlagsRW) := by
    simp [Call.next, ShmSt.next, hpc, sysStep, Sys.interruptible]
  obtain ⟨isNew, h, req, pc, built, isExists, failing⟩ := s
  cases hpc
  cases ha : segAlive g.os h.hdl with
  | none =>
    have hE : shmatF g.os (g.pidOf t) h.hdl (if h.ro = true then shmatFlagsRO else shmatFlagsRW) = (g.os, .err .EINVAL) := by
      simp [shmatF, ha]
    refine attinv_step_plain g t intr _ hi hc (by rw [hstep, hE]) ?_
    rw [hstep, hE]
    exact ⟨rfl, clear_null g.hs _ none _ (Or.inr rfl) (hs_at g hi _)⟩
  | some i =>
    obtain ⟨hres, hprocs⟩ := shmatF_alive g.os (g.pidOf t) h.hdl i (if h.ro = true then shmatFlagsRO else shmatFlagsRW) ha
    rw [← hstep] at hres hprocs
    refine attinv_step_procs g t intr _ _ hi hc (by rw [hres]; rfl) ?_ ?_ ?_
    · intro att hatt
      rw [hprocs] at hatt ⊢
      rcases List.mem_cons.mp hatt with e | e
      · rw [e]; exact Nat.lt_succ_self _
      · exact Nat.lt_succ_of_lt (hi.fresh _ att e)
    · exact fun h' m hm => attached_sysStep (g.pidOf t) (g.pidOf t) intr _ g.os _ m (hi.hs h' _ m hm) (hi.fresh _) fun _ a e => nomatch e
    · rw [hprocs]
      refine ⟨⟨_, _, rfl, findAtt_cons_self _ _ _, (segAlive_some ha).1⟩, fun h' m' hm' _ e => ?_⟩
      -- the fresh address is above every address a struct at rest holds
      obtain ⟨a, att, e1, e2, -⟩ := hi.hs h' _ m' hm'
      have hlt := hi.fresh _ att (findAtt_mem _ a att e2).1
      rw [(findAtt_mem _ a att e2).2, Addr.at.inj (e1.symm.trans e)] at hlt
      exact Nat.lt_irrefl _ hlt

theorem sem_next_procs (p : Pid) (intr : Bool) (st : SemSt) (os : OS) (nm : Nat) : (sysStep p intr st.next os nm).1.procs = os.procs := by
  apply sysStep_procs
  · intro id fl e
    obtain ⟨api, sh, spc, _, _, _⟩ := st
    cases spc <;> simp [SemSt.next] at e
  · intro a e
    obtain ⟨api, sh, spc, _, _, _⟩ := st
    cases spc <;> simp [SemSt.next] at e

theorem attinv_step_semkinds (g : G) (t : Tid) (intr : Bool) (c : Call) (hi : AttInv g) (hc : g.calls t = some c)
    (hk : (∃ hid s, c = .semNew hid s) ∨ (∃ s, c = .semFree s) ∨ (∃ hid s, c = .semOp hid s)) : AttInv (g.step t intr) := by
  rcases hk with ⟨hid, s, rfl⟩ | ⟨s, rfl⟩ | ⟨hid, s, rfl⟩
  all_goals
    refine attinv_step_plain g t intr _ hi hc (sem_next_procs _ _ s _ _) ?_
    simp only [Call.next, Call.name, Call.after]
    cases hr : s.after (sysStep (g.pidOf t) intr s.next g.os 0).2 with
    | cont s' => trivial
    | done x =>
      obtain ⟨h, e⟩ := x
      first
      | (cases e <;> trivial)
      | trivial

theorem attinv_step_lock (g : G) (t : Tid) (intr : Bool) (hid : Hid) (m : PShm) (s : SemSt) (hi : AttInv g)
    (hc : g.calls t = some (.lockOp hid m s)) : AttInv (g.step t intr) := by
  have hinv := hi.calls t _ hc
  simp only [Call.ainv] at hinv
  cases hr : s.after (sysStep (g.pidOf t) intr s.next g.os 0).2 with
  | cont s' =>
    refine attinv_step_plain g t intr _ hi hc (sem_next_procs _ _ s _ _) ?_
    simp only [Call.next, Call.name, Call.after, hr]
    exact hinv
  | done x =>
    obtain ⟨h, e⟩ := x
    refine attinv_step_store g t intr _ hid { m with sem := some h } (retOf e) hi hc (sem_next_procs _ _ s _ _) ?_ ?_ hinv.2
    · simp only [Call.next, Call.name, Call.after, hr]
    · obtain ⟨a, att, e1, e2, e3⟩ := hinv.1
      exact ⟨a, att, e1, e2, e3⟩

theorem shm_next_procs (p : Pid) (intr : Bool) (s : ShmSt) (os : OS) (nm : Nat) (h1 : s.pc ≠ .cAt) (h2 : s.pc ≠ .kDt) :
    (sysStep p intr s.next os nm).1.procs = os.procs := by
  obtain ⟨isNew, h, req, pc, built, isExists, failing⟩ := s
  cases pc with
  | cAt => exact absurd rfl h1
  | kDt => exact absurd rfl h2
  | cSem st => simpa [ShmSt.next] using sem_next_procs p intr st os nm
  | kSem st => simpa [ShmSt.next] using sem_next_procs p intr st os nm
  | _ => all_goals (apply sysStep_procs <;> intros <;> simp [ShmSt.next])

theorem attinv_step_new (g : G) (t : Tid) (intr : Bool) (hid : Hid) (s : ShmSt) (hi : AttInv g)
    (hc : g.calls t = some (.shmNew hid s)) : AttInv (g.step t intr) := by
  by_cases h1 : s.pc = .cAt
  · exact attinv_step_shmat g t intr hid s hi hc h1
  · by_cases h2 : s.pc = .kDt
    · have hinv := hi.calls t _ hc
      obtain ⟨isNew, h, req, pc, built, isExists, failing⟩ := s
      simp only at h2
      subst h2
      simp only [Call.ainv] at hinv
      refine attinv_step_shmdt g t intr _ (.shmNew hid ⟨isNew, h, req, .kStat, built, isExists, failing⟩) ⟨isNew, h, req, .kDt, built, isExists, failing⟩ hi hc rfl hinv.2 ?_ ?_
      · simp [Call.after, ShmSt.after]
      · intro pr; simp only [Call.ainv]; exact hinv.1
    · have hproc := shm_next_procs (g.pidOf t) intr s g.os s.h.name h1 h2
      have hout := shmNew_after_ainv (g.os.procs (g.pidOf t)) g.hs (g.pidOf t) hid s (sysStep (g.pidOf t) intr s.next g.os s.h.name).2
        (hs_at g hi _) (hi.calls t _ hc) h1 h2
      cases hr : s.after (sysStep (g.pidOf t) intr s.next g.os s.h.name).2 with
      | cont s' =>
        rw [hr] at hout
        refine attinv_step_plain g t intr _ hi hc hproc ?_
        simp only [Call.next, Call.name, Call.after, hr]
        exact hout
      | done x =>
        obtain ⟨h, e⟩ := x
        rw [hr] at hout
        cases e with
        | error e =>
          refine attinv_step_plain g t intr _ hi hc hproc ?_
          simp only [Call.next, Call.name, Call.after, hr]
        | ok u =>
          refine attinv_step_store g t intr _ hid h (.shm h) hi hc hproc ?_ hout.1 ?_
          · simp only [Call.next, Call.name, Call.after, hr]
          · intro h' m' hm' _; exact hout.2 h' m' hm' (by simp)

end PV.SysV
