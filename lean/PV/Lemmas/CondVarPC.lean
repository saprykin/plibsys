import PV.Lemmas.CondVar
/-! Invariants of the bounded-buffer client over the Mesa monitor and their preservation (C03). -/
namespace PV.CondVar

def PC.inCS : PC → Bool
  | .check | .sig | .unl => true
  | _ => false

def isAt (r : Role) (pc : PC) (t : Thr) : Bool := decide (t.role = r ∧ t.pc = pc)

def Role.other : Role → Role
  | .producer => .consumer
  | .consumer => .producer

def remOf (r : Role) (t : Thr) : Nat := if t.role = r then t.rem else 0

def need (cfg : Cfg) (r : Role) (buf : List Item) : Nat :=
  match r with
  | .consumer => buf.length
  | .producer => cfg.cap - buf.length

structure Inv (cfg : Cfg) (K : Nat) (s : PCState) : Prop where
  owner_cs : ∀ j, s.mon.owner = some j ↔ ∃ th, s.thr[j]? = some th ∧ th.pc.inCS = true
  wait_mem : ∀ j cv, (j ∈ s.mon.wset cv ∨ j ∈ s.mon.woken cv) →
    ∃ th, s.thr[j]? = some th ∧ th.pc = .inwait ∧ th.role.waitCv = cv
  in_wait : ∀ j t, s.thr[j]? = some t → t.pc = .inwait →
    j ∈ s.mon.wset t.role.waitCv ∨ j ∈ s.mon.woken t.role.waitCv
  nodup : ∀ cv, (s.mon.wset cv ++ s.mon.woken cv).Nodup
  cnt_wait : ∀ r, cnt (isAt r .inwait) s.thr = (s.mon.wset r.waitCv).length + (s.mon.woken r.waitCv).length
  rem_pos : ∀ th, th ∈ s.thr → (th.pc = .check ∨ th.pc = .inwait) → 0 < th.rem
  fifo : s.produced = s.consumed ++ s.buf
  cap : s.buf.length ≤ cfg.cap
  acc_p : sumOver (remOf .producer) s.thr + s.produced.length = K
  acc_c : sumOver (remOf .consumer) s.thr + s.consumed.length = K
  tok : ∀ r, s.mon.wset r.waitCv ≠ [] →
    need cfg r s.buf ≤ (s.mon.woken r.waitCv).length + cnt (isAt r .check) s.thr + cnt (isAt r.other .sig) s.thr
  bad : s.bad = false

theorem waitCv_inj {r q : Role} : r.waitCv = q.waitCv ↔ r = q := by
  cases r <;> cases q <;> simp [Role.waitCv]

theorem other_waitCv (q : Role) : q.other.waitCv = q.sigCv := by cases q <;> rfl

theorem waitCv_eq_sigCv {r q : Role} : r.waitCv = q.sigCv ↔ q = r.other := by
  cases r <;> cases q <;> simp [Role.waitCv, Role.sigCv, Role.other]

theorem blocked_iff_need {cfg : Cfg} {r : Role} {buf : List Item} :
    blocked cfg r buf = true ↔ need cfg r buf = 0 := by
  cases r <;> simp [blocked, need, Nat.sub_eq_zero_iff_le]

/-- everybody inside `pthread_cond_wait` on `cv`: still blocked, or woken and not yet owner again -/
def Mon.room (m : Mon) (cv : CvId) : List Tid := m.wset cv ++ m.woken cv

/-- `room cv` lists, each once, the threads whose table entry is inside `wait` on `cv`; how a room is
    divided between wait-set and woken list does not matter.  For `Mon.room` this is the content of
    `Inv.wait_mem`, `in_wait`, `nodup` and `cnt_wait` (`Inv.rooms`, `Inv.of_rooms`), so that a step
    has to be followed through rooms only. -/
structure Rooms (room : CvId → List Tid) (thr : List Thr) : Prop where
  mem : ∀ j cv, j ∈ room cv ↔ ∃ t, thr[j]? = some t ∧ t.pc = .inwait ∧ t.role.waitCv = cv
  nodup : ∀ cv, (room cv).Nodup

theorem Inv.rooms {cfg : Cfg} {K : Nat} {s : PCState} (hI : Inv cfg K s) : Rooms s.mon.room s.thr where
  mem j cv := by
    rw [Mon.room, List.mem_append]
    exact ⟨hI.wait_mem j cv, fun ⟨t, ht, hp, hc⟩ => hc ▸ hI.in_wait j t ht hp⟩
  nodup := hI.nodup

namespace Rooms
variable {room room' : CvId → List Tid} {thr : List Thr} {i : Tid} {th th' : Thr}

theorem perm (R : Rooms room thr) (h : ∀ cv, (room' cv).Perm (room cv)) : Rooms room' thr where
  mem j cv := (h cv).mem_iff.trans (R.mem j cv)
  nodup cv := (h cv).nodup_iff.mpr (R.nodup cv)

theorem of_mem (R : Rooms room thr) (hth : thr[i]? = some th) {cv : CvId} (hm : i ∈ room cv) :
    th.pc = .inwait ∧ th.role.waitCv = cv := by
  obtain ⟨t, ht, h⟩ := (R.mem i cv).mp hm
  rw [hth] at ht; cases ht; exact h

theorem set (R : Rooms room thr) (hth : thr[i]? = some th) (th' : Thr) :
    Rooms (fun cv => if th'.pc = .inwait ∧ th'.role.waitCv = cv then i :: (room cv).erase i
                     else (room cv).erase i) (thr.set i th') where
  mem j cv := by
    rw [get_set _ j hth]
    by_cases hj : j = i
    · subst hj
      have : j ∉ (room cv).erase j := fun h => ((R.nodup cv).mem_erase_iff.mp h).1 rfl
      by_cases hc : th'.pc = .inwait ∧ th'.role.waitCv = cv <;> simp [hc, this]
    · have : j ∈ (room cv).erase i ↔ j ∈ room cv := List.mem_erase_of_ne hj
      simp only [hj, if_false, ← R.mem]
      split <;> simp [hj, this]
  nodup cv := by
    have hn := (R.nodup cv).erase i
    split
    · exact List.nodup_cons.mpr ⟨fun h => ((R.nodup cv).mem_erase_iff.mp h).1 rfl, hn⟩
    · exact hn

theorem set_out (R : Rooms room thr) (hth : thr[i]? = some th) (hpc : th.pc ≠ .inwait)
    (hpc' : th'.pc ≠ .inwait) : Rooms room (thr.set i th') :=
  (R.set hth th').perm fun cv => by simp [hpc', List.erase_of_not_mem fun h => hpc (R.of_mem hth h).1]

end Rooms

theorem wake_other (m : Mon) {c cv : CvId} (x : Tid) (hc : cv ≠ c) :
    (m.wake c x).wset cv = m.wset cv ∧ (m.wake c x).woken cv = m.woken cv := by
  simp [Mon.wake, upd, hc]

theorem broadcast_other (m : Mon) {c cv : CvId} (hc : cv ≠ c) :
    (m.broadcast c).wset cv = m.wset cv ∧ (m.broadcast c).woken cv = m.woken cv := by
  simp [Mon.broadcast, upd, hc]

/-- what the invariant sees of a signal, broadcast or spurious wake-up on `c`; where waiters remain on
    `c` it has gained a pending wake-up -/
structure Wakes (c : CvId) (m m' : Mon) : Prop where
  owner : m'.owner = m.owner
  room : ∀ cv, (m'.room cv).Perm (m.room cv)
  pending : ∀ cv, m'.wset cv ≠ [] →
    m.wset cv ≠ [] ∧ (m.woken cv).length + (if cv = c then 1 else 0) ≤ (m'.woken cv).length

theorem Wakes.wake {m : Mon} {c : CvId} {x : Tid} (hx : x ∈ m.wset c) : Wakes c m (m.wake c x) where
  owner := rfl
  room cv := by
    simp only [Mon.room, Mon.wake, upd]
    split
    · next hc =>
      subst hc
      -- `x` moves from the wait-set to the end of the woken list
      refine .trans ?_ ((List.perm_cons_erase hx).append_right _).symm
      rw [← List.append_assoc]
      exact List.perm_append_singleton _ _
    · exact .refl _
  pending cv hw := by
    by_cases hc : cv = c
    · subst hc; exact ⟨List.ne_nil_of_mem hx, by simp [Mon.wake, upd]⟩
    · obtain ⟨e1, e2⟩ := wake_other m x hc
      exact ⟨e1 ▸ hw, by simp [e2, hc]⟩

theorem Wakes.broadcast (m : Mon) (c : CvId) : Wakes c m (m.broadcast c) where
  owner := rfl
  room cv := by
    simp only [Mon.room, Mon.broadcast, upd]
    split
    · next hc => subst hc; rw [List.nil_append]; exact List.perm_append_comm
    · exact .refl _
  pending cv hw := by
    by_cases hc : cv = c
    · subst hc; simp [Mon.broadcast, upd] at hw
    · obtain ⟨e1, e2⟩ := broadcast_other m hc
      exact ⟨e1 ▸ hw, by simp [e2, hc]⟩

theorem Wakes.none {m : Mon} {c : CvId} (he : m.wset c = []) : Wakes c m m where
  owner := rfl
  room _ := .refl _
  pending cv hw := by
    have hc : cv ≠ c := fun hc => hw (hc ▸ he)
    exact ⟨hw, by rw [if_neg hc]; exact Nat.le_refl _⟩

theorem owner_cs_set {thr : List Thr} {i : Tid} {th th' : Thr} {o o' : Option Tid}
    (hO : ∀ j, o = some j ↔ ∃ t, thr[j]? = some t ∧ t.pc.inCS = true) (hth : thr[i]? = some th)
    (hfree : o = none ∨ o = some i) (ho' : o' = if th'.pc.inCS then some i else none) :
    ∀ j, o' = some j ↔ ∃ t, (thr.set i th')[j]? = some t ∧ t.pc.inCS = true := by
  intro j
  rw [get_set _ j hth, ho']
  by_cases hj : j = i
  · subst hj; cases h : th'.pc.inCS <;> simp [h]
  · have hn : o ≠ some j := by rcases hfree with e | e <;> simp [e, Ne.symm hj]
    rw [if_neg hj, ← hO j]
    cases th'.pc.inCS <;> simp [hn, Ne.symm hj]

/-- the share of thread `t` in the right-hand side of `Inv.tok` for role `r`: a token for its own role
    while it re-checks the predicate, for the other role while it is about to signal -/
def tokOf (r : Role) (t : Thr) : Nat :=
  (if isAt r .check t then 1 else 0) + (if isAt r.other .sig t then 1 else 0)

theorem tokOf_set {thr : List Thr} {i : Tid} {a : Thr} (r : Role) (b : Thr) (h : thr[i]? = some a) :
    cnt (isAt r .check) (thr.set i b) + cnt (isAt r.other .sig) (thr.set i b) + tokOf r a =
      cnt (isAt r .check) thr + cnt (isAt r.other .sig) thr + tokOf r b := by
  have c1 := cnt_set (p := isAt r .check) b h
  have c2 := cnt_set (p := isAt r.other .sig) b h
  unfold tokOf
  omega

theorem Inv.of_rooms {cfg : Cfg} {K : Nat} {s : PCState}
    (owner_cs : ∀ j, s.mon.owner = some j ↔ ∃ th, s.thr[j]? = some th ∧ th.pc.inCS = true)
    (R : Rooms s.mon.room s.thr)
    (rem_pos : ∀ th, th ∈ s.thr → (th.pc = .check ∨ th.pc = .inwait) → 0 < th.rem)
    (fifo : s.produced = s.consumed ++ s.buf) (cap : s.buf.length ≤ cfg.cap)
    (acc_p : sumOver (remOf .producer) s.thr + s.produced.length = K)
    (acc_c : sumOver (remOf .consumer) s.thr + s.consumed.length = K)
    (tok : ∀ r, s.mon.wset r.waitCv ≠ [] →
      need cfg r s.buf ≤ (s.mon.woken r.waitCv).length + cnt (isAt r .check) s.thr + cnt (isAt r.other .sig) s.thr)
    (bad : s.bad = false) : Inv cfg K s where
  owner_cs := owner_cs
  wait_mem j cv h := (R.mem j cv).mp (List.mem_append.mpr h)
  in_wait j t ht hp := List.mem_append.mp ((R.mem j _).mpr ⟨t, ht, hp, rfl⟩)
  nodup := R.nodup
  cnt_wait r := by
    rw [← List.length_append]
    refine cnt_eq_length_of_nodup (R.nodup _) fun j => ?_
    rw [← Mon.room, R.mem]
    simp [isAt, waitCv_inj, and_comm]
  rem_pos := rem_pos
  fifo := fifo
  cap := cap
  acc_p := acc_p
  acc_c := acc_c
  tok := tok
  bad := bad

/-- thread `i` goes to `pc` and the monitor becomes `m`; buffer, ghost lists and item counts stay.
    `htok`: the role's need is zero, or its wait-set was non-empty before and what it loses (a pending
    wake-up, the token of `i`) it gains elsewhere. -/
theorem Inv.move {cfg : Cfg} {K : Nat} {s : PCState} {i : Tid} {th : Thr} {pc : PC} {m : Mon}
    (hI : Inv cfg K s) (hth : s.thr[i]? = some th)
    (hfree : s.mon.owner = none ∨ s.mon.owner = some i)
    (hown : m.owner = if pc.inCS then some i else none)
    (hR : Rooms m.room (s.thr.set i { th with pc := pc }))
    (hrem : pc = .check ∨ pc = .inwait → 0 < th.rem)
    (htok : ∀ r, m.wset r.waitCv ≠ [] → need cfg r s.buf = 0 ∨ (s.mon.wset r.waitCv ≠ [] ∧
      (s.mon.woken r.waitCv).length + tokOf r th ≤ (m.woken r.waitCv).length + tokOf r { th with pc := pc })) :
    Inv cfg K (s.move i th pc m) := by
  refine .of_rooms (owner_cs_set hI.owner_cs hth hfree hown) hR ?_ hI.fifo hI.cap ?_ ?_ ?_ hI.bad
  · intro t ht hp
    rcases List.mem_or_eq_of_mem_set ht with ht | rfl
    · exact hI.rem_pos t ht hp
    · exact hrem hp
  · exact (sumOver_set_same (f := remOf .producer) (b := { th with pc := pc }) hth rfl).symm ▸ hI.acc_p
  · exact (sumOver_set_same (f := remOf .consumer) (b := { th with pc := pc }) hth rfl).symm ▸ hI.acc_c
  · intro r hw
    have hd := tokOf_set r { th with pc := pc } hth
    rcases htok r hw with h0 | ⟨hw0, hle⟩
    · simp only [h0]; exact Nat.zero_le _
    · have := hI.tok r hw0
      simp only
      omega

theorem act_thr (cfg : Cfg) (s : PCState) (i : Tid) (th : Thr) :
    (act cfg s i th).thr = s.thr.set i { th with pc := .sig, rem := th.rem - 1 } := by
  unfold act
  split
  · rfl
  · split <;> rfl

theorem act_mon (cfg : Cfg) (s : PCState) (i : Tid) (th : Thr) : (act cfg s i th).mon = s.mon := by
  unfold act
  split
  · rfl
  · split <;> rfl

theorem act_data {cfg : Cfg} {s : PCState} (i : Tid) {th : Thr} (hb : blocked cfg th.role s.buf = false)
    (hfifo : s.produced = s.consumed ++ s.buf) (hcap : s.buf.length ≤ cfg.cap) :
    ∃ buf pd cs, act cfg s i th =
        { s with thr := s.thr.set i { th with pc := .sig, rem := th.rem - 1 },
                 buf := buf, produced := pd, consumed := cs } ∧
      pd = cs ++ buf ∧ buf.length ≤ cfg.cap ∧
      pd.length = s.produced.length + (if th.role = .producer then 1 else 0) ∧
      cs.length = s.consumed.length + (if th.role = .consumer then 1 else 0) ∧
      ∀ r, need cfg r buf + (if th.role = r then 1 else 0) =
        need cfg r s.buf + (if th.role = r.other then 1 else 0) := by
  cases hrole : th.role with
  | producer =>
    have hlt : s.buf.length < cfg.cap := by simpa [blocked, hrole] using hb
    refine ⟨s.buf ++ [(i, th.rem)], s.produced ++ [(i, th.rem)], s.consumed,
      by simp [act, hrole, Nat.not_le.mpr hlt], by simp [hfifo], by simp; omega, by simp, by simp, fun r => ?_⟩
    cases r <;> simp [need, Role.other] <;> omega
  | consumer =>
    cases hbuf : s.buf with
    | nil => simp [blocked, hrole, hbuf] at hb
    | cons it rest =>
      rw [hbuf] at hfifo hcap
      refine ⟨rest, s.produced, s.consumed ++ [it],
        by simp [act, hrole, hbuf], by simp [hfifo], by simp at hcap ⊢; omega, by simp, by simp, fun r => ?_⟩
      cases r <;> simp [need, Role.other] at hcap ⊢ <;> omega

theorem sumOver_remOf_dec {thr : List Thr} {i : Tid} {th : Thr} (hth : thr[i]? = some th) (h : 0 < th.rem)
    (r : Role) (pc : PC) :
    sumOver (remOf r) (thr.set i { th with pc := pc, rem := th.rem - 1 }) + (if th.role = r then 1 else 0) =
      sumOver (remOf r) thr := by
  have := sumOver_set (f := remOf r) { th with pc := pc, rem := th.rem - 1 } hth
  by_cases hr : th.role = r
  · simp only [remOf, hr, if_true] at this ⊢; omega
  · simp only [remOf, hr, if_false] at this ⊢; omega

section
variable {cfg : Cfg} {K : Nat} {s : PCState} {i : Tid} {th : Thr}

theorem inv_wait (hI : Inv cfg K s) (hth : s.thr[i]? = some th) (hpc : th.pc = .check)
    (hb : blocked cfg th.role s.buf = true) (ho : s.mon.owner = some i) :
    Inv cfg K (s.move i th .inwait
      { owner := none, wset := upd s.mon.wset th.role.waitCv (s.mon.wset th.role.waitCv ++ [i]),
        woken := s.mon.woken }) := by
  have hout : ∀ cv, i ∉ s.mon.room cv := fun cv h => by simpa [hpc] using (hI.rooms.of_mem hth h).1
  refine hI.move hth (.inr ho) rfl ((hI.rooms.set hth _).perm fun cv => ?_)
    (fun _ => hI.rem_pos th (List.mem_of_getElem? hth) (.inl hpc)) fun r hw => ?_
  · simp only [List.erase_of_not_mem (hout cv)]
    by_cases hc : cv = th.role.waitCv
    · subst hc
      simp [Mon.room, upd]
    · simp [Mon.room, upd, hc, Ne.symm hc]
  · by_cases hr : th.role = r
    · subst hr; exact .inl (blocked_iff_need.mp hb)
    · have hc : r.waitCv ≠ th.role.waitCv := fun e => hr (waitCv_inj.mp e).symm
      exact .inr ⟨by simpa [upd, hc] using hw, by simp [tokOf, isAt, hpc, hr]⟩

theorem inv_reacquire (hI : Inv cfg K s) (hth : s.thr[i]? = some th) (hpc : th.pc = .inwait)
    (hw : i ∈ s.mon.woken th.role.waitCv) (ho : s.mon.owner = none) :
    Inv cfg K (s.move i th .check (s.mon.reacquired th.role.waitCv i)) := by
  have hnw : i ∉ s.mon.wset th.role.waitCv := fun hm =>
    (List.nodup_append.mp (hI.nodup _)).2.2 i hm i hw rfl
  refine hI.move hth (.inl ho) rfl ((hI.rooms.set hth _).perm fun cv => ?_)
    (fun _ => hI.rem_pos th (List.mem_of_getElem? hth) (.inr hpc)) fun r hw' => .inr ⟨hw', ?_⟩
  · by_cases hc : cv = th.role.waitCv
    · subst hc
      simp [Mon.room, Mon.reacquired, upd, List.erase_append_right _ hnw]
    · have : i ∉ s.mon.room cv := fun h => hc (hI.rooms.of_mem hth h).2.symm
      simp only [List.erase_of_not_mem this]
      simp [Mon.room, Mon.reacquired, upd, hc]
  · by_cases hr : th.role = r
    · subst hr
      have := length_erase_add_one hw
      simp [tokOf, isAt, hpc, Mon.reacquired, upd]
      omega
    · have hc : r.waitCv ≠ th.role.waitCv := fun e => hr (waitCv_inj.mp e).symm
      simp [tokOf, isAt, hpc, hr, Mon.reacquired, upd, hc]

/-- the signalling thread was a token for the other role; a pending wake-up on that role's condition
    variable takes its place, or nobody waits there any more -/
theorem inv_notify {m : Mon} (hI : Inv cfg K s) (hth : s.thr[i]? = some th) (hpc : th.pc = .sig)
    (hm : Wakes th.role.sigCv s.mon m) : Inv cfg K (s.move i th .unl m) := by
  have hO := (hI.owner_cs i).mpr ⟨th, hth, by simp [hpc, PC.inCS]⟩
  refine hI.move hth (.inr hO) (hm.owner.trans hO)
    ((hI.rooms.perm hm.room).set_out hth (by simp [hpc]) (by simp)) (by simp) fun r hw => .inr ?_
  obtain ⟨hw0, hle⟩ := hm.pending _ hw
  refine ⟨hw0, ?_⟩
  simp only [waitCv_eq_sigCv] at hle
  simpa [tokOf, isAt, hpc] using hle

theorem inv_spurious {c : CvId} (hI : Inv cfg K s) (hw : i ∈ s.mon.wset c) :
    Inv cfg K { s with mon := s.mon.wake c i } :=
  have hm := Wakes.wake hw
  .of_rooms hI.owner_cs (hI.rooms.perm hm.room) hI.rem_pos hI.fifo hI.cap hI.acc_p hI.acc_c
    (fun r hw' => by
      obtain ⟨h0, hle⟩ := hm.pending _ hw'
      have := hI.tok r h0
      have := Nat.le_of_add_right_le hle
      simp only
      omega)
    hI.bad

/-- the thread's `check` token, which counts for its own role, becomes a `sig` token, which counts
    for the other role: the same shift as in the two needs -/
theorem inv_act (hI : Inv cfg K s) (hth : s.thr[i]? = some th) (hpc : th.pc = .check)
    (hb : blocked cfg th.role s.buf = false) : Inv cfg K (act cfg s i th) := by
  obtain ⟨buf, pd, cs, e, hfifo, hcap, hlp, hlc, hneed⟩ := act_data i hb hI.fifo hI.cap
  have hO := (hI.owner_cs i).mpr ⟨th, hth, by simp [hpc, PC.inCS]⟩
  have hrem := hI.rem_pos th (List.mem_of_getElem? hth) (.inl hpc)
  have hsum := sumOver_remOf_dec hth hrem
  rw [e]
  refine .of_rooms (owner_cs_set hI.owner_cs hth (.inr hO) hO)
    (hI.rooms.set_out hth (by simp [hpc]) (by simp)) ?_ hfifo hcap ?_ ?_ ?_ hI.bad
  · intro t ht hp
    rcases List.mem_or_eq_of_mem_set ht with ht | rfl
    · exact hI.rem_pos t ht hp
    · simp at hp
  · have := hsum .producer .sig
    have := hI.acc_p
    simp only [hlp]
    omega
  · have := hsum .consumer .sig
    have := hI.acc_c
    simp only [hlc]
    omega
  · intro r hw
    have := hI.tok r hw
    have := tokOf_set r { th with pc := .sig, rem := th.rem - 1 } hth
    simp [tokOf, isAt, hpc] at this
    have := hneed r
    simp only
    omega

end

/-- every step of the (re-checking) client preserves the invariant -/
theorem inv_step {cfg : Cfg} {K : Nat} {s s' : PCState} {l : Label} (hI : Inv cfg K s)
    (hrc : cfg.recheck = true) (h : exec cfg s l = some s') : Inv cfg K s' := by
  cases Step.of_exec h with
  | lock hth hpc hrem ho =>
    exact hI.move hth (.inl ho) rfl (hI.rooms.set_out hth (by simp [hpc]) (by simp)) (fun _ => hrem)
      fun r hw => .inr ⟨hw, by simp [tokOf, isAt, hpc]⟩
  | wait hth hpc hb ho => exact inv_wait hI hth hpc hb ho
  | act hth hpc hb => exact inv_act hI hth hpc hb
  | broadcast hth hpc _ => exact inv_notify hI hth hpc (.broadcast _ _)
  | signalNone hth hpc _ he => exact inv_notify hI hth hpc (.none he)
  | signal hth hpc _ hx => exact inv_notify hI hth hpc (.wake hx)
  | unlock hth hpc ho =>
    exact hI.move hth (.inr ho) rfl (hI.rooms.set_out hth (by simp [hpc]) (by simp)) (by simp)
      fun r hw => .inr ⟨hw, by simp [tokOf, isAt, hpc]⟩
  | reacquire hth hpc hw ho _ => exact inv_reacquire hI hth hpc hw ho
  | reacquireAct _ _ _ _ hf => rw [hrc] at hf; cases hf
  | spurious _ _ hw => exact inv_spurious hI hw

end PV.CondVar
