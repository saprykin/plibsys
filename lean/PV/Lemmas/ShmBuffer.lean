import PV.Model.ShmBuffer
import PV.Spec.Queue
/-! The ring of `pshmbuffer.c` read as a FIFO queue (C08): `getRange` / `setRange` and the space queries described
pointwise, then cells addressed modulo `M`.  A state is given by `rd` and the used space, and its queue is the run of that
many cells from `rd` (`cells`, `abs_mk`); a read takes a prefix of the run, a write makes it longer (`read_takes`,
`write_fits`). -/
namespace PV.SB

/-- well-formed shared state, as seen through a handle of modulus `M` -/
structure WF (M : Nat) (s : Shared) : Prop where
  mlo : 2 ≤ M
  mhi : M < 2147483648
  rd : s.rd < M
  wr : s.wr < M
  len : s.data.length = M

/-- index of the `i`-th queued byte in the data area -/
def wrapIdx (M x : Nat) : Nat := if x < M then x else x - M

/-- what the ring means: the bytes from `rd` (inclusive) cyclically up to `wr` (exclusive) -/
def abs (M : Nat) (s : Shared) : List UInt8 :=
  (List.range (usedSpace M s)).map fun i => s.data.getD (wrapIdx M (s.rd + i)) 0

theorem ext_getD {α : Type} {a : α} {l1 l2 : List α} (hl : l1.length = l2.length)
    (h : ∀ i, i < l1.length → l1.getD i a = l2.getD i a) : l1 = l2 := by
  apply List.ext_getElem hl
  intro i h1 h2
  simpa [List.getD_eq_getElem?_getD, h1, h2] using h i h1

theorem getD_drop {α : Type} (xs : List α) (k j : Nat) (a : α) : (xs.drop k).getD j a = xs.getD (k + j) a := by
  simp [List.getD_eq_getElem?_getD, List.getElem?_drop]

theorem getD_take {α : Type} (xs : List α) {k j : Nat} (a : α) (h : j < k) : (xs.take k).getD j a = xs.getD j a := by
  simp [List.getD_eq_getElem?_getD, h]

theorem getD_append {α : Type} (xs ys : List α) (j : Nat) (a : α) :
    (xs ++ ys).getD j a = if j < xs.length then xs.getD j a else ys.getD (j - xs.length) a := by
  simp only [List.getD_eq_getElem?_getD, List.getElem?_append]
  split <;> rfl

theorem setRange_spec (d : List UInt8) (st : Nat) (xs : List UInt8) (h : st + xs.length ≤ d.length) :
    ∃ d', setRange d st xs = some d' ∧ d'.length = d.length ∧
      ∀ j, d'.getD j 0 = if st ≤ j ∧ j < st + xs.length then xs.getD (j - st) 0 else d.getD j 0 := by
  refine ⟨d.take st ++ xs ++ d.drop (st + xs.length), if_pos h, by simp; omega, fun j => ?_⟩
  have hl : (d.take st ++ xs).length = st + xs.length := by simp; omega
  rw [getD_append, hl]
  split
  · rw [getD_append, List.length_take, Nat.min_eq_left (by omega)]
    split
    · rw [if_neg (by omega), getD_take _ _ ‹_›]
    · rw [if_pos (by omega)]
  · rw [if_neg (by omega), getD_drop, Nat.add_sub_cancel' (by omega)]

theorem getRange_spec (d : List UInt8) (st len : Nat) (h : st + len ≤ d.length) :
    ∃ o, getRange d st len = some o ∧ o.length = len ∧ ∀ j, j < len → o.getD j 0 = d.getD (st + j) 0 :=
  ⟨(d.drop st).take len, if_pos h, by simp; omega, fun j hj => by rw [getD_take _ _ hj, getD_drop]⟩

theorem mod_eq_wrapIdx {M x : Nat} (h : x < 2 * M) : x % M = wrapIdx M x := by
  unfold wrapIdx
  split
  · exact Nat.mod_eq_of_lt ‹_›
  · rw [Nat.mod_eq_sub_mod (by omega)]
    exact Nat.mod_eq_of_lt (by omega)

theorem add_mod_inj {M r i j : Nat} (hi : i < M) (hj : j < M) (h : (r + i) % M = (r + j) % M) :
    i = j := by
  have hr := Nat.mod_lt r (Nat.zero_lt_of_lt hi)
  rw [← Nat.mod_add_mod r M, ← Nat.mod_add_mod r M] at h
  generalize r % M = r at h hr
  -- `M - r` further on, the cell at offset `k` from `r` is cell `k`
  have back : ∀ k, k < M → ((r + k) % M + (M - r)) % M = k := fun k hk => by
    rw [Nat.mod_add_mod, show r + k + (M - r) = k + M by omega, Nat.add_mod_right, Nat.mod_eq_of_lt hk]
  rw [← back i hi, h, back j hj]

/-- the `n` cells of the ring `d` of modulus `M` from cell `r` on -/
def cells (M : Nat) (d : List UInt8) (r n : Nat) : List UInt8 :=
  (List.range n).map fun i => d.getD ((r + i) % M) 0

section
variable (M : Nat) (d : List UInt8) (r : Nat)

theorem cells_length (n : Nat) : (cells M d r n).length = n := by
  simp [cells]

theorem cells_getD {n i : Nat} (h : i < n) : (cells M d r n).getD i 0 = d.getD ((r + i) % M) 0 := by
  simp [cells, List.getD_eq_getElem?_getD, h]

theorem cells_take (n c : Nat) : (cells M d r n).take c = cells M d r (min c n) := by
  simp [cells, ← List.map_take]

theorem cells_drop (n c : Nat) : (cells M d r n).drop c = cells M d ((r + c) % M) (n - c) := by
  apply ext_getD (a := 0)
  · simp [cells_length]
  · intro i hi
    rw [List.length_drop, cells_length] at hi
    rw [getD_drop, cells_getD _ _ _ (by omega), cells_getD _ _ _ hi, Nat.mod_add_mod, Nat.add_assoc]

theorem cells_add (a b : Nat) : cells M d r (a + b) = cells M d r a ++ cells M d ((r + a) % M) b := by
  have := List.take_append_drop a (cells M d r (a + b))
  rwa [cells_take, cells_drop, Nat.min_eq_left (Nat.le_add_right a b), Nat.add_sub_cancel_left, eq_comm] at this

end

theorem fetch_flat {M : Nat} {d : List UInt8} {r c : Nat} (hd : d.length = M) (h : r + c ≤ M) :
    getRange d r c = some (cells M d r c) := by
  obtain ⟨o, e, hl, hg⟩ := getRange_spec d r c (hd ▸ h)
  rw [e]
  congr 1
  apply ext_getD (a := 0) (by rw [hl, cells_length])
  intro j hj
  rw [hl] at hj
  rw [hg j hj, cells_getD _ _ _ hj, Nat.mod_eq_of_lt (by omega)]

/-- the two `memcpy`s of a read that runs over the end of the data area -/
theorem fetch_wrapped {M : Nat} {d : List UInt8} {r c : Nat} (hd : d.length = M) (hr : r < M) (hc : c ≤ M)
    (h : M < r + c) :
    ∃ a b, getRange d r (M - r) = some a ∧ getRange d 0 (c - (M - r)) = some b ∧ a ++ b = cells M d r c := by
  refine ⟨_, _, fetch_flat hd (Nat.le_of_eq (Nat.add_sub_cancel' (Nat.le_of_lt hr))), fetch_flat hd (by omega), ?_⟩
  have := cells_add M d r (M - r) (c - (M - r))
  rwa [Nat.add_sub_cancel' (Nat.le_of_lt hr), Nat.mod_self, Nat.add_sub_cancel' (by omega), eq_comm] at this

theorem store_flat {M : Nat} {d : List UInt8} {r u w : Nat} {xs : List UInt8} (hd : d.length = M)
    (hw : w = (r + u) % M) (hu : u + xs.length ≤ M) (h : w + xs.length ≤ M) :
    ∃ d', setRange d w xs = some d' ∧ d'.length = M ∧ cells M d' r (u + xs.length) = cells M d r u ++ xs := by
  obtain ⟨d', e, hl, hg⟩ := setRange_spec d w xs (hd ▸ h)
  refine ⟨d', e, hl.trans hd, ext_getD (a := 0) (by simp [cells_length]) fun i hi => ?_⟩
  rw [cells_length] at hi
  -- the cell at offset `u + k` from `r` is the cell at offset `k` from `w`
  have hwk : ∀ k, k < xs.length → (r + (u + k)) % M = w + k := fun k hk => by
    rw [← Nat.add_assoc, ← Nat.mod_add_mod, ← hw, Nat.mod_eq_of_lt (by omega)]
  rw [cells_getD _ _ _ hi, hg, getD_append, cells_length]
  by_cases h1 : i < u
  · rw [if_pos h1, cells_getD _ _ _ h1, if_neg]
    intro ⟨h2, h3⟩
    have := add_mod_inj (by omega) (by omega)
      ((hwk ((r + i) % M - w) (by omega)).trans (Nat.add_sub_cancel' h2)).symm
    omega
  · have e := hwk (i - u) (by omega)
    rw [Nat.add_sub_cancel' (Nat.le_of_not_lt h1)] at e
    rw [e, if_pos ⟨Nat.le_add_right .., by omega⟩, Nat.add_sub_cancel_left, if_neg h1]

/-- the two `memcpy`s of a write that runs over the end of the data area -/
theorem store_wrapped {M : Nat} {d : List UInt8} {r u w : Nat} {xs : List UInt8} (hd : d.length = M)
    (hw : w = (r + u) % M) (hu : u + xs.length ≤ M) (hr : r < M) (h : M < w + xs.length) :
    ∃ d1 d2, setRange d w (xs.take (M - w)) = some d1 ∧ setRange d1 0 (xs.drop (M - w)) = some d2 ∧
      d2.length = M ∧ cells M d2 r (u + xs.length) = cells M d r u ++ xs := by
  have hwM : w < M := hw ▸ Nat.mod_lt _ (by omega)
  have hk : (xs.take (M - w)).length = M - w := by rw [List.length_take]; omega
  have hz : 0 = (r + (u + (M - w))) % M := by
    rw [← Nat.add_assoc, ← Nat.mod_add_mod, ← hw, Nat.add_sub_cancel' (Nat.le_of_lt hwM), Nat.mod_self]
  obtain ⟨d1, e1, l1, c1⟩ := store_flat (xs := xs.take (M - w)) hd hw (by omega) (by omega)
  obtain ⟨d2, e2, l2, c2⟩ := store_flat (xs := xs.drop (M - w)) l1 hz (by rw [List.length_drop]; omega)
    (by rw [List.length_drop]; omega)
  rw [hk] at c1
  rw [c1, List.append_assoc, List.take_append_drop, Nat.add_assoc, List.length_drop,
    Nat.add_sub_cancel' (by omega)] at c2
  exact ⟨d1, d2, e1, e2, l2, c2⟩

theorem toPint_eq {n : Nat} (h : n < 2147483648) : toPint n = (n : Int) := by
  simp only [toPint, BitVec.toInt_eq_toNat_cond, BitVec.toNat_ofNat]
  omega

theorem sub64_eq {a b : Nat} (hb : b ≤ a) (ha : a < 2147483648) : sub64 a b = a - b := by
  unfold sub64 W
  omega

theorem usedSpace_eq {M : Nat} {s : Shared} (wf : WF M s) :
    usedSpace M s = if s.rd ≤ s.wr then s.wr - s.rd else M - (s.rd - s.wr) := by
  obtain ⟨mlo, mhi, hrd, hwr, hlen⟩ := wf
  unfold usedSpace
  split
  · rw [sub64_eq, if_pos] <;> omega
  · split
    · rw [sub64_eq (b := s.wr), sub64_eq, if_neg] <;> omega
    · rw [if_pos] <;> omega

theorem freeSpace_eq {M : Nat} {s : Shared} (wf : WF M s) : freeSpace M s = M - 1 - usedSpace M s := by
  rw [usedSpace_eq wf]
  obtain ⟨mlo, mhi, hrd, hwr, hlen⟩ := wf
  unfold freeSpace
  split
  · rw [sub64_eq (b := s.wr), sub64_eq, if_neg] <;> omega
  · split
    · rw [sub64_eq (b := s.rd), sub64_eq (a := M), sub64_eq, if_pos] <;> omega
    · rw [sub64_eq, if_pos] <;> omega

theorem usedSpace_lt {M : Nat} {s : Shared} (wf : WF M s) : usedSpace M s < M := by
  have := wf.rd
  have := wf.wr
  rw [usedSpace_eq wf]
  split <;> omega

theorem wr_eq {M : Nat} {s : Shared} (wf : WF M s) : s.wr = (s.rd + usedSpace M s) % M := by
  have := wf.rd
  rw [usedSpace_eq wf]
  split
  · rw [Nat.add_sub_cancel' ‹_›, Nat.mod_eq_of_lt wf.wr]
  · rw [show s.rd + (M - (s.rd - s.wr)) = s.wr + M by omega, Nat.add_mod_right, Nat.mod_eq_of_lt wf.wr]

theorem usedSpace_of_wr {M : Nat} {s : Shared} (wf : WF M s) {u : Nat} (hu : u < M)
    (h : s.wr = (s.rd + u) % M) : usedSpace M s = u :=
  add_mod_inj (usedSpace_lt wf) hu (by rw [← wr_eq wf, h])

theorem abs_length (M : Nat) (s : Shared) : (abs M s).length = usedSpace M s := by
  simp [abs]

theorem abs_nil {M : Nat} {s : Shared} (h : usedSpace M s = 0) : abs M s = [] := by
  simp [abs, h]

theorem abs_eq {M : Nat} {s : Shared} (wf : WF M s) : abs M s = cells M s.data s.rd (usedSpace M s) := by
  have := usedSpace_lt wf
  have := wf.rd
  unfold abs cells
  exact List.map_congr_left fun i hi => by rw [mod_eq_wrapIdx (by have := List.mem_range.1 hi; omega)]

theorem abs_mk {M r u : Nat} {d : List UInt8} (mlo : 2 ≤ M) (mhi : M < 2147483648) (hr : r < M) (hu : u < M)
    (hd : d.length = M) : WF M ⟨r, (r + u) % M, d⟩ ∧ abs M ⟨r, (r + u) % M, d⟩ = cells M d r u := by
  have wf : WF M ⟨r, (r + u) % M, d⟩ := ⟨mlo, mhi, hr, Nat.mod_lt _ (by omega), hd⟩
  exact ⟨wf, by rw [abs_eq wf, usedSpace_of_wr wf hu rfl]⟩

theorem abs_write {M : Nat} {s : Shared} (wf : WF M s) {n : Nat} {d' : List UInt8}
    (hfit : usedSpace M s + n < M) (hd : d'.length = M) :
    WF M ⟨s.rd, (s.wr + n) % M, d'⟩ ∧
      abs M ⟨s.rd, (s.wr + n) % M, d'⟩ = cells M d' s.rd (usedSpace M s + n) := by
  rw [wr_eq wf, Nat.mod_add_mod, Nat.add_assoc]
  exact abs_mk wf.mlo wf.mhi wf.rd hfit hd

theorem abs_read {M : Nat} {s : Shared} (wf : WF M s) {c : Nat} (hc : c ≤ usedSpace M s) :
    WF M ⟨(s.rd + c) % M, s.wr, s.data⟩ ∧ abs M ⟨(s.rd + c) % M, s.wr, s.data⟩ = (abs M s).drop c := by
  have hu := usedSpace_lt wf
  have e : s.wr = ((s.rd + c) % M + (usedSpace M s - c)) % M := by
    rw [Nat.mod_add_mod, Nat.add_assoc, Nat.add_sub_cancel' hc]
    exact wr_eq wf
  rw [e, abs_eq wf, cells_drop]
  exact abs_mk wf.mlo wf.mhi (Nat.mod_lt _ (by omega)) (by omega) wf.len

theorem write_fits {M : Nat} {s : Shared} (wf : WF M s) {xs : List UInt8} (h0 : xs.length ≠ 0)
    (hfit : usedSpace M s + xs.length < M) :
    ∃ s', write M s xs = .ok s' xs.length ∧ WF M s' ∧ abs M s' = abs M s ++ xs := by
  have hfree := freeSpace_eq wf
  unfold write
  rw [if_neg h0, if_neg (by omega)]
  simp only [Nat.mod_eq_of_lt wf.wr]
  by_cases h2 : s.wr + xs.length ≤ M
  · obtain ⟨d', e, hl, hc⟩ := store_flat wf.len (wr_eq wf) (Nat.le_of_lt hfit) h2
    obtain ⟨wf', a⟩ := abs_write wf hfit hl
    rw [if_pos h2, e]
    exact ⟨_, rfl, wf', by rw [a, hc, abs_eq wf]⟩
  · obtain ⟨d1, d2, e1, e2, hl, hc⟩ := store_wrapped wf.len (wr_eq wf) (Nat.le_of_lt hfit) wf.rd (by omega)
    obtain ⟨wf', a⟩ := abs_write wf hfit hl
    rw [if_neg h2, e1]
    simp only []
    rw [e2]
    exact ⟨_, rfl, wf', by rw [a, hc, abs_eq wf]⟩

theorem read_takes {M : Nat} {s : Shared} (wf : WF M s) {len : Nat} (h0 : len ≠ 0) (h1 : s.rd ≠ s.wr) :
    ∃ s', read M s len = .ok s' ((abs M s).take len, toPint (min len (usedSpace M s))) ∧ WF M s' ∧
      abs M s' = (abs M s).drop len := by
  have hu := usedSpace_lt wf
  unfold read
  rw [if_neg h0, if_neg h1, List.drop_eq_drop_min, List.take_eq_take_min, abs_length, Nat.min_comm, Nat.min_def]
  simp only [Nat.mod_eq_of_lt wf.rd]
  generalize hc : (if usedSpace M s ≤ len then usedSpace M s else len) = c
  have hcu : c ≤ usedSpace M s := by rw [← hc]; split <;> omega
  obtain ⟨wf', a⟩ := abs_read wf hcu
  rw [← a, abs_eq wf, cells_take, Nat.min_eq_left hcu]
  by_cases h2 : s.rd + c ≤ M
  · rw [if_pos h2, fetch_flat wf.len h2]
    exact ⟨_, rfl, wf', rfl⟩
  · obtain ⟨a, b, ea, eb, e⟩ := fetch_wrapped wf.len wf.rd (Nat.le_of_lt (Nat.lt_of_le_of_lt hcu hu)) (by omega)
    rw [if_neg h2, ea, eb, ← e]
    exact ⟨_, rfl, wf', rfl⟩

end PV.SB
