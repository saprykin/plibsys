import PV.Lemmas.Ini.Parser
/-! The grammar round trip of C16: reading the rendering of a well-formed document (`IniSpec.WF`) line by line has the
effect its lines have in the document, so the parsed file holds the non-empty sections in look-up order and the API
shows the documented meaning. -/
namespace PV.Ini

theorem allBlank_allSpace {s : Bytes} (h : IniSpec.allBlank s = true) : AllSpace s := by
  intro x hx
  have := (List.all_eq_true.mp h) x hx
  simp only [IniSpec.isBlank, Bool.and_eq_true] at this
  exact this.1

theorem plain_iff {s : Bytes} : IniSpec.plain s = true ↔ ∀ x ∈ s, x ≠ 0 ∧ x ≠ 10 := by
  simp only [IniSpec.plain, List.all_eq_true, Bool.and_eq_true, bne_iff_ne, ne_eq]

theorem plain_no0 {s : Bytes} (h : IniSpec.plain s = true) : ∀ x ∈ s, x ≠ 0 :=
  fun x hx => (plain_iff.mp h x hx).1

theorem plain_no10 {s : Bytes} (h : IniSpec.plain s = true) : ∀ x ∈ s, x ≠ 10 :=
  fun x hx => (plain_iff.mp h x hx).2

theorem plain_append (a b : Bytes) : IniSpec.plain (a ++ b) = (IniSpec.plain a && IniSpec.plain b) := List.all_append

theorem allBlank_plain {s : Bytes} (h : IniSpec.allBlank s = true) : IniSpec.plain s = true := by
  rw [plain_iff]
  intro x hx
  have := (List.all_eq_true.mp h) x hx
  simp only [IniSpec.isBlank, Bool.and_eq_true, bne_iff_ne, ne_eq] at this
  exact ⟨fun e => by subst e; exact absurd this.1 (by decide), this.2⟩

theorem trimmed_Trimmed {s : Bytes} (h : IniSpec.trimmed s = true) : Trimmed s := by
  unfold IniSpec.trimmed at h
  split at h
  · rename_i a b ha hb
    simp only [Bool.and_eq_true, Bool.not_eq_true'] at h
    exact ⟨a, b, ha, hb, h.1, h.2⟩
  · simp at h

theorem not_contains {s : Bytes} {c : UInt8} (h : (!s.contains c) = true) : ∀ x ∈ s, x ∉ [c] := by
  intro x hx hc
  simp only [List.mem_singleton] at hc
  subst hc
  simp only [Bool.not_eq_true', List.contains_eq_mem, decide_eq_false_iff_not] at h
  exact h hx

theorem eol_allSpace (e : IniSpec.Eol) : AllSpace e.bytes := by
  cases e <;> simp [IniSpec.Eol.bytes, AllSpace] <;> decide

theorem comment_marker {c : IniSpec.Comment} (h : c.wf = true) : c.marker ∈ [(59 : UInt8), 35] := by
  simp only [IniSpec.Comment.wf, Bool.and_eq_true, Bool.or_eq_true, beq_iff_eq] at h
  rcases h.1 with h | h <;> simp [h]

theorem comment_plain {c : IniSpec.Comment} (h : c.wf = true) : IniSpec.plain c.render = true := by
  have hm := comment_marker h
  simp only [IniSpec.Comment.wf, Bool.and_eq_true] at h
  rw [IniSpec.Comment.render, ← List.singleton_append, plain_append, h.2, Bool.and_true]
  simp only [List.mem_cons, List.mem_nil_iff, or_false] at hm
  rcases hm with hm | hm <;> rw [hm] <;> rfl

/-- the line has no value text at all: unquoted and empty -/
def NoValue (e : IniSpec.Entry) : Prop := e.quote = .none ∧ e.value = []

/-- `Entry.wf` field by field, in the terms of the lemmas about the model -/
structure EntryOk (e : IniSpec.Entry) : Prop where
  lead : AllSpace e.lead
  pre : AllSpace e.pre
  post : AllSpace e.post
  trail : AllSpace e.trail
  key : KeyOk e.key
  value : ¬ NoValue e → ValueOk e.quote e.value
  comment : ∀ c ∈ e.comment, c.marker ∈ [(59 : UInt8), 35]
  plain : IniSpec.plain e.render = true

theorem entryOk_of_wf {e : IniSpec.Entry} (hwf : e.wf = true) : EntryOk e := by
  simp only [IniSpec.Entry.wf, Bool.and_eq_true] at hwf
  obtain ⟨⟨⟨⟨⟨⟨⟨⟨⟨⟨⟨⟨hlead, hpre⟩, hpost⟩, htrail⟩, hkplain⟩, hktrim⟩, hk61⟩, hk35⟩, hk59⟩, hk91⟩, hvplain⟩, hq⟩, hcm⟩ := hwf
  refine ⟨allBlank_allSpace hlead, allBlank_allSpace hpre, allBlank_allSpace hpost, allBlank_allSpace htrail,
    ⟨trimmed_Trimmed hktrim, not_contains hk61, ?_⟩, ?_, ?_, ?_⟩
  · intro c hc hm
    have hmem : c ∈ e.key := List.mem_of_mem_head? hc
    simp only [List.mem_cons, List.mem_nil_iff, or_false] at hm
    rcases hm with rfl | rfl | rfl
    · simp [Option.mem_def.mp hc] at hk91
    · exact not_contains hk35 _ hmem (by simp)
    · exact not_contains hk59 _ hmem (by simp)
  · intro hnv
    cases hqq : e.quote with
    | none =>
      rw [hqq] at hq
      simp only [Bool.and_eq_true, bne_iff_ne, ne_eq, Bool.or_eq_true, List.isEmpty_iff] at hq
      obtain ⟨⟨⟨⟨h1, h2⟩, h3⟩, h4⟩, h5⟩ := hq
      refine ⟨trimmed_Trimmed (h1.resolve_left fun h => hnv ⟨hqq, h⟩), fun x hx hm => ?_, h4, h5⟩
      simp only [List.mem_cons, List.mem_nil_iff, or_false] at hm
      rcases hm with rfl | rfl
      · exact not_contains h3 _ hx (by simp)
      · exact not_contains h2 _ hx (by simp)
    | single | double =>
      rw [hqq] at hq
      simp only [Bool.and_eq_true, bne_iff_ne, ne_eq] at hq
      exact ⟨not_contains hq.1, by rw [chomp_eq_trim]; exact hq.2⟩
  · intro c hc
    rw [Option.mem_def.mp hc] at hcm
    exact comment_marker hcm
  · have hqb : IniSpec.plain e.quote.bytes = true := by cases e.quote <;> rfl
    have h61 : IniSpec.plain [61] = true := rfl
    have hnil : IniSpec.plain [] = true := rfl
    unfold IniSpec.Entry.render
    cases hcc : e.comment with
    | none =>
      simp only [plain_append, allBlank_plain hlead, allBlank_plain hpre, allBlank_plain hpost, allBlank_plain htrail,
        hkplain, hvplain, hqb, h61, hnil, Bool.and_self]
    | some c =>
      rw [hcc] at hcm
      simp only [plain_append, allBlank_plain hlead, allBlank_plain hpre, allBlank_plain hpost, allBlank_plain htrail,
        hkplain, hvplain, hqb, h61, comment_plain hcm, Bool.and_self]

structure HeaderOk (h : IniSpec.Header) : Prop where
  lead : AllSpace h.lead
  pre : AllSpace h.pre
  post : AllSpace h.post
  trail : AllSpace h.trail
  name : Trimmed h.name
  no93 : ∀ x ∈ h.name, x ∉ [(93 : UInt8)]
  plain : IniSpec.plain (h.lead ++ [91] ++ h.pre ++ h.name ++ h.post ++ [93] ++ h.trail) = true

theorem headerOk_of_wf {h : IniSpec.Header} (hwf : h.wf = true) : HeaderOk h := by
  simp only [IniSpec.Header.wf, Bool.and_eq_true] at hwf
  obtain ⟨⟨⟨⟨⟨⟨hlead, hpre⟩, hpost⟩, htrail⟩, hnplain⟩, hntrim⟩, hn93⟩ := hwf
  refine ⟨allBlank_allSpace hlead, allBlank_allSpace hpre, allBlank_allSpace hpost, allBlank_allSpace htrail,
    trimmed_Trimmed hntrim, not_contains hn93, ?_⟩
  have h91 : IniSpec.plain [91] = true := rfl
  have h93 : IniSpec.plain [93] = true := rfl
  simp only [plain_append, allBlank_plain hlead, allBlank_plain hpre, allBlank_plain hpost, allBlank_plain htrail,
    hnplain, h91, h93, Bool.and_self]

theorem body_plain (b : IniSpec.Body) (hwf : b.wf = true) : IniSpec.plain b.render = true := by
  cases b with
  | blank ws => exact allBlank_plain hwf
  | comment lead c =>
    simp only [IniSpec.Body.wf, Bool.and_eq_true] at hwf
    rw [IniSpec.Body.render, plain_append, allBlank_plain hwf.1, comment_plain hwf.2]; rfl
  | entry e => exact (entryOk_of_wf hwf).plain

/-- the effect a line of the document has on the loop state -/
def bodyEffect (st : PState) : IniSpec.Body → PState
  | .blank _ => st
  | .comment _ _ => st
  | .entry e => match e.binding with
    | none => st
    | some kv => addKey st kv

theorem binding_of_value (e : IniSpec.Entry) (hnv : ¬ NoValue e) :
    e.binding = some (e.key, storedValue e.quote e.value) := by
  unfold IniSpec.Entry.binding
  cases hq : e.quote with
  | none =>
    have : e.value.isEmpty = false := by
      cases hv : e.value with
      | nil => exact absurd ⟨hq, hv⟩ hnv
      | cons _ _ => rfl
    simp [this, storedValue]
  | single | double => simp [storedValue, chomp_eq_trim]

theorem binding_noValue (e : IniSpec.Entry) (hnv : NoValue e) : e.binding = none := by
  unfold IniSpec.Entry.binding
  rw [hnv.1, hnv.2]; rfl

theorem stepLine_chomp_entry (skip : Bool) (st : PState) (e : IniSpec.Entry) (eol : IniSpec.Eol) (hwf : e.wf = true)
    (hlen : (e.render ++ eol.bytes).length ≤ maxLine) :
    stepLine skip st (chomp (e.render ++ eol.bytes)) = bodyEffect st (.entry e) := by
  have ok := entryOk_of_wf hwf
  have hlen' := Nat.le_trans (chomp_length_le _) hlen
  obtain ⟨cm, hcm, hrender⟩ : ∃ cm, (cm = [] ∨ ∃ m text, cm = m :: text ∧ m ∈ [(59 : UInt8), 35]) ∧
      e.render = e.lead ++ e.key ++ e.pre ++ [61] ++ e.post ++ e.quote.bytes ++ e.value ++ e.quote.bytes
        ++ e.trail ++ cm := by
    unfold IniSpec.Entry.render
    cases hc : e.comment with
    | none => exact ⟨[], Or.inl rfl, rfl⟩
    | some c => exact ⟨c.render, Or.inr ⟨c.marker, c.text, rfl, ok.comment c hc⟩, rfl⟩
  by_cases hnv : NoValue e
  · -- `key =`: the blanks on both sides of the absent value are trailing blanks
    obtain ⟨tail, htail, hch⟩ := chomp_line e.lead (e.key ++ e.pre ++ [61]) (e.post ++ e.trail) cm eol.bytes ok.lead
      (ok.key.trimmed.append e.pre (trimmed_singleton (by decide))) (ok.post.append ok.trail) hcm (eol_allSpace eol)
    have hsplit : e.render ++ eol.bytes = e.lead ++ (e.key ++ e.pre ++ [61]) ++ (e.post ++ e.trail) ++ cm ++ eol.bytes := by
      simp only [hrender, hnv.1, hnv.2, IniSpec.Quote.bytes, List.append_assoc, List.nil_append]
    rw [hsplit, hch, bodyEffect, binding_noValue e hnv]
    exact stepLine_noValue skip st e.key e.pre _ tail ok.key ok.pre (ok.post.append ok.trail) htail
  · have hv := ok.value hnv
    obtain ⟨tail, htail, hch⟩ := chomp_line e.lead
      (e.key ++ (e.pre ++ 61 :: e.post) ++ (e.quote.bytes ++ e.value ++ e.quote.bytes)) e.trail cm eol.bytes ok.lead
      (ok.key.trimmed.append _ (trimmed_quoted _ _ hv)) ok.trail hcm (eol_allSpace eol)
    have hsplit : e.render ++ eol.bytes = e.lead ++ (e.key ++ (e.pre ++ 61 :: e.post)
        ++ (e.quote.bytes ++ e.value ++ e.quote.bytes)) ++ e.trail ++ cm ++ eol.bytes := by
      simp only [hrender, List.append_assoc, List.cons_append, List.nil_append]
    rw [hsplit] at hlen'
    rw [hsplit, hch, bodyEffect, binding_of_value e hnv]
    rw [hch] at hlen'
    exact stepLine_entry skip st e.key e.pre e.post e.value e.trail tail e.quote ok.key ok.pre ok.post ok.trail hv htail hlen'

/-- one line of the document, as one `fgets` chunk (`pfx` = the BOM on the first line) -/
theorem step_line (st : PState) (pfx : Bytes) (l : IniSpec.Line) (hwf : l.body.wf = true)
    (hsh : bomShift (pfx ++ l.core) = pfx.length) (hlen : l.core.length ≤ maxLine) :
    step true st (pfx ++ l.core) = bodyEffect st l.body := by
  have h0 : ∀ x ∈ l.core, x ≠ 0 := fun x hx =>
    (List.mem_append.mp hx).elim (plain_no0 (body_plain l.body hwf) x) ((eol_allSpace l.eol).no0 x)
  rw [step, lineOf_eq pfx l.core hsh h0 hlen]
  unfold IniSpec.Line.core at hlen ⊢
  cases hb : l.body with
  | blank ws =>
    rw [hb] at hwf
    rw [IniSpec.Body.render, chomp_allSpace _ ((allBlank_allSpace hwf).append (eol_allSpace l.eol))]
    exact stepLine_none true st [] (by decide) kvCascade_nil
  | comment lead c =>
    rw [hb] at hwf
    simp only [IniSpec.Body.wf, Bool.and_eq_true] at hwf
    have hm := comment_marker hwf.2
    obtain ⟨u, t, hw, ht, hmu⟩ := trimmed_cons_decomp c.marker (c.text ++ l.eol.bytes) (marker_not_space hm)
    have hsplit : lead ++ c.render ++ l.eol.bytes = lead ++ (c.marker :: u) ++ t := by
      simp only [IniSpec.Comment.render, List.append_assoc, List.cons_append, hw]
    rw [IniSpec.Body.render, hsplit, chomp_sandwich lead _ t (allBlank_allSpace hwf.1) ht hmu]
    exact stepLine_comment st _ hm
  | entry e =>
    rw [hb] at hwf hlen
    exact stepLine_chomp_entry true st e l.eol hwf hlen

theorem step_header (skip : Bool) (st : PState) (pfx : Bytes) (h : IniSpec.Header) (hwf : h.wf = true)
    (hsh : bomShift (pfx ++ h.core) = pfx.length) (hlen : h.core.length ≤ maxLine) :
    step skip st (pfx ++ h.core) = { sections := pushSection st, cur := some { name := h.name, keys := [] } } := by
  have ok := headerOk_of_wf hwf
  have h0 : ∀ x ∈ h.core, x ≠ 0 := fun x hx =>
    (List.mem_append.mp hx).elim (plain_no0 ok.plain x) ((eol_allSpace h.eol).no0 x)
  have hsplit : h.core = h.lead ++ (91 :: (h.pre ++ h.name ++ h.post ++ [93])) ++ (h.trail ++ h.eol.bytes) := by
    simp [IniSpec.Header.core, List.append_assoc]
  have hch : chomp h.core = 91 :: (h.pre ++ h.name ++ h.post ++ [93]) := by
    rw [hsplit]
    exact chomp_sandwich _ _ _ ok.lead (ok.trail.append (eol_allSpace h.eol))
      ⟨91, 93, rfl, List.getLast?_eq_some_iff.mpr ⟨91 :: (h.pre ++ h.name ++ h.post), rfl⟩, by decide, by decide⟩
  rw [step, lineOf_eq pfx h.core hsh h0 hlen, hch]
  apply stepLine_header skip st h.pre h.name h.post ok.pre ok.post ok.name ok.no93
  simp only [IniSpec.Header.core, List.length_append] at hlen
  omega

inductive RLine where
  | body (l : IniSpec.Line)
  | header (h : IniSpec.Header)

/-- the bytes before the line end -/
def RLine.pre : RLine → Bytes
  | .body l => l.body.render
  | .header h => h.lead ++ [91] ++ h.pre ++ h.name ++ h.post ++ [93] ++ h.trail

def RLine.eol : RLine → IniSpec.Eol
  | .body l => l.eol
  | .header h => h.eol

def RLine.mark : RLine → IniSpec.Bom
  | .body l => l.mark
  | .header h => h.mark

/-- the line without its mark -/
def RLine.core : RLine → Bytes
  | .body l => l.core
  | .header h => h.core

def RLine.render : RLine → Bytes
  | .body l => l.render
  | .header h => h.render

theorem RLine.render_mark (r : RLine) : r.render = r.mark.bytes ++ r.core := by
  cases r <;> rfl

def RLine.wf : RLine → Bool
  | .body l => l.body.wf
  | .header h => h.wf

theorem RLine.core_eq (r : RLine) : r.core = r.pre ++ r.eol.bytes := by
  cases r <;> rfl

def secRLines (s : IniSpec.Sec) : List RLine := .header s.header :: s.body.map .body

def docRLines (d : IniSpec.Doc) : List RLine := d.preamble.map .body ++ d.secs.flatMap secRLines

theorem forall_docRLines (P : RLine → Prop) (d : IniSpec.Doc) (hpre : ∀ l ∈ d.preamble, P (.body l))
    (hsec : ∀ s ∈ d.secs, P (.header s.header) ∧ ∀ l ∈ s.body, P (.body l)) : ∀ r ∈ docRLines d, P r := by
  intro r hr
  simp only [docRLines, List.mem_append, List.mem_map, List.mem_flatMap] at hr
  rcases hr with ⟨l, hl, rfl⟩ | ⟨s, hs, hr⟩
  · exact hpre l hl
  · simp only [secRLines, List.mem_cons, List.mem_map] at hr
    rcases hr with rfl | ⟨l, hl, rfl⟩
    · exact (hsec s hs).1
    · exact (hsec s hs).2 l hl

theorem doc_lines_eq (d : IniSpec.Doc) : d.lines = (docRLines d).map RLine.render := by
  unfold IniSpec.Doc.lines docRLines
  rw [List.map_append, List.map_map, List.map_flatMap]
  have h1 : (RLine.render ∘ RLine.body) = IniSpec.Line.render := by funext l; rfl
  have h2 : (fun s => (secRLines s).map RLine.render) = IniSpec.Sec.lines := by
    funext s; simp [secRLines, IniSpec.Sec.lines, RLine.render, Function.comp_def]
  rw [h1, h2]

theorem doc_eols_eq (d : IniSpec.Doc) : d.eols = (docRLines d).map RLine.eol := by
  unfold IniSpec.Doc.eols docRLines
  rw [List.map_append, List.map_map, List.map_flatMap]
  have h1 : (RLine.eol ∘ RLine.body) = (fun l : IniSpec.Line => l.eol) := by funext l; rfl
  have h2 : (fun s => (secRLines s).map RLine.eol) = (fun s : IniSpec.Sec => s.header.eol :: s.body.map (·.eol)) := by
    funext s; simp [secRLines, RLine.eol, Function.comp_def]
  rw [h1, h2]

theorem doc_cores_eq (d : IniSpec.Doc) : d.cores = (docRLines d).map (fun r => (r.mark, r.core)) := by
  unfold IniSpec.Doc.cores docRLines
  rw [List.map_append, List.map_map, List.map_flatMap]
  have h2 : (fun s => (secRLines s).map (fun r => (r.mark, r.core))) = IniSpec.Sec.cores := by
    funext s; simp [secRLines, IniSpec.Sec.cores, RLine.mark, RLine.core, Function.comp_def]
  rw [h2]
  rfl

theorem eff_bytes (a m : IniSpec.Bom) (h : a = .none ∨ m = .none) :
    a.bytes ++ m.bytes = (if a = .none then m else a).bytes := by
  cases a <;> cases m <;> simp_all [IniSpec.Bom.bytes]

theorem RLine.pre_plain (r : RLine) (hwf : r.wf = true) : IniSpec.plain r.pre = true := by
  cases r with
  | body l => exact body_plain l.body hwf
  | header h => exact (headerOk_of_wf hwf).plain

theorem rline_isLine (p : Bytes) (hp : ∀ x ∈ p, x ≠ 10) (r : RLine) (hwf : r.wf = true) (he : r.eol ≠ .eof) :
    IsLine (p ++ r.core) := by
  have h10 : ∀ x ∈ p ++ r.pre, x ≠ 10 := fun x hx =>
    (List.mem_append.mp hx).elim (hp x) (plain_no10 (r.pre_plain hwf) x)
  rw [RLine.core_eq]
  cases hr : r.eol with
  | lf => exact ⟨p ++ r.pre, by simp [IniSpec.Eol.bytes], h10⟩
  | crlf =>
    refine ⟨p ++ r.pre ++ [13], by simp [IniSpec.Eol.bytes], fun x hx => ?_⟩
    rcases List.mem_append.mp hx with hx | hx
    · exact h10 x hx
    · rw [List.mem_singleton.mp hx]; decide
  | eof => exact absurd hr he

theorem rline_no10 (p : Bytes) (hp : ∀ x ∈ p, x ≠ 10) (r : RLine) (hwf : r.wf = true) (he : r.eol = .eof) :
    ∀ x ∈ p ++ r.core, x ≠ 10 := by
  rw [RLine.core_eq, he, IniSpec.Eol.bytes, List.append_nil]
  exact fun x hx => (List.mem_append.mp hx).elim (hp x) (plain_no10 (r.pre_plain hwf) x)

theorem bom_avoid10 (b : IniSpec.Bom) : ∀ x ∈ b.bytes, x ≠ 10 := by
  cases b <;> decide

/-- the chunks of a document: the mark of the first line (the file's or its own) is glued to it -/
theorem linesOk_chunks (L : Nat) (p : Bytes) (hp : ∀ x ∈ p, x ≠ 10) (r : RLine) (rest : List RLine)
    (hwf : ∀ x ∈ r :: rest, x.wf = true)
    (he : IniSpec.eolsOk ((r :: rest).map RLine.eol) = true) (hlen1 : p.length + r.core.length ≤ L)
    (hlen : ∀ x ∈ rest, x.render.length ≤ L) :
    LinesOk L ((p ++ r.core) :: rest.map RLine.render) := by
  induction rest generalizing p r with
  | nil =>
    refine ⟨by simp; omega, ?_⟩
    by_cases hr : r.eol = .eof
    · exact Or.inr (rline_no10 p hp r (hwf r (by simp)) hr)
    · exact Or.inl (rline_isLine p hp r (hwf r (by simp)) hr)
  | cons r2 rest' ih =>
    simp only [List.map_cons, IniSpec.eolsOk, Bool.and_eq_true, bne_iff_ne, ne_eq] at he
    refine ⟨by simp; omega, rline_isLine p hp r (hwf r (by simp)) he.1, ?_⟩
    rw [RLine.render_mark]
    refine ih r2.mark.bytes (bom_avoid10 _) r2 (fun x hx => hwf x (by simp [hx])) (by simpa using he.2) ?_
      (fun x hx => hlen x (by simp [hx]))
    have := hlen r2 (by simp)
    rwa [RLine.render_mark, List.length_append] at this

def rlineEffect (st : PState) : RLine → PState
  | .body l => bodyEffect st l.body
  | .header h => { sections := pushSection st, cur := some { name := h.name, keys := [] } }

theorem step_rline (st : PState) (pfx : Bytes) (r : RLine) (hwf : r.wf = true)
    (hsh : bomShift (pfx ++ r.core) = pfx.length) (hlen : r.core.length ≤ maxLine) :
    step true st (pfx ++ r.core) = rlineEffect st r := by
  cases r with
  | body l => exact step_line st pfx l hwf hsh hlen
  | header h => exact step_header true st pfx h hwf hsh hlen

/-- a line is fine for the read loop: with its mark it fits the buffer, and without a mark it does not start like one -/
def RLine.ok (r : RLine) : Prop :=
  r.mark.bytes.length + r.core.length ≤ maxLine ∧ (r.mark ≠ .none ∨ IniSpec.startsWithBom r.core = false)

theorem foldl_rlines (rl : List RLine) (st : PState) (hwf : ∀ r ∈ rl, r.wf = true) (hok : ∀ r ∈ rl, r.ok) :
    (rl.map RLine.render).foldl (step true) st = rl.foldl rlineEffect st := by
  induction rl generalizing st with
  | nil => rfl
  | cons r rest ih =>
    have h1 := hok r (by simp)
    rw [List.map_cons, List.foldl_cons, List.foldl_cons, RLine.render_mark,
      step_rline st r.mark.bytes r (hwf r (by simp)) (bomShift_mark r.mark r.core h1.2) (by have := h1.1; omega)]
    exact ih _ (fun x hx => hwf x (by simp [hx])) (fun x hx => hok x (by simp [hx]))

theorem maxLine_eq : maxLine = IniSpec.maxLine := by decide

theorem splitLines_eq (x : Bytes) : splitLines x = splitAux maxLine x [] 0 := rfl

theorem wf_rlines (σ : IniSpec.Style) (d : IniSpec.Doc) (h : IniSpec.WF σ d = true) :
    ∀ r ∈ docRLines d, r.wf = true := by
  simp only [IniSpec.WF, Bool.and_eq_true, List.all_eq_true] at h
  exact forall_docRLines _ d h.1.1.1 h.1.1.2

theorem foldl_render (σ : IniSpec.Style) (d : IniSpec.Doc) (hwf : IniSpec.WF σ d = true) (st : PState) :
    (splitLines (IniSpec.render σ d)).foldl (step true) st = (docRLines d).foldl rlineEffect st := by
  have hrw := wf_rlines σ d hwf
  simp only [IniSpec.WF, Bool.and_eq_true] at hwf
  obtain ⟨⟨_, heols⟩, hlines⟩ := hwf
  rw [doc_eols_eq] at heols
  unfold IniSpec.linesOk at hlines
  unfold IniSpec.render
  rw [doc_cores_eq] at hlines
  rw [doc_lines_eq]
  cases hrl : docRLines d with
  | nil => cases σ.bom <;> rfl
  | cons r rest =>
    rw [hrl] at hrw heols hlines
    simp only [List.map_cons, IniSpec.lineOk, Bool.and_eq_true, decide_eq_true_eq, Bool.or_eq_true, bne_iff_ne, ne_eq,
      Bool.not_eq_true', List.all_eq_true, List.mem_map, forall_exists_index, and_imp,
      forall_apply_eq_imp_iff₂, beq_iff_eq] at hlines
    obtain ⟨⟨hone, hlen1, hbom⟩, hrest⟩ := hlines
    rw [← maxLine_eq] at hlen1 hrest
    -- the first chunk starts with the one mark the first line has: the file's or its own
    have hb := eff_bytes σ.bom r.mark hone
    generalize (if σ.bom = IniSpec.Bom.none then r.mark else σ.bom) = b at hb hlen1 hbom
    have hok := linesOk_chunks maxLine b.bytes (bom_avoid10 b) r rest hrw (by simpa using heols) hlen1
      (fun x hx => by rw [RLine.render_mark, List.length_append]; exact (hrest x hx).1)
    have hflat : σ.bom.bytes ++ (r.render :: rest.map RLine.render).flatten
        = ((b.bytes ++ r.core) :: rest.map RLine.render).flatten := by
      rw [RLine.render_mark]
      simp only [List.flatten_cons, ← List.append_assoc, hb]
    rw [List.map_cons, hflat, splitLines_eq, split_lines maxLine _ hok, foldl_filter_step true, List.foldl_cons,
      step_rline st b.bytes r (hrw r (by simp)) (bomShift_mark b r.core hbom) (by omega),
      foldl_rlines rest _ (fun x hx => hrw x (by simp [hx])) (fun x hx => hrest x hx)]
    rfl

def secOf (s : IniSpec.Sec) : Section := ⟨s.header.name, (IniSpec.entriesOf s.body).reverse⟩

theorem foldl_body (body : List IniSpec.Line) (st : PState) :
    (body.map RLine.body).foldl rlineEffect st = (IniSpec.entriesOf body).foldl addKey st := by
  rw [List.foldl_map, IniSpec.entriesOf, List.foldl_filterMap]
  congr 1
  funext st l
  simp only [rlineEffect]
  cases l.body with
  | entry e => simp only [bodyEffect]; cases e.binding <;> rfl
  | _ => rfl

theorem foldl_addKey_none (es : List (Bytes × Bytes)) (S : List Section) : es.foldl addKey ⟨S, none⟩ = ⟨S, none⟩ := by
  induction es with
  | nil => rfl
  | cons kv es ih => exact ih

theorem foldl_addKey_some (es : List (Bytes × Bytes)) (S : List Section) (n : Bytes) (ks : List (Bytes × Bytes)) :
    es.foldl addKey ⟨S, some ⟨n, ks⟩⟩ = ⟨S, some ⟨n, es.reverse ++ ks⟩⟩ := by
  induction es generalizing ks with
  | nil => rfl
  | cons kv es ih =>
    rw [List.foldl_cons, List.reverse_cons, List.append_assoc]
    exact ih (kv :: ks)

/-- a whole section block: push what was current, start the new section, collect its keys -/
def secStep (st : PState) (s : IniSpec.Sec) : PState := ⟨pushSection st, some (secOf s)⟩

theorem foldl_sec (s : IniSpec.Sec) (st : PState) : (secRLines s).foldl rlineEffect st = secStep st s := by
  rw [secRLines, List.foldl_cons, foldl_body, rlineEffect, foldl_addKey_some, List.append_nil]
  rfl

theorem foldl_secs (secs : List IniSpec.Sec) (st : PState) :
    (secs.flatMap secRLines).foldl rlineEffect st = secs.foldl secStep st := by
  induction secs generalizing st with
  | nil => rfl
  | cons s rest ih => simp only [List.flatMap_cons, List.foldl_append, List.foldl_cons, foldl_sec, ih]

def hasKeys (x : Section) : Bool := !x.keys.isEmpty

theorem pushSection_secStep (st : PState) (s : IniSpec.Sec) :
    pushSection (secStep st s) = [secOf s].filter hasKeys ++ pushSection st := by
  have : pushSection (secStep st s)
      = if (secOf s).keys.isEmpty then pushSection st else secOf s :: pushSection st := rfl
  rw [this]
  by_cases h : (secOf s).keys.isEmpty = true <;> simp [h, hasKeys]

theorem foldl_secStep (secs : List IniSpec.Sec) (last : IniSpec.Sec) (st : PState) :
    (secs ++ [last]).foldl secStep st
      = ⟨((secs.map secOf).filter hasKeys).reverse ++ pushSection st, some (secOf last)⟩ := by
  induction secs generalizing st with
  | nil => simp [secStep]
  | cons s rest ih =>
    simp only [List.cons_append, List.foldl_cons, ih, pushSection_secStep, List.map_cons, List.filter_cons]
    cases hasKeys (secOf s) <;> simp

theorem finish_some (S : List Section) (x : Section) : finish ⟨S, some x⟩ = S ++ [x].filter hasKeys := by
  simp only [finish]
  by_cases h : x.keys.isEmpty = true <;> simp [h, hasKeys]

theorem filter_map_secOf (l : List IniSpec.Sec) :
    (l.map secOf).filter hasKeys = (l.filter IniSpec.Sec.assigns).map secOf := by
  have h : (hasKeys ∘ secOf) = IniSpec.Sec.assigns := by
    funext s; simp [hasKeys, secOf, IniSpec.Sec.assigns]
  rw [List.filter_map, h]

theorem lookupOrder_snoc (init : List IniSpec.Sec) (last : IniSpec.Sec) :
    IniSpec.lookupOrder (init ++ [last]) = init.reverse ++ [last] := by
  simp [IniSpec.lookupOrder]

theorem secs_cases (secs : List IniSpec.Sec) : secs = [] ∨ ∃ init last, secs = init ++ [last] := by
  simpa using List.eq_nil_or_concat secs

/-- the parsed file of a well-formed document: its non-empty sections, in look-up order (the sections before the
last one were prepended, the last one is appended) -/
theorem parse_render_all (σ : IniSpec.Style) (d : IniSpec.Doc) (hwf : IniSpec.WF σ d = true) :
    parse (IniSpec.render σ d) = ((IniSpec.lookupOrder d.secs).filter IniSpec.Sec.assigns).map secOf := by
  have hskip : PV.Generated.Ini.commentSkip = true := by decide
  unfold parse parseWith
  rw [hskip, foldl_render σ d hwf, docRLines, List.foldl_append, foldl_body, foldl_addKey_none, foldl_secs]
  rcases secs_cases d.secs with hs | ⟨init, last, hs⟩
  · rw [hs]; rfl
  · rw [hs, foldl_secStep, finish_some, lookupOrder_snoc, List.filter_append, List.map_append, ← filter_map_secOf,
      ← filter_map_secOf, List.map_reverse, List.filter_reverse]
    simp [pushSection]

theorem sectionView_secOf (s : IniSpec.Sec) :
    sectionView (secOf s) = (s.header.name, IniSpec.assoc (IniSpec.entriesOf s.body)) := by
  simp [sectionView, secOf, IniSpec.assoc, IniSpec.lastValue, List.map_reverse]

theorem findSection_map_secOf (L : List IniSpec.Sec) (n : Bytes) :
    findSection (L.map secOf) n = (L.find? (·.header.name == n)).map secOf := by
  unfold findSection
  rw [List.find?_map]
  rfl

/-- the API view of the parsed rendering: the non-empty sections in listing order (the reverse of the look-up
order: the final section first, then the others in file order), each with what a look-up of its name sees -/
theorem fileView_parse_render (σ : IniSpec.Style) (d : IniSpec.Doc) (hwf : IniSpec.WF σ d = true) :
    fileView (parse (IniSpec.render σ d)) = IniSpec.meaningIn d.secs (IniSpec.lookupOrder d.secs).reverse := by
  rw [parse_render_all σ d hwf, fileView_gen, ← List.map_reverse, List.map_map]
  unfold IniSpec.meaningIn
  rw [List.filter_reverse]
  apply List.map_congr_left
  intro s _
  simp only [Function.comp, viewAs, IniSpec.viewOf, IniSpec.seenSec, findSection_map_secOf]
  have hname : (secOf s).name = s.header.name := rfl
  rw [hname]
  cases ((IniSpec.lookupOrder d.secs).filter IniSpec.Sec.assigns).find? (·.header.name == s.header.name) with
  | none => simp [sectionView_secOf]
  | some y => simp [sectionView_secOf]

theorem distinct_inj {α} (g : α → Bytes) (l : List α) (h : IniSpec.distinct (l.map g) = true) :
    ∀ a ∈ l, ∀ b ∈ l, g a = g b → a = b := by
  induction l with
  | nil => intro a ha; simp at ha
  | cons x rest ih =>
    simp only [List.map_cons, IniSpec.distinct, Bool.and_eq_true, Bool.not_eq_true', List.contains_eq_mem,
      decide_eq_false_iff_not, List.mem_map, not_exists, not_and] at h
    intro a ha b hb hab
    simp only [List.mem_cons] at ha hb
    rcases ha with ha | ha <;> rcases hb with hb | hb
    · rw [ha, hb]
    · subst ha; exact absurd hab.symm (h.1 b hb)
    · subst hb; exact absurd hab (h.1 a ha)
    · exact ih h.2 a ha b hb hab

theorem mem_lookupOrder (all : List IniSpec.Sec) (s : IniSpec.Sec) : s ∈ IniSpec.lookupOrder all ↔ s ∈ all := by
  rcases secs_cases all with rfl | ⟨init, last, rfl⟩
  · rfl
  · rw [lookupOrder_snoc]; simp

theorem seenSec_of_distinct (all : List IniSpec.Sec) (hd : IniSpec.distinct (all.map (·.header.name)) = true)
    (s : IniSpec.Sec) (hs : s ∈ all) (ha : s.assigns = true) : IniSpec.seenSec all s.header.name = some s := by
  unfold IniSpec.seenSec
  apply find?_of_inj (fun x : IniSpec.Sec => x.header.name)
  · intro a ha' b hb' hab
    exact distinct_inj _ all hd a ((mem_lookupOrder all a).mp (List.mem_filter.mp ha').1)
      b ((mem_lookupOrder all b).mp (List.mem_filter.mp hb').1) hab
  · exact List.mem_filter.mpr ⟨(mem_lookupOrder all s).mpr hs, ha⟩

theorem meaningOf_eq (secs : List IniSpec.Sec) :
    IniSpec.meaningOf secs
      = (secs.filter IniSpec.Sec.assigns).map fun s => (s.header.name, IniSpec.assoc (IniSpec.entriesOf s.body)) := by
  induction secs with
  | nil => rfl
  | cons s rest ih =>
    have ih' : List.filterMap (fun s : IniSpec.Sec =>
        if (IniSpec.entriesOf s.body).isEmpty = true then none
        else some (s.header.name, IniSpec.assoc (IniSpec.entriesOf s.body))) rest = _ := ih
    simp only [IniSpec.meaningOf, List.filterMap_cons, List.filter_cons, IniSpec.Sec.assigns]
    by_cases he : (IniSpec.entriesOf s.body).isEmpty = true
    · simp only [he, if_true, Bool.not_true, Bool.false_eq_true, if_false]; exact ih'
    · simp only [he, if_false, Bool.not_false, if_true, Bool.false_eq_true, List.map_cons]; rw [ih']

theorem meaningIn_of_distinct (all : List IniSpec.Sec) (hd : IniSpec.distinct (all.map (·.header.name)) = true)
    (secs : List IniSpec.Sec) (hsub : ∀ s ∈ secs, s ∈ all) : IniSpec.meaningIn all secs = IniSpec.meaningOf secs := by
  rw [meaningOf_eq]
  unfold IniSpec.meaningIn
  apply List.map_congr_left
  intro s hs
  obtain ⟨hs1, hs2⟩ := List.mem_filter.mp hs
  simp [IniSpec.viewOf, seenSec_of_distinct all hd s (hsub s hs1) hs2]

/-- every `key = value` line read literally: the key and value fields as they are -/
def literalEntries (body : List IniSpec.Line) : List (Bytes × Bytes) :=
  body.filterMap fun l => match l.body with
    | .entry e => some (e.key, e.value)
    | _ => none

def literalMeaning (secs : List IniSpec.Sec) : List (Bytes × List (Bytes × Bytes)) :=
  secs.filterMap fun s =>
    let es := literalEntries s.body
    if es.isEmpty then none else some (s.header.name, IniSpec.assoc es)

/-- the stricter demand on a value: unquoted → not empty; quoted → empty or without blanks at its ends -/
def entryStrict (e : IniSpec.Entry) : Bool :=
  match e.quote with
  | .none => !e.value.isEmpty
  | _ => e.value.isEmpty || IniSpec.trimmed e.value

def bodyStrict (body : List IniSpec.Line) : Bool :=
  body.all fun l => match l.body with
    | .entry e => entryStrict e
    | _ => true

/-- distinct section names; unquoted values are not empty, quoted ones have no blanks directly inside the quotes -/
def Strict (d : IniSpec.Doc) : Bool :=
  IniSpec.distinct (d.secs.map (·.header.name)) && d.secs.all fun s => bodyStrict s.body

theorem binding_strict (e : IniSpec.Entry) (h : entryStrict e = true) : e.binding = some (e.key, e.value) := by
  have hq : ∀ v : Bytes, (v.isEmpty || IniSpec.trimmed v) = true → IniSpec.trim v = v := by
    intro v hv
    rcases Bool.or_eq_true_iff.mp hv with hv | hv
    · rw [List.isEmpty_iff.mp hv]; rfl
    · rw [← chomp_eq_trim]; exact chomp_of_trimmed (trimmed_Trimmed hv)
  unfold entryStrict at h
  unfold IniSpec.Entry.binding
  cases hqq : e.quote with
  | none => rw [hqq] at h; simp only [Bool.not_eq_true'] at h; simp [h]
  | single | double => rw [hqq] at h; simp [hq _ h]

theorem filterMap_congr {α β} (f g : α → Option β) (l : List α) (h : ∀ x ∈ l, f x = g x) :
    l.filterMap f = l.filterMap g := by
  induction l with
  | nil => rfl
  | cons x l ih =>
    simp only [List.filterMap_cons, h x (by simp)]
    rw [ih (fun y hy => h y (by simp [hy]))]

theorem entriesOf_strict (body : List IniSpec.Line) (h : bodyStrict body = true) :
    IniSpec.entriesOf body = literalEntries body := by
  unfold IniSpec.entriesOf literalEntries
  apply filterMap_congr
  intro l hl
  have := (List.all_eq_true.mp h) l hl
  cases hb : l.body with
  | blank ws => rfl
  | comment lead c => rfl
  | entry e => rw [hb] at this; exact binding_strict e this

theorem meaningOf_strict (secs : List IniSpec.Sec) (h : ∀ s ∈ secs, bodyStrict s.body = true) :
    IniSpec.meaningOf secs = literalMeaning secs := by
  unfold IniSpec.meaningOf literalMeaning
  apply filterMap_congr
  intro s hs
  simp only [entriesOf_strict s.body (h s hs)]

/-- no line carries a mark of its own (the file may: `Style.bom`) -/
def Unmarked (d : IniSpec.Doc) : Bool :=
  d.preamble.all (·.mark == .none) && d.secs.all fun s => s.header.mark == .none && s.body.all (·.mark == .none)

/-- every physical line fits the line buffer (the first one together with the file's mark) and does not start like a
byte-order mark -/
def formerLinesOk (σ : IniSpec.Style) (d : IniSpec.Doc) : Bool :=
  match d.lines with
  | [] => true
  | l :: ls => (σ.bom.bytes.length + l.length ≤ IniSpec.maxLine && (σ.bom != .none || !IniSpec.startsWithBom l))
               && ls.all fun l => l.length ≤ IniSpec.maxLine && !IniSpec.startsWithBom l

theorem cores_unmarked (d : IniSpec.Doc) (h : Unmarked d = true) :
    d.cores = d.lines.map fun l => (IniSpec.Bom.none, l) := by
  rw [doc_cores_eq, doc_lines_eq, List.map_map]
  apply List.map_congr_left
  intro r hr
  simp only [Unmarked, Bool.and_eq_true, List.all_eq_true, beq_iff_eq] at h
  have hm : r.mark = .none := forall_docRLines (·.mark = .none) d h.1 h.2 r hr
  simp [RLine.render_mark, hm, IniSpec.Bom.bytes]

theorem linesOk_unmarked (σ : IniSpec.Style) (d : IniSpec.Doc) (h : Unmarked d = true) :
    IniSpec.linesOk σ d = formerLinesOk σ d := by
  unfold IniSpec.linesOk formerLinesOk
  rw [cores_unmarked d h]
  cases d.lines with
  | nil => rfl
  | cons l ls =>
    simp only [List.map_cons, List.all_map, Function.comp_def, IniSpec.lineOk, IniSpec.Bom.bytes, List.length_nil,
      Nat.zero_add, beq_self_eq_true, Bool.or_true, Bool.true_and, bne_self_eq_false, Bool.false_or]
    cases σ.bom <;> simp

end PV.Ini
