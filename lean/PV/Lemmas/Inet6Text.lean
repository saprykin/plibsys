import PV.Model.Inet6Text
import PV.Lemmas.SockAddr
/-! Helper lemmas for the glibc IPv6 text model (`PV.Model.Inet6Text`): the parser `go6` reads back what
`hexG` / `ntop4` print — a string of hex digits as its value (`go6_digits`), a group, a list of groups —, the text
`ntop6With` prints has one of four shapes, and the round trip holds for any eight groups (`pton6_ntop6With`). -/
namespace PV.SockAddr

theorem hexVal_hexDigit : ∀ d, d < 16 → hexVal (hexDigit d) = some d := by decide

theorem hexDigit_ne_colon : ∀ d, d < 16 → hexDigit d ≠ 58 := by decide

theorem go6_digit (d : Nat) (hd : d < 16) (r : List UInt8) (st : P6) (hs : st.seen < 4)
    (hv : st.val * 16 + d ≤ 0xffff) :
    go6 (hexDigit d :: r) st = go6 r { st with seen := st.seen + 1, val := st.val * 16 + d } := by
  have h4 : st.seen ≠ 4 := by omega
  have hv' : ¬ st.val * 16 + d > 0xffff := by omega
  simp only [go6, hexVal_hexDigit d hd, h4, hv', if_false]

/-- the value of a digit string, most significant digit first, continuing from `v` -/
def digitsVal (v : Nat) (ds : List Nat) : Nat := ds.foldl (fun v d => v * 16 + d) v

theorem le_digitsVal (v : Nat) (ds : List Nat) : v ≤ digitsVal v ds := by
  induction ds generalizing v with
  | nil => exact Nat.le_refl v
  | cons d ds ih => exact Nat.le_trans (by omega) (ih (v * 16 + d))

theorem go6_digits (ds : List Nat) (hds : ∀ d ∈ ds, d < 16) (rest : List UInt8) (st : P6)
    (hs : st.seen + ds.length ≤ 4) (hv : digitsVal st.val ds ≤ 0xffff) :
    go6 (ds.map hexDigit ++ rest) st =
      go6 rest { st with seen := st.seen + ds.length, val := digitsVal st.val ds } := by
  induction ds generalizing st with
  | nil => rfl
  | cons d ds ih =>
    have hd : d < 16 := hds d (by simp)
    have hv' := le_digitsVal (st.val * 16 + d) ds
    simp only [List.length_cons] at hs
    rw [List.map_cons, List.cons_append, go6_digit d hd _ st (by omega) (Nat.le_trans hv' hv),
      ih (fun x hx => hds x (by simp [hx])) _ (by simp only []; omega) hv]
    simp only [List.length_cons, Nat.add_assoc, Nat.add_comm 1]
    rfl

theorem hexG_length (w : Nat) : 1 ≤ (hexG w).length ∧ (hexG w).length ≤ 4 := by
  unfold hexG; split
  · simp
  · split
    · simp
    · split <;> simp

theorem hexG_ne_nil (w : Nat) : hexG w ≠ [] := by
  intro h; have := (hexG_length w).1; rw [h] at this; simp at this

theorem hexG_digits (w : Nat) (hw : w < 65536) :
    ∃ ds, hexG w = ds.map hexDigit ∧ (∀ d ∈ ds, d < 16) ∧ digitsVal 0 ds = w := by
  unfold hexG
  split
  · exact ⟨[w], rfl, by simp; omega, by simp [digitsVal]⟩
  · split
    · exact ⟨[w / 16, w % 16], rfl, by simp; omega, by simp [digitsVal]; omega⟩
    · split
      · exact ⟨[w / 256, w / 16 % 16, w % 16], rfl, by simp; omega, by simp [digitsVal]; omega⟩
      · exact ⟨[w / 4096 % 16, w / 256 % 16, w / 16 % 16, w % 16], rfl, by simp; omega, by simp [digitsVal]; omega⟩

/-- the digits of a group are read back as its value -/
theorem go6_hexG (w : Nat) (hw : w < 65536) (rest acc : List UInt8) (colon : Option Nat) (tok : List UInt8) :
    go6 (hexG w ++ rest) ⟨acc, colon, 0, 0, tok⟩ = go6 rest ⟨acc, colon, (hexG w).length, w, tok⟩ := by
  obtain ⟨ds, e, hds, hv⟩ := hexG_digits w hw
  have h4 := (hexG_length w).2
  rw [e, List.length_map] at h4
  rw [e, go6_digits ds hds rest _ (by simpa using h4) (by simp only [hv]; omega)]
  simp [hv]

theorem hexVal_colon : hexVal 58 = none := by decide

theorem go6_colon_store (rest acc : List UInt8) (colon : Option Nat) (k v : Nat) (tok : List UInt8)
    (hk : 0 < k) (hr : rest ≠ []) (ha : acc.length + 2 ≤ 16) :
    go6 (58 :: rest) ⟨acc, colon, k, v, tok⟩ = go6 rest ⟨acc ++ valBytes v, colon, 0, 0, rest⟩ := by
  have hk' : k ≠ 0 := by omega
  have ha' : ¬ acc.length + 2 > 16 := by omega
  simp only [go6, hexVal_colon, hk', hr, ha', if_true, if_false]

theorem go6_colon_mark (rest acc tok : List UInt8) :
    go6 (58 :: rest) ⟨acc, none, 0, 0, tok⟩ = go6 rest ⟨acc, some acc.length, 0, 0, rest⟩ := by
  simp [go6, hexVal_colon]

theorem go6_group_colon (w : Nat) (hw : w < 65536) (rest : List UInt8) (hr : rest ≠ []) (acc : List UInt8)
    (colon : Option Nat) (tok : List UInt8) (ha : acc.length + 2 ≤ 16) :
    go6 (hexG w ++ 58 :: rest) ⟨acc, colon, 0, 0, tok⟩ = go6 rest ⟨acc ++ valBytes w, colon, 0, 0, rest⟩ := by
  rw [go6_hexG w hw, go6_colon_store _ _ _ _ _ _ (hexG_length w).1 hr ha]

theorem go6_group_end (w : Nat) (hw : w < 65536) (acc : List UInt8) (colon : Option Nat) (tok : List UInt8)
    (ha : acc.length + 2 ≤ 16) :
    go6 (hexG w) ⟨acc, colon, 0, 0, tok⟩ = finish6 (acc ++ valBytes w) colon := by
  have h := go6_hexG w hw [] acc colon tok
  rw [List.append_nil] at h
  have h1 : (hexG w).length > 0 := (hexG_length w).1
  have ha' : ¬ acc.length + 2 > 16 := by omega
  rw [h]
  simp only [go6, h1, ha', if_true, if_false]

/-- a group followed by ':' -/
def grpColon (w : Nat) : List UInt8 := hexG w ++ [58]

/-- groups separated by ':' -/
def sepGroups : List Nat → List UInt8
  | [] => []
  | [w] => hexG w
  | w :: w' :: r => hexG w ++ 58 :: sepGroups (w' :: r)

/-- the bytes `inet_pton6` stores for a list of groups -/
def gbytes (ws : List Nat) : List UInt8 := ws.flatMap valBytes

theorem gbytes_length (ws : List Nat) : (gbytes ws).length = 2 * ws.length := by
  induction ws with
  | nil => rfl
  | cons w r ih => simp [gbytes, valBytes] at ih ⊢; omega

theorem gbytes_cons (w : Nat) (r : List Nat) : gbytes (w :: r) = valBytes w ++ gbytes r := by simp [gbytes]

theorem gbytes_append (x y : List Nat) : gbytes (x ++ y) = gbytes x ++ gbytes y := by simp [gbytes]

theorem sepGroups_cons (w : Nat) (ws : List Nat) :
    sepGroups (w :: ws) = hexG w ++ ws.flatMap (fun w => 58 :: hexG w) := by
  induction ws generalizing w with
  | nil => simp [sepGroups]
  | cons w' ws ih => rw [sepGroups, ih, List.flatMap_cons, List.cons_append]

theorem sepGroups_ne_nil (w : Nat) (r : List Nat) : sepGroups (w :: r) ≠ [] := by
  simp [sepGroups_cons, hexG_ne_nil]

theorem go6_sepGroups (ws : List Nat) (hws : ∀ w ∈ ws, w < 65536) (acc : List UInt8) (colon : Option Nat)
    (tok : List UInt8) (ha : acc.length + 2 * ws.length ≤ 16) :
    go6 (sepGroups ws) ⟨acc, colon, 0, 0, tok⟩ = finish6 (acc ++ gbytes ws) colon := by
  induction ws generalizing acc tok with
  | nil => simp [sepGroups, go6, gbytes]
  | cons w r ih =>
    have hw : w < 65536 := hws w (by simp)
    simp only [List.length_cons] at ha
    cases r with
    | nil =>
      simp only [sepGroups]
      rw [go6_group_end w hw acc colon tok (by omega)]
      simp [gbytes]
    | cons w' r' =>
      simp only [sepGroups]
      rw [go6_group_colon w hw _ (sepGroups_ne_nil w' r') acc colon tok (by omega)]
      rw [ih (fun x hx => hws x (by simp [hx])) _ _ (by simp [valBytes] at ha ⊢; omega)]
      rw [gbytes_cons w (w' :: r'), List.append_assoc]

theorem go6_grpColons (ws : List Nat) (hws : ∀ w ∈ ws, w < 65536) (rest : List UInt8) (hr : rest ≠ [])
    (acc : List UInt8) (colon : Option Nat) (tok : List UInt8) (ha : acc.length + 2 * ws.length ≤ 16) :
    ∃ tok', go6 (ws.flatMap grpColon ++ rest) ⟨acc, colon, 0, 0, tok⟩ = go6 rest ⟨acc ++ gbytes ws, colon, 0, 0, tok'⟩ := by
  induction ws generalizing acc tok with
  | nil => exact ⟨tok, by simp [gbytes]⟩
  | cons w r ih =>
    have hw : w < 65536 := hws w (by simp)
    simp only [List.length_cons] at ha
    have hne : r.flatMap grpColon ++ rest ≠ [] := by simp [hr]
    obtain ⟨tok', h⟩ := ih (fun x hx => hws x (by simp [hx])) (acc ++ valBytes w) (r.flatMap grpColon ++ rest)
      (by simp [valBytes] at ha ⊢; omega)
    refine ⟨tok', ?_⟩
    have e : (w :: r).flatMap grpColon ++ rest = hexG w ++ 58 :: (r.flatMap grpColon ++ rest) := by
      simp [grpColon, List.flatMap_cons]
    rw [e, go6_group_colon w hw _ hne acc colon tok (by omega), h, gbytes_cons, List.append_assoc]

/-- a text that starts with a group is handed to the loop as it is -/
theorem pton6_hexG (w : Nat) (hw : w < 65536) (s rest : List UInt8) (hs : s = hexG w ++ rest) :
    pton6 s = go6 s ⟨[], none, 0, 0, s⟩ := by
  obtain ⟨ds, e, hds, -⟩ := hexG_digits w hw
  cases ds with
  | nil => exact absurd e (hexG_ne_nil w)
  | cons d t =>
    rw [hs, e]
    simp [pton6, hexDigit_ne_colon d (hds d (by simp))]

theorem pton6_coloncolon (rest : List UInt8) : pton6 (58 :: 58 :: rest) = go6 rest ⟨[], some 0, 0, 0, rest⟩ := by
  simp [pton6, go6_colon_mark]

/-- the groups before and after a `::` come back with the zeros between them -/
theorem pton6_compressed (pre post : List Nat) (hpre : ∀ w ∈ pre, w < 65536) (hpost : ∀ w ∈ post, w < 65536)
    (hlen : pre.length + post.length < 8) :
    pton6 ((if pre = [] then [58] else []) ++ pre.flatMap grpColon ++ 58 :: sepGroups post) =
      vec16 (gbytes pre ++ List.replicate (16 - 2 * (pre.length + post.length)) 0 ++ gbytes post) := by
  have fin : ∀ tok, go6 (58 :: sepGroups post) ⟨gbytes pre, none, 0, 0, tok⟩ =
      vec16 (gbytes pre ++ List.replicate (16 - 2 * (pre.length + post.length)) 0 ++ gbytes post) := by
    intro tok
    rw [go6_colon_mark, go6_sepGroups post hpost _ _ _ (by rw [gbytes_length]; omega)]
    have hl : ¬ 16 ≤ (gbytes pre ++ gbytes post).length := by simp [gbytes_length]; omega
    simp only [finish6, hl, if_false]
    simp [gbytes_length]
    rw [show 2 * pre.length + 2 * post.length = 2 * (pre.length + post.length) by omega]
  cases pre with
  | nil =>
    simp only [if_true, List.flatMap_nil, List.append_nil, List.singleton_append]
    rw [pton6]
    simp only [if_true]
    exact fin _
  | cons w r =>
    obtain ⟨tok', h⟩ := go6_grpColons (w :: r) hpre (58 :: sepGroups post) (by simp) [] none
      ((w :: r).flatMap grpColon ++ 58 :: sepGroups post) (by simp at hlen ⊢; omega)
    rw [if_neg (List.cons_ne_nil w r), List.nil_append,
      pton6_hexG w (hpre w (by simp)) _ (58 :: (r.flatMap grpColon ++ 58 :: sepGroups post)) (by simp [grpColon]), h]
    simpa using fin tok'

/-- eight groups without `::` -/
theorem pton6_full (ws : List Nat) (hws : ∀ w ∈ ws, w < 65536) (hlen : ws.length = 8) :
    pton6 (sepGroups ws) = vec16 (gbytes ws) := by
  cases ws with
  | nil => simp at hlen
  | cons w r =>
    rw [pton6_hexG w (hws w (by simp)) _ _ (sepGroups_cons w r), go6_sepGroups (w :: r) hws _ _ _ (by rw [hlen]; simp)]
    simp [finish6]

def validRuns : List (Nat × Nat) := [(0, 2), (0, 3), (0, 4), (0, 5), (0, 6), (0, 7), (0, 8), (1, 2), (1, 3), (1, 4), (1, 5), (1, 6), (1, 7), (2, 2), (2, 3), (2, 4), (2, 5), (2, 6), (3, 2), (3, 3), (3, 4), (3, 5), (4, 2), (4, 3), (4, 4), (5, 2), (5, 3), (6, 2)]

/-- the run `inet_ntop6` compresses has at least two groups, lies within the eight, and every group in it is zero -/
def runOk (zs : List Bool) : Bool :=
  match bestRun zs with
  | none => true
  | some (b, l) => decide ((b, l) ∈ validRuns) &&
      (List.range 8).all (fun i => !(decide (b ≤ i) && decide (i < b + l)) || zs.getD i false)

/-- … whatever the eight zero flags -/
theorem bestRun_spec : ∀ z0 z1 z2 z3 z4 z5 z6 z7 : Bool, runOk [z0, z1, z2, z3, z4, z5, z6, z7] = true := by
  decide +kernel

theorem len8 {α : Type} (l : List α) (h : l.length = 8) : ∃ a b c d e f g i, l = [a, b, c, d, e, f, g, i] := by
  match l, h with
  | [a, b, c, d, e, f, g, i], _ => exact ⟨a, b, c, d, e, f, g, i, rfl⟩

theorem ntop6With_tail6 (ws : List Nat) (hlen : ws.length = 8) (t4 : List UInt8) :
    ntop6With ws (some (0, 6)) t4 = 58 :: 58 :: t4 := by
  obtain ⟨a, b, c, d, e, f, g, i, rfl⟩ := len8 ws hlen
  simp [ntop6With, render6, inBest, isBase, v4Tail, trailingColon]

theorem ntop6With_tail5 (ws : List Nat) (hlen : ws.length = 8) (t4 : List UInt8) (h5 : ws.getD 5 0 = 0xffff) :
    ntop6With ws (some (0, 5)) t4 = 58 :: 58 :: (hexG 0xffff ++ 58 :: t4) := by
  obtain ⟨a, b, c, d, e, f, g, i, rfl⟩ := len8 ws hlen
  simp at h5
  subst h5
  simp [ntop6With, render6, inBest, isBase, v4Tail, trailingColon]

theorem take_run_drop {α : Type} (ws : List α) (b l : Nat) : ws.take b ++ (ws.drop b).take l ++ ws.drop (b + l) = ws := by
  rw [List.append_assoc, ← List.drop_drop, List.take_append_drop, List.take_append_drop]

theorem render6_outside (best : Option (Nat × Nat)) (t4 : List UInt8) (ws rest : List Nat) (i : Nat) (hi : i ≠ 0)
    (hout : ∀ j, i ≤ j → j < i + ws.length → inBest best j = false) :
    render6 best false t4 i (ws ++ rest) =
      ws.flatMap (fun w => 58 :: hexG w) ++ render6 best false t4 (i + ws.length) rest := by
  induction ws generalizing i with
  | nil => rfl
  | cons w ws ih =>
    have h0 : inBest best i = false := hout i (Nat.le_refl i) (by simp)
    rw [List.cons_append, render6, h0, ih (i + 1) (by omega) (fun j h1 h2 => hout j (by omega) (by simp at h2 ⊢; omega))]
    simp [hi, Nat.add_assoc, Nat.add_comm 1]

theorem render6_inside (b l : Nat) (t4 : List UInt8) (ws rest : List Nat) (i : Nat) (hb : b < i)
    (hr : i + ws.length ≤ b + l) :
    render6 (some (b, l)) false t4 i (ws ++ rest) = render6 (some (b, l)) false t4 (i + ws.length) rest := by
  induction ws generalizing i with
  | nil => rfl
  | cons w ws ih =>
    simp only [List.length_cons] at hr
    have h1 : inBest (some (b, l)) i = true := by simp [inBest]; omega
    have h2 : isBase (some (b, l)) i = false := by simp [isBase]; omega
    rw [List.cons_append, render6, h1, h2, ih (i + 1) (by omega) (by omega)]
    simp [Nat.add_assoc, Nat.add_comm 1]

/-- `inet_ntop6` prints the ':' in front of a group; `pton6_compressed` has it behind each group before the run and
    between the groups after it: the next two lemmas move it -/
theorem colons_grpColon (ws : List Nat) : ws.flatMap (fun w => 58 :: hexG w) ++ [58] = 58 :: ws.flatMap grpColon := by
  induction ws with
  | nil => rfl
  | cons w ws ih => simp [grpColon, ← ih]

theorem colons_sepGroups (ws : List Nat) :
    ws.flatMap (fun w => 58 :: hexG w) ++ (if ws = [] then [58] else []) = 58 :: sepGroups ws := by
  cases ws with
  | nil => rfl
  | cons w ws => simp [sepGroups_cons]

theorem ntop6With_none (ws : List Nat) (t4 : List UInt8) : ntop6With ws none t4 = sepGroups ws := by
  cases ws with
  | nil => rfl
  | cons w ws =>
    have h := render6_outside none t4 ws [] 1 (by decide) (fun _ _ _ => rfl)
    rw [List.append_nil] at h
    simp [ntop6With, trailingColon, v4Tail, render6, inBest, h, sepGroups_cons]

/-- the printed text around a run of `l ≥ 1` groups that starts at group `b` -/
theorem render6_run (t4 : List UInt8) (pre run post : List Nat) (b l : Nat) (hb : pre.length = b)
    (hl : run.length = l) (hpos : 0 < l) :
    render6 (some (b, l)) false t4 0 (pre ++ run ++ post) ++ (if post = [] then [58] else []) =
      (if pre = [] then [58] else []) ++ pre.flatMap grpColon ++ 58 :: sepGroups post := by
  have hafter : render6 (some (b, l)) false t4 (b + l) post = post.flatMap (fun w => 58 :: hexG w) := by
    have := render6_outside (some (b, l)) t4 post [] (b + l) (by omega) (fun j h1 _ => by simp [inBest]; omega)
    simpa [render6] using this
  have hrun : render6 (some (b, l)) false t4 b (run ++ post) = 58 :: post.flatMap (fun w => 58 :: hexG w) := by
    cases run with
    | nil => simp at hl; omega
    | cons z run' =>
      simp only [List.length_cons] at hl
      have h1 : inBest (some (b, l)) b = true := by simp [inBest]; omega
      rw [List.cons_append, render6, h1, render6_inside _ _ _ _ _ _ (by omega) (by omega),
        show b + 1 + run'.length = b + l by omega, hafter]
      simp [isBase]
  cases pre with
  | nil =>
    obtain rfl : b = 0 := hb.symm
    rw [List.nil_append, hrun, if_pos rfl]
    simpa using colons_sepGroups post
  | cons p pre' =>
    simp only [List.length_cons] at hb
    have h0 : inBest (some (b, l)) 0 = false := by simp [inBest]; omega
    rw [List.cons_append, List.cons_append, render6, h0, List.append_assoc,
      render6_outside _ _ pre' _ 1 (by decide) (fun j h1 h2 => by simp [inBest]; omega),
      show 1 + pre'.length = b by omega, hrun]
    simp [← colons_grpColon pre', ← colons_sepGroups post, grpColon]

theorem ntop6With_compress (ws : List Nat) (hlen : ws.length = 8) (b l : Nat) (hl : 0 < l) (hbl : b + l ≤ 8)
    (ht : v4Tail (some (b, l)) (ws.getD 5 0) = false) (t4 : List UInt8) :
    ntop6With ws (some (b, l)) t4 =
      (if ws.take b = [] then [58] else []) ++ (ws.take b).flatMap grpColon ++ 58 :: sepGroups (ws.drop (b + l)) := by
  have hcolon : trailingColon (some (b, l)) = if ws.drop (b + l) = [] then [58] else [] := by
    simp only [trailingColon, List.drop_eq_nil_iff, hlen]
    by_cases h : b + l = 8
    · rw [if_pos h, if_pos (by omega)]
    · rw [if_neg h, if_neg (by omega)]
  have h := render6_run t4 (ws.take b) ((ws.drop b).take l) (ws.drop (b + l)) b l (by simp; omega) (by simp; omega) hl
  rw [take_run_drop] at h
  rw [ntop6With, ht, hcolon, h]

/-- decimal digits are hex digits: `"%u"` of an octet is at most three of them -/
theorem decByte_digits (b : UInt8) :
    ∃ ds, decByte b = ds.map hexDigit ∧ (∀ d ∈ ds, d < 16) ∧ ds.length ≤ 3 ∧ digitsVal 0 ds ≤ 0xffff := by
  have hb := UInt8.toNat_lt b
  have hd : ∀ d, d < 10 → UInt8.ofNat (48 + d) = hexDigit d := fun d h => by simp [hexDigit, h]
  unfold decByte
  simp only []
  split
  · refine ⟨[b.toNat / 100, b.toNat / 10 % 10, b.toNat % 10], ?_, by simp; omega, by simp, by simp [digitsVal]; omega⟩
    rw [hd _ (by omega), hd _ (by omega), hd _ (by omega)]
    rfl
  · split
    · refine ⟨[b.toNat / 10, b.toNat % 10], ?_, by simp; omega, by simp, by simp [digitsVal]; omega⟩
      rw [hd _ (by omega), hd _ (by omega)]
      rfl
    · refine ⟨[b.toNat], ?_, by simp; omega, by simp, by simp [digitsVal]; omega⟩
      rw [hd _ (by omega)]
      rfl

/-- the first octet of a dotted quad is read as hex digits, the '.' then hands the token to `inet_pton4` -/
theorem go6_decByte_dot (b : UInt8) (rest acc : List UInt8) (colon : Option Nat) (tok : List UInt8) :
    go6 (decByte b ++ 46 :: rest) ⟨acc, colon, 0, 0, tok⟩ =
      if acc.length + 4 ≤ 16 then
        match pton4 tok with
        | some x => finish6 (acc ++ x.toList) colon
        | none => none
      else none := by
  obtain ⟨ds, e, hds, h3, hv⟩ := decByte_digits b
  rw [e, go6_digits ds hds _ _ (Nat.le_trans (Nat.add_le_add_left h3 0) (by decide)) hv]
  have h46 : hexVal 46 = none ∧ (46 : UInt8) ≠ 58 := by decide
  simp only [go6, h46, if_false, true_and]
  rfl

theorem go6_ntop4 (t : Vector UInt8 4) (acc : List UInt8) (colon : Option Nat) (ha : acc.length + 4 ≤ 16) :
    go6 (ntop4 t) ⟨acc, colon, 0, 0, ntop4 t⟩ = finish6 (acc ++ t.toList) colon := by
  refine (go6_decByte_dot t[0] _ acc colon (ntop4 t)).trans ?_
  rw [pton4_ntop4]
  simp [ha]

/-- `::a.b.c.d` -/
theorem pton6_tail6 (t : Vector UInt8 4) :
    pton6 (58 :: 58 :: ntop4 t) = vec16 (List.replicate 12 0 ++ t.toList) := by
  rw [pton6_coloncolon, go6_ntop4 t [] (some 0) (by simp)]
  simp [finish6]

/-- `::ffff:a.b.c.d` -/
theorem pton6_tail5 (t : Vector UInt8 4) :
    pton6 (58 :: 58 :: (hexG 0xffff ++ 58 :: ntop4 t)) = vec16 (List.replicate 10 0 ++ valBytes 0xffff ++ t.toList) := by
  rw [pton6_coloncolon, go6_group_colon 0xffff (by decide) _ (by simp [ntop4]) [] (some 0) _ (by simp),
    go6_ntop4 t _ (some 0) (by simp [valBytes])]
  simp [finish6, valBytes]

theorem valBytes_word (x y : UInt8) : valBytes (x.toNat * 256 + y.toNat) = [x, y] := by
  rw [valBytes, (digits16 _ _ (UInt8.toNat_lt y)).1, (digits16 _ _ (UInt8.toNat_lt y)).2, UInt8.ofNat_toNat, UInt8.ofNat_toNat]

theorem gbytes_words6 (a : Vector UInt8 16) : gbytes (words6 a) = a.toList := by
  obtain ⟨c0, c1, c2, c3, c4, c5, c6, c7, c8, c9, c10, c11, c12, c13, c14, c15, rfl⟩ := vec16_cases a
  simp [words6, gbytes, valBytes_word]

theorem word_lt (x y : UInt8) : x.toNat * 256 + y.toNat < 65536 := by
  have hx := UInt8.toNat_lt x
  have hy := UInt8.toNat_lt y
  omega

theorem words6_lt (a : Vector UInt8 16) : ∀ w ∈ words6 a, w < 65536 := by
  simp [words6, word_lt]

theorem vec16_toList (a : Vector UInt8 16) : vec16 a.toList = some a := by
  simp [vec16, Vector.toList]

theorem gbytes_replicate_zero (l : Nat) : gbytes (List.replicate l 0) = List.replicate (2 * l) 0 := by
  induction l with
  | zero => rfl
  | succ n ih =>
    rw [List.replicate_succ, gbytes_cons, ih, show 2 * (n + 1) = 2 * n + 1 + 1 by omega, List.replicate_succ, List.replicate_succ]
    simp [valBytes]

/-- a run of zero groups inside a list of groups, as bytes -/
theorem gbytes_zero_run (ws : List Nat) (b l : Nat) (hbl : b + l ≤ ws.length)
    (hz : ∀ i, b ≤ i → i < b + l → ws.getD i 1 = 0) :
    gbytes (ws.take b) ++ List.replicate (2 * l) 0 ++ gbytes (ws.drop (b + l)) = gbytes ws := by
  have hmid : (ws.drop b).take l = List.replicate l 0 := by
    apply List.ext_getElem
    · simp; omega
    · intro i h1 h2
      simp at h1
      have := hz (b + i) (by omega) (by omega)
      simp [List.getD_eq_getElem?_getD, List.getElem?_eq_getElem (show b + i < ws.length by omega)] at this
      simp [this]
  conv => rhs; rw [← take_run_drop ws b l]
  rw [gbytes_append, gbytes_append, hmid, gbytes_replicate_zero]

theorem validRuns_bounds : ∀ p ∈ validRuns, 2 ≤ p.2 ∧ p.1 + p.2 ≤ 8 := by decide

/-- what the round trip needs of the run `inet_ntop6` chose: one of the 28, made of zero groups -/
theorem bestRun_run (ws : List Nat) (hlen : ws.length = 8) (b l : Nat) (hb : bestRun (ws.map (· == 0)) = some (b, l)) :
    (b, l) ∈ validRuns ∧ ∀ i, b ≤ i → i < b + l → ws.getD i 1 = 0 := by
  obtain ⟨w0, w1, w2, w3, w4, w5, w6, w7, rfl⟩ := len8 ws hlen
  have hspec := bestRun_spec (w0 == 0) (w1 == 0) (w2 == 0) (w3 == 0) (w4 == 0) (w5 == 0) (w6 == 0) (w7 == 0)
  unfold runOk at hspec
  rw [show [w0 == 0, w1 == 0, w2 == 0, w3 == 0, w4 == 0, w5 == 0, w6 == 0, w7 == 0] =
    [w0, w1, w2, w3, w4, w5, w6, w7].map (· == 0) from rfl, hb] at hspec
  simp only [Bool.and_eq_true, decide_eq_true_eq, List.all_eq_true, List.mem_range, Bool.or_eq_true,
    Bool.not_eq_true', Bool.and_eq_false_imp] at hspec
  obtain ⟨hmem, hall⟩ := hspec
  refine ⟨hmem, fun i h1 h2 => ?_⟩
  have h8 : b + l ≤ 8 := (validRuns_bounds _ hmem).2
  rcases hall i (by omega) with h | h
  · simp at h
    omega
  · simp only [List.getD_eq_getElem?_getD, List.getElem?_map] at h ⊢
    cases hi : [w0, w1, w2, w3, w4, w5, w6, w7][i]? with
    | none => simp [hi] at h
    | some x => simpa [hi] using h

/-- whatever the eight groups and whichever run is compressed, the printed text is read back as the groups' bytes;
    `t` stands for the last four bytes, which `inet_ntop6` hands to `inet_ntop4` -/
theorem pton6_ntop6With (ws : List Nat) (hlen : ws.length = 8) (hws : ∀ w ∈ ws, w < 65536) (t : Vector UInt8 4)
    (htl : gbytes (ws.drop 6) = t.toList) :
    pton6 (ntop6With ws (bestRun (ws.map (· == 0))) (ntop4 t)) = vec16 (gbytes ws) := by
  cases hb : bestRun (ws.map (· == 0)) with
  | none => rw [ntop6With_none, pton6_full _ hws hlen]
  | some r =>
    obtain ⟨b, l⟩ := r
    obtain ⟨hmem, hz⟩ := bestRun_run ws hlen b l hb
    obtain ⟨hl2, hbl⟩ : 2 ≤ l ∧ b + l ≤ 8 := validRuns_bounds _ hmem
    have hrun := gbytes_zero_run ws b l (by rw [hlen]; exact hbl) hz
    by_cases ht : v4Tail (some (b, l)) (ws.getD 5 0) = true
    · have hb0 : b = 0 ∧ (l = 6 ∨ (l = 5 ∧ ws.getD 5 0 = 0xffff)) := by
        simpa [v4Tail] using ht
      obtain ⟨rfl, h6 | ⟨rfl, h5⟩⟩ := hb0
      · subst h6
        rw [ntop6With_tail6 _ hlen, pton6_tail6, ← hrun, ← htl]
        rfl
      · have e : ws.drop 5 = ws.getD 5 0 :: ws.drop 6 := by
          obtain ⟨w0, w1, w2, w3, w4, w5, w6, w7, rfl⟩ := len8 ws hlen
          rfl
        rw [ntop6With_tail5 _ hlen _ h5, pton6_tail5, ← hrun, ← htl, Nat.zero_add, e, h5, gbytes_cons,
          ← List.append_assoc]
        rfl
    · have ht' : v4Tail (some (b, l)) (ws.getD 5 0) = false := by simpa using ht
      rw [ntop6With_compress _ hlen b l (by omega) hbl ht']
      have hpl : (ws.take b).length + (ws.drop (b + l)).length < 8 := by
        simp [hlen]; omega
      rw [pton6_compressed _ _ (fun w hw => hws w (List.mem_of_mem_take hw)) (fun w hw => hws w (List.mem_of_mem_drop hw)) hpl]
      have e : 16 - 2 * ((ws.take b).length + (ws.drop (b + l)).length) = 2 * l := by
        simp [hlen]; omega
      rw [e, hrun]

theorem pton6_ntop6 (a : Vector UInt8 16) : pton6 (ntop6 a) = some a := by
  have htl : gbytes ((words6 a).drop 6) = (#v[a[12], a[13], a[14], a[15]] : Vector UInt8 4).toList := by
    simp [words6, gbytes, valBytes_word]
  rw [ntop6, pton6_ntop6With (words6 a) rfl (words6_lt a) _ htl, gbytes_words6, vec16_toList]

/-- without a ':' the loop never completes a group before the end, so it cannot fill 16 bytes -/
theorem go6_no_colon (s : List UInt8) (hs : 58 ∉ s) (st : P6) (hc : st.colon = none) (ha : st.acc.length + 4 < 16) :
    go6 s st = none := by
  have hv : ∀ l : List UInt8, l.length ≠ 16 → finish6 l st.colon = none := fun l h => by
    rw [hc]
    exact dif_neg h
  induction s generalizing st with
  | nil =>
    unfold go6
    split
    · split
      · rfl
      · exact hv _ (by simp [valBytes]; omega)
    · exact hv _ (by omega)
  | cons c r ih =>
    have hc58 : c ≠ 58 := fun h => hs (by simp [h])
    have hr : 58 ∉ r := fun h => hs (by simp [h])
    unfold go6
    split
    · split
      · rfl
      · split
        · rfl
        · exact ih hr _ hc ha (fun l h => hv l h)
    · rw [if_neg hc58]
      split
      · split
        · exact hv _ (by simp; omega)
        · rfl
      · rfl

theorem pton6_no_colon (s : List UInt8) (hs : 58 ∉ s) : pton6 s = none := by
  cases s with
  | nil => rfl
  | cons c r =>
    have hc58 : c ≠ 58 := fun h => hs (by simp [h])
    simp only [pton6, if_neg hc58]
    exact go6_no_colon _ hs _ rfl (by simp)

theorem ntop6_has_colon (a : Vector UInt8 16) : (ntop6 a).contains 58 = true := by
  rw [List.contains_iff_mem]
  refine Decidable.byContradiction fun h => ?_
  have := pton6_ntop6 a
  rw [pton6_no_colon _ h] at this
  cases this

theorem parseOctetGo_colon (f : List UInt8) (h : 58 ∈ f) (saw : Bool) (cur : Nat) : parseOctetGo f saw cur = none := by
  induction f generalizing saw cur with
  | nil => simp at h
  | cons c r ih =>
    rcases List.mem_cons.1 h with rfl | hr
    · simp [parseOctetGo]
    · simp [parseOctetGo, ih hr]

theorem splitDot_mem (s : List UInt8) (c : UInt8) (hc : c ∈ s) (hd : c ≠ dot) :
    c ∈ (splitDot s).1 ∨ c ∈ (splitDot s).2.flatten := by
  induction s with
  | nil => simp at hc
  | cons x r ih =>
    simp only [splitDot]
    rcases List.mem_cons.1 hc with rfl | h
    · simp [hd]
    · by_cases hx : x = dot <;> rcases ih h with h' | h'
      all_goals simp [hx, h']

theorem pton4_colon (s : List UInt8) (h : 58 ∈ s) : pton4 s = none := by
  have hm := splitDot_mem s 58 h (by decide)
  have hp : ∀ f, 58 ∈ f → parseOctet f = none := fun f hf => parseOctetGo_colon f hf _ _
  unfold pton4
  split
  · rename_i f0 f1 f2 f3 heq
    simp only [heq, List.flatten_cons, List.flatten_nil, List.mem_append, List.not_mem_nil, or_false] at hm
    rcases hm with h | h | h | h <;> simp [hp _ h]
  · rfl

end PV.SockAddr
