import PV.Lemmas.IPCKey
/-!
* `SemKeyWF` — PShm structs and shm calls in flight only ever address the lock key `.lock k` of their
  own segment name `k`; in particular they never touch a `.user` key, so `Quiet (.user n)` only
  constrains the `p_semaphore_*` calls (`quiet_user`).
* `holders` / `Bracketed` — who is between a successful lock and its unlock, read off the event log.
-/
namespace PV.IPC
open PV.Generated.IPC

structure SemKeyWF (g : G) : Prop where
  handles : ∀ h p y, g.hs h = some (p, .shm y) → y.sem.key = .lock y.key
  news : ∀ t hid st s', g.calls t = some (.shmNew hid st) → st.pc = .sem s' → s'.key = .lock st.key
  frees : ∀ t st, g.calls t = some (.shmFree st) →
    st.h.sem.key = .lock st.h.key ∧ ∀ s', st.pc = .sem s' → s'.h.key = .lock st.h.key

variable {g : G}

theorem semKeyWF_advance (h : SemKeyWF g) {t : Tid} {c : Call} (hc : g.calls t = some c) (os' : OS) (r : Res) :
    SemKeyWF (g.advance t c os' r) := by
  refine ⟨fun h' p y hy => ?_, fun t' hid' st' s' hc' hpc' => ?_, fun t' st' hc' => ?_⟩
  · rcases advance_hs g t c os' r h' with ⟨e, _⟩ | ⟨ret, x, hd, e⟩ <;> rw [e] at hy
    · exact h.handles h' p y hy
    · cases hy
      rcases Call.after_done hd with ⟨_, _, _, _, e⟩ | ⟨st, y0, rfl, hy0, e⟩ <;> cases e
      obtain ⟨s0, ps, hpc, hps, rfl⟩ := ShmNewSt.after_done hy0
      obtain ⟨o, b, _, rfl⟩ := SemNewSt.after_done hps
      exact h.news t _ st s0 hc hpc
  · rcases advance_calls_shmNew hc' with ⟨_, h0⟩ | ⟨rfl, st, rfl, hn⟩
    · exact h.news t' hid' st' s' h0 hpc'
    · cases hn with
      | retry hpc => rcases hpc with e | e <;> rw [e] at hpc' <;> cases hpc'
      | closed fd r hpc => cases hpc'; rfl
      | sem s0 s1 r hpc hs => cases hpc'; rw [SemNewSt.after_cont hs]; exact h.news t' hid' st s0 hc hpc
      | _ => cases hpc'
  · rcases advance_calls hc' with ⟨_, h0⟩ | ⟨rfl, hcont⟩
    · exact h.frees t' st' h0
    · obtain ⟨st, rfl, ha⟩ := Call.after_cont_shmFree hcont
      obtain ⟨hh, _, hs⟩ := ShmFreeSt.after_cont ha
      obtain ⟨f1, f2⟩ := h.frees t' st hc
      rw [hh]
      refine ⟨f1, fun s' hs' => ?_⟩
      rcases hs s' hs' with h1 | ⟨s0, hp0, h1⟩ <;> rw [h1]
      · exact f1
      · exact f2 s0 hp0

theorem semKeyWF_exec (g : G) (a : Action) (h : SemKeyWF g) : SemKeyWF (exec g a) := by
  refine exec_cases a h (fun t op => ?_) (fun p => ?_) (fun t c os' r hc _ => semKeyWF_advance h hc os' r)
  · refine ⟨fun h' p y hy => ?_, fun t' hid st s' hc hpc => ?_, fun t' st hc => ?_⟩
    · rcases start_hs hy with h0 | ⟨x0, h0, e⟩
      · exact h.handles h' p y h0
      · cases x0 with
        | sem z => cases e
        | shm z => cases e; exact h.handles h' p z h0
    · rcases start_calls hc with h0 | hi | ⟨_, x, _, e⟩
      · exact h.news t' hid st s' h0 hpc
      · rw [hi.1] at hpc; cases hpc
      · cases x <;> cases e
    · rcases start_calls hc with h0 | hi | ⟨hid, x, hx, e⟩
      · exact h.frees t' st h0
      · exact hi.elim
      · cases x <;> cases e
        exact ⟨h.handles hid _ _ hx, nofun⟩
  · exact ⟨fun h' q y hy => h.handles h' q y (kill_hs hy).1, fun t hid st s' hc => h.news t hid st s' (kill_calls hc).1,
      fun t st hc => h.frees t st (kill_calls hc).1⟩

theorem semKeyWF_execAll (as : List Action) : ∀ g, SemKeyWF g → SemKeyWF (execAll g as) :=
  execAll_invariant semKeyWF_exec as

theorem semKeyWF_init (pidOf : Tid → Pid) : SemKeyWF (G.init pidOf) :=
  ⟨by intro h p y hy; simp [G.init] at hy, by intro t hid st s' hc; simp [G.init] at hc, by intro t st hc; simp [G.init] at hc⟩

/-- the shm calls in flight are quiet for every `.user` key: `Quiet (.user n)` is a condition on the
    `p_semaphore_new` / `p_semaphore_free` calls only -/
theorem quiet_user (g : G) (hW : SemKeyWF g) (n : Nat)
    (hs : ∀ t c, g.calls t = some c →
      (∀ hid s, c = .semNew hid s → ¬ s.mayUnlink (.user n)) ∧ (∀ s, c = .semFree s → ¬ s.mayUnlink (.user n))) :
    Quiet (.user n) g := by
  intro t c hc
  cases c with
  | semNew hid s => exact (hs t _ hc).1 hid s rfl
  | semFree s => exact (hs t _ hc).2 s rfl
  | acquire x => trivial
  | release x => trivial
  | shmNew hid st =>
    simp only [Call.quiet]
    split
    · rename_i s' hpc
      have := hW.news t hid st s' hc hpc
      intro hm
      rw [hm.1] at this
      cases this
    · trivial
  | shmFree st =>
    simp only [Call.quiet]
    split
    · rename_i s' hpc
      have := (hW.frees t st hc).2 s' hpc
      intro hm
      rw [hm.1] at this
      cases this
    · trivial

/-- the threads that have acquired object `o` and not released it yet, read off a log (newest event first) -/
def holders (o : ObjId) : List Ev → List Tid
  | [] => []
  | e :: rest =>
    if isAcq o e then e.tid :: holders o rest
    else if isRel o e then (holders o rest).erase e.tid
    else holders o rest

/-- lock-bracketed use: whoever releases `o` is one of its current holders -/
def Bracketed (o : ObjId) : List Ev → Prop
  | [] => True
  | e :: rest => Bracketed o rest ∧ (isRel o e = true → e.tid ∈ holders o rest)

theorem holders_count (o : ObjId) (l : List Ev) (h : Bracketed o l) :
    (holders o l).length + released o l = acquired o l := by
  induction l with
  | nil => rfl
  | cons e rest ih =>
    obtain ⟨hb, hr⟩ := h
    have ih' := ih hb
    rw [acquired_cons, released_cons]
    simp only [holders]
    by_cases ha : isAcq o e = true
    · have hnr : isRel o e = false := by
        simp only [isAcq, isRel, decide_eq_true_eq] at ha ⊢
        simp [ha.1]
      simp [ha, hnr]; omega
    · by_cases hre : isRel o e = true
      · have hm := hr hre
        have hl := List.length_erase_of_mem hm
        have hpos : 0 < (holders o rest).length := List.length_pos_of_mem hm
        simp [ha, hre, hl]; omega
      · simp [ha, hre]; omega

end PV.IPC
