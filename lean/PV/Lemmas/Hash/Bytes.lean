import PV.Spec.Hash
/-! Byte-array facts used by the crypto-hash proofs (C11): indexing with `[i]!`, the bytes of a word
    (`leVal`, the inverse of `Spec.leBytesN`), words inside a byte array, zero blocks and `memcpy`. -/
namespace PV.Hash
open Spec
open ByteArray (size_set! getElem!_set!_self getElem!_set!_ne)

theorem bget (b : ByteArray) (i : Nat) : b[i]! = b.data[i]?.getD default := by
  by_cases h : i < b.size
  · rw [getElem!_pos b i h, Array.getElem?_eq_getElem (by simpa using h)]; rfl
  · rw [getElem!_neg b i h, Array.getElem?_eq_none (by simpa using h)]; rfl

theorem bget_of_lt (b : ByteArray) (i : Nat) (h : i < b.size) : b[i]! = b[i] := getElem!_pos b i h

theorem get_append (a b : ByteArray) (j : Nat) :
    (a ++ b)[j]! = if j < a.size then a[j]! else b[j - a.size]! := by
  rw [bget, bget, bget, ByteArray.data_append, Array.getElem?_append]
  show (if j < a.size then _ else _ : Option UInt8).getD default = _
  split <;> rfl

theorem get_extract (a : ByteArray) (s e j : Nat) (h : s + j < e) :
    (a.extract s e)[j]! = a[s + j]! := by
  rw [bget, bget, ByteArray.data_extract, Array.getElem?_extract]
  split
  · rfl
  · rw [Array.getElem?_eq_none (by rw [ByteArray.size_data] at *; omega)]

theorem get_toByteArray (l : List UInt8) (j : Nat) : l.toByteArray[j]! = l[j]! := by
  rw [bget, List.data_toByteArray]
  simp

theorem get_fields (b H L : ByteArray) (n : Nat) (hn : n ≤ b.size) (j : Nat) :
    (b.extract 0 n ++ (H ++ L))[j]! =
      if j < n then b[j]! else if j - n < H.size then H[j - n]! else L[j - n - H.size]! := by
  have hs : (b.extract 0 n).size = n := by rw [ByteArray.size_extract]; omega
  rw [get_append, hs, get_append]
  split
  · rw [get_extract _ _ _ _ (by omega), Nat.zero_add]
  · rfl

theorem length_flatMap_const {α β : Type} (w : Nat) (f : α → List β) (hf : ∀ v, (f v).length = w) (l : List α) :
    (l.flatMap f).length = w * l.length := by
  induction l with
  | nil => rfl
  | cons a l ih => rw [List.flatMap_cons, List.length_append, hf, ih, List.length_cons, Nat.mul_succ, Nat.add_comm]

/-! `leVal` reads a list of bytes as a number, least significant byte first; `Spec.leBytesN` writes one.
`le32` / `le64` and `leBytes32` / `leBytes64` are these two at four and eight bytes, so that they are
inverse to each other, and the 8- or 16-byte length field of the padding is the two counter words. -/

def leVal : List UInt8 → Nat
  | [] => 0
  | b :: l => b.toNat + 256 * leVal l

theorem length_leBytesN (k n : Nat) : (leBytesN k n).length = k := by
  induction k generalizing n with
  | zero => rfl
  | succ k ih => rw [leBytesN, List.length_cons, ih]

theorem length_beBytesN (k n : Nat) : (beBytesN k n).length = k := by
  rw [beBytesN, List.length_reverse, length_leBytesN]

theorem leBytesN_succ (k n : Nat) : leBytesN (k + 1) n = n.toUInt8 :: leBytesN k (n / 256) := by
  rw [leBytesN, Nat.toUInt8_eq, Nat.toUInt8_eq]
  exact congrArg (· :: _) UInt8.ofNat_mod_size

theorem leBytesN_leVal (l : List UInt8) : leBytesN l.length (leVal l) = l := by
  induction l with
  | nil => rfl
  | cons b l ih =>
    have hb := b.toNat_lt
    rw [List.length_cons, leVal, leBytesN, Nat.add_mul_mod_self_left, Nat.add_mul_div_left _ _ (by decide),
      Nat.mod_eq_of_lt hb, Nat.div_eq_of_lt hb, Nat.zero_add, ih, Nat.toUInt8_eq, UInt8.ofNat_toNat]

theorem leVal_leBytesN (k n : Nat) : leVal (leBytesN k n) = n % 256 ^ k := by
  induction k generalizing n with
  | zero => rw [leBytesN, leVal, Nat.pow_zero, Nat.mod_one]
  | succ k ih =>
    rw [leBytesN, leVal, ih, Nat.toUInt8_eq, UInt8.toNat_ofNat', Nat.mod_mod, Nat.pow_succ, Nat.mul_comm (256 ^ k),
      Nat.mod_mul]

theorem leBytesN_mod (k n : Nat) : leBytesN k (n % 256 ^ k) = leBytesN k n := by
  rw [← leVal_leBytesN]
  conv => lhs; arg 1; rw [← length_leBytesN k n]
  exact leBytesN_leVal _

theorem leBytesN_add (j k n : Nat) : leBytesN (j + k) n = leBytesN j (n % 256 ^ j) ++ leBytesN k (n / 256 ^ j) := by
  rw [leBytesN_mod]
  induction j generalizing n with
  | zero => rw [Nat.zero_add, Nat.pow_zero, Nat.div_one]; rfl
  | succ j ih =>
    rw [Nat.add_right_comm, leBytesN, leBytesN, ih, List.cons_append, Nat.pow_succ, Nat.mul_comm, Nat.div_div_eq_div_mul]

theorem toNat_le32 (a b c d : UInt8) : (le32 a b c d).toNat = leVal [a, b, c, d] := by
  have ha := a.toNat_lt; have hb := b.toNat_lt; have hc := c.toNat_lt; have hd := d.toNat_lt
  -- the sum of the four terms, reduced modulo `2^32` once, is below `2^32`
  simp only [le32, leVal, UInt32.toNat_add, UInt32.toNat_mul, UInt8.toNat_toUInt32, UInt32.toNat_ofNat, Nat.reducePow,
    Nat.reduceMod, Nat.add_mod_mod, Nat.mod_add_mod]
  omega

theorem toNat_le64 (a b c d e f g h : UInt8) : (le64 a b c d e f g h).toNat = leVal [a, b, c, d, e, f, g, h] := by
  have ha := a.toNat_lt; have hb := b.toNat_lt; have hc := c.toNat_lt; have hd := d.toNat_lt
  have he := e.toNat_lt; have hf := f.toNat_lt; have hg := g.toNat_lt; have hh := h.toNat_lt
  simp only [le64, leVal, UInt64.toNat_add, UInt64.toNat_mul, UInt8.toNat_toUInt64, UInt64.toNat_ofNat, Nat.reducePow,
    Nat.reduceMod, Nat.add_mod_mod, Nat.mod_add_mod]
  omega

theorem leBytes32_eq (v : UInt32) : leBytes32 v = leBytesN 4 v.toNat := by
  simp only [leBytesN_succ, Nat.div_div_eq_div_mul, Nat.reduceMul]
  rfl

theorem leBytes64_eq (v : UInt64) : leBytes64 v = leBytesN 8 v.toNat := by
  simp only [leBytesN_succ, Nat.div_div_eq_div_mul, Nat.reduceMul]
  rfl

theorem leBytes32_le32 (a b c d : UInt8) : leBytes32 (le32 a b c d) = [a, b, c, d] := by
  rw [leBytes32_eq, toNat_le32]; exact leBytesN_leVal [a, b, c, d]

theorem le32_bytes (v : UInt32) :
    le32 v.toUInt8 (v / 0x100).toUInt8 (v / 0x10000).toUInt8 (v / 0x1000000).toUInt8 = v := by
  apply UInt32.toNat_inj.mp
  rw [toNat_le32]
  show leVal (leBytes32 v) = _
  rw [leBytes32_eq, leVal_leBytesN]
  exact Nat.mod_eq_of_lt v.toNat_lt

theorem leBytes64_le64 (a b c d e f g h : UInt8) : leBytes64 (le64 a b c d e f g h) = [a, b, c, d, e, f, g, h] := by
  rw [leBytes64_eq, toNat_le64]; exact leBytesN_leVal [a, b, c, d, e, f, g, h]

theorem le64_bytes (v : UInt64) :
    le64 v.toUInt8 (v / 0x100).toUInt8 (v / 0x10000).toUInt8 (v / 0x1000000).toUInt8 (v / 0x100000000).toUInt8
      (v / 0x10000000000).toUInt8 (v / 0x1000000000000).toUInt8 (v / 0x100000000000000).toUInt8 = v := by
  apply UInt64.toNat_inj.mp
  rw [toNat_le64]
  show leVal (leBytes64 v) = _
  rw [leBytes64_eq, leVal_leBytesN]
  exact Nat.mod_eq_of_lt v.toNat_lt

/-- the 64-bit length field is the low counter word followed by the high one (MD5) … -/
theorem lenField_le32 (hi lo : UInt32) (n : Nat) (hhi : hi.toNat = n / 2 ^ 32) (hlo : lo.toNat = n % 2 ^ 32) :
    leBytesN 8 n = leBytes32 lo ++ leBytes32 hi := by
  rw [leBytes32_eq, leBytes32_eq, hhi, hlo]; exact leBytesN_add 4 4 n

/-- … or the high word followed by the low one, each most significant byte first (SHA) -/
theorem lenField_be32 (hi lo : UInt32) (n : Nat) (hhi : hi.toNat = n / 2 ^ 32) (hlo : lo.toNat = n % 2 ^ 32) :
    beBytesN 8 n = beBytes32 hi ++ beBytes32 lo := by
  rw [beBytesN, lenField_le32 hi lo n hhi hlo]; rfl

theorem lenField_be64 (hi lo : UInt64) (n : Nat) (hhi : hi.toNat = n / 2 ^ 64) (hlo : lo.toNat = n % 2 ^ 64) :
    beBytesN 16 n = beBytes64 hi ++ beBytes64 lo := by
  rw [beBytesN, beBytes64, beBytes64, ← List.reverse_append, leBytes64_eq, leBytes64_eq, hhi, hlo]
  exact congrArg List.reverse (leBytesN_add 8 8 n)

/-! A word read from a byte array depends on its four or eight bytes only: `getLE32_congr` and its like
turn a fact about the bytes at `4 * i + k` (one `k`, not four cases) into a fact about word `i`. -/

theorem getLE32_congr {b c : ByteArray} {i j : Nat} (h : ∀ k, k < 4 → b[4 * i + k]! = c[4 * j + k]!) :
    getLE32 b i = getLE32 c j := by
  unfold getLE32
  rw [show b[4 * i]! = c[4 * j]! from h 0 (by decide), h 1 (by decide), h 2 (by decide), h 3 (by decide)]

theorem getBE32_congr {b c : ByteArray} {i j : Nat} (h : ∀ k, k < 4 → b[4 * i + k]! = c[4 * j + k]!) :
    getBE32 b i = getBE32 c j := by
  unfold getBE32
  rw [show b[4 * i]! = c[4 * j]! from h 0 (by decide), h 1 (by decide), h 2 (by decide), h 3 (by decide)]

theorem getLE32_eq_getBE32 {b c : ByteArray} {i j : Nat} (h : ∀ k, k < 4 → b[4 * i + k]! = c[4 * j + (3 - k)]!) :
    getLE32 b i = getBE32 c j := by
  unfold getLE32 getBE32
  rw [show b[4 * i]! = c[4 * j + 3]! from h 0 (by decide), h 1 (by decide), h 2 (by decide),
    show b[4 * i + 3]! = c[4 * j]! from h 3 (by decide)]

theorem getLE64_congr {b c : ByteArray} {i j : Nat} (h : ∀ k, k < 8 → b[8 * i + k]! = c[8 * j + k]!) :
    getLE64 b i = getLE64 c j := by
  unfold getLE64
  rw [show b[8 * i]! = c[8 * j]! from h 0 (by decide), h 1 (by decide), h 2 (by decide), h 3 (by decide),
    h 4 (by decide), h 5 (by decide), h 6 (by decide), h 7 (by decide)]

theorem getBE64_congr {b c : ByteArray} {i j : Nat} (h : ∀ k, k < 8 → b[8 * i + k]! = c[8 * j + k]!) :
    getBE64 b i = getBE64 c j := by
  unfold getBE64
  rw [show b[8 * i]! = c[8 * j]! from h 0 (by decide), h 1 (by decide), h 2 (by decide), h 3 (by decide),
    h 4 (by decide), h 5 (by decide), h 6 (by decide), h 7 (by decide)]

theorem getLE64_eq_getBE64 {b c : ByteArray} {i j : Nat} (h : ∀ k, k < 8 → b[8 * i + k]! = c[8 * j + (7 - k)]!) :
    getLE64 b i = getBE64 c j := by
  unfold getLE64 getBE64
  rw [show b[8 * i]! = c[8 * j + 7]! from h 0 (by decide), h 1 (by decide), h 2 (by decide), h 3 (by decide),
    h 4 (by decide), h 5 (by decide), h 6 (by decide), show b[8 * i + 7]! = c[8 * j]! from h 7 (by decide)]

theorem getLE32_leBytes32 (v : UInt32) : getLE32 (leBytes32 v).toByteArray 0 = v := by
  simp only [getLE32, get_toByteArray]; exact le32_bytes v

theorem getBE32_beBytes32 (v : UInt32) : getBE32 (beBytes32 v).toByteArray 0 = v := by
  simp only [getBE32, get_toByteArray]; exact le32_bytes v

theorem getBE64_beBytes64 (v : UInt64) : getBE64 (beBytes64 v).toByteArray 0 = v := by
  simp only [getBE64, get_toByteArray]; exact le64_bytes v

/-- the sixteen words of the last block of `finish`, for any way `rd` of reading words of `w` bytes -/
theorem fields_word {α : Type} {w : Nat} {rd : ByteArray → Nat → α}
    (hrd : ∀ {b c : ByteArray} {i j : Nat}, (∀ k, k < w → b[w * i + k]! = c[w * j + k]!) → rd b i = rd c j)
    (b H L : ByteArray) (hb : 14 * w ≤ b.size) (hH : H.size = w) (i : Nat) (hi : i < 16) :
    rd (b.extract 0 (14 * w) ++ (H ++ L)) i = if i < 14 then rd b i else if i = 14 then rd H 0 else rd L 0 := by
  split
  · have : w * i + w ≤ 14 * w := by
      rw [← Nat.mul_succ, Nat.mul_comm]; exact Nat.mul_le_mul_right w ‹i < 14›
    exact hrd fun k hk => by rw [get_fields _ _ _ _ hb, if_pos (by omega)]
  · split
    · subst ‹i = 14›
      exact hrd fun k hk => by
        rw [get_fields _ _ _ _ hb, if_neg (by omega), if_pos (by omega)]
        exact congrArg (H[·]!) (by omega)
    · obtain rfl : i = 15 := by omega
      exact hrd fun k hk => by
        rw [get_fields _ _ _ _ hb, if_neg (by omega), if_neg (by omega)]
        exact congrArg (L[·]!) (by omega)

/-! `simp` walks through the four or eight `set!`s of the model's definitions: a byte at another place is
kept (`getElem!_set!_ne`), the byte at the place is the one written (`getElem!_set!_self`).  The side condition of
the latter speaks of the size of the array after the earlier `set!`s, so the discharger first rewrites with `size_set!`. -/

@[simp] theorem size_rev32At (b : ByteArray) (o : Nat) : (rev32At b o).size = b.size := by simp [rev32At]

theorem get_rev32At_out (b : ByteArray) (o j : Nat) (hj : j < o ∨ o + 4 ≤ j) : (rev32At b o)[j]! = b[j]! := by
  simp (disch := omega) only [rev32At, getElem!_set!_ne]

theorem get_rev32At_in (b : ByteArray) (o k : Nat) (h : o + 3 < b.size) (hk : k < 4) :
    (rev32At b o)[o + k]! = b[o + (3 - k)]! := by
  obtain rfl | rfl | rfl | rfl : k = 0 ∨ k = 1 ∨ k = 2 ∨ k = 3 := by omega
  all_goals
    simp (disch := first | omega | (simp only [size_set!]; omega)) only [rev32At, getElem!_set!_ne,
      getElem!_set!_self,
      Nat.add_zero, Nat.sub_self]

@[simp] theorem size_revWords32 (b : ByteArray) (n : Nat) : (revWords32 b n).size = b.size := by
  induction n with
  | zero => rfl
  | succ n ih => rw [revWords32, size_rev32At, ih]

theorem get_revWords32 (b : ByteArray) (n i k : Nat) (h : 4 * n ≤ b.size) (hk : k < 4) :
    (revWords32 b n)[4 * i + k]! = if i < n then b[4 * i + (3 - k)]! else b[4 * i + k]! := by
  induction n generalizing k with
  | zero => rfl
  | succ n ih =>
    rw [revWords32]
    by_cases hi : i = n
    · subst hi
      rw [get_rev32At_in _ _ _ (by rw [size_revWords32]; omega) hk, ih _ (by omega) (by omega),
        if_neg (Nat.lt_irrefl i), if_pos (Nat.lt_succ_self i)]
    · rw [get_rev32At_out _ _ _ (by omega), ih _ (by omega) hk]
      simp only [show i < n + 1 ↔ i < n by omega]

theorem getLE32_revWords32 (b : ByteArray) (n i : Nat) (h : 4 * n ≤ b.size) :
    getLE32 (revWords32 b n) i = if i < n then getBE32 b i else getLE32 b i := by
  split
  · exact getLE32_eq_getBE32 fun k hk => by rw [get_revWords32 _ _ _ _ h hk, if_pos ‹_›]
  · exact getLE32_congr fun k hk => by rw [get_revWords32 _ _ _ _ h hk, if_neg ‹_›]

@[simp] theorem size_rev64At (b : ByteArray) (o : Nat) : (rev64At b o).size = b.size := by simp [rev64At]

theorem get_rev64At_out (b : ByteArray) (o j : Nat) (hj : j < o ∨ o + 8 ≤ j) : (rev64At b o)[j]! = b[j]! := by
  simp (disch := omega) only [rev64At, getElem!_set!_ne]

theorem get_rev64At_in (b : ByteArray) (o k : Nat) (h : o + 7 < b.size) (hk : k < 8) :
    (rev64At b o)[o + k]! = b[o + (7 - k)]! := by
  obtain rfl | rfl | rfl | rfl | rfl | rfl | rfl | rfl :
      k = 0 ∨ k = 1 ∨ k = 2 ∨ k = 3 ∨ k = 4 ∨ k = 5 ∨ k = 6 ∨ k = 7 := by omega
  all_goals
    simp (disch := first | omega | (simp only [size_set!]; omega)) only [rev64At, getElem!_set!_ne,
      getElem!_set!_self,
      Nat.add_zero, Nat.sub_self]

@[simp] theorem size_revWords64 (b : ByteArray) (n : Nat) : (revWords64 b n).size = b.size := by
  induction n with
  | zero => rfl
  | succ n ih => rw [revWords64, size_rev64At, ih]

theorem get_revWords64 (b : ByteArray) (n i k : Nat) (h : 8 * n ≤ b.size) (hk : k < 8) :
    (revWords64 b n)[8 * i + k]! = if i < n then b[8 * i + (7 - k)]! else b[8 * i + k]! := by
  induction n generalizing k with
  | zero => rfl
  | succ n ih =>
    rw [revWords64]
    by_cases hi : i = n
    · subst hi
      rw [get_rev64At_in _ _ _ (by rw [size_revWords64]; omega) hk, ih _ (by omega) (by omega),
        if_neg (Nat.lt_irrefl i), if_pos (Nat.lt_succ_self i)]
    · rw [get_rev64At_out _ _ _ (by omega), ih _ (by omega) hk]
      simp only [show i < n + 1 ↔ i < n by omega]

theorem getLE64_revWords64 (b : ByteArray) (n i : Nat) (h : 8 * n ≤ b.size) :
    getLE64 (revWords64 b n) i = if i < n then getBE64 b i else getLE64 b i := by
  split
  · exact getLE64_eq_getBE64 fun k hk => by rw [get_revWords64 _ _ _ _ h hk, if_pos ‹_›]
  · exact getLE64_congr fun k hk => by rw [get_revWords64 _ _ _ _ h hk, if_neg ‹_›]

@[simp] theorem size_setLE32 (b : ByteArray) (i : Nat) (v : UInt32) : (setLE32 b i v).size = b.size := by
  simp [setLE32]

theorem get_setLE32_of_ne (b : ByteArray) (i j : Nat) (v : UInt32) (hj : j < 4 * i ∨ 4 * i + 4 ≤ j) :
    (setLE32 b i v)[j]! = b[j]! := by
  simp (disch := omega) only [setLE32, getElem!_set!_ne]

theorem getLE32_setLE32_self (b : ByteArray) (i : Nat) (v : UInt32) (h : 4 * i + 3 < b.size) :
    getLE32 (setLE32 b i v) i = v := by
  simp (disch := first | omega | (simp only [size_set!]; omega)) only [getLE32, setLE32, getElem!_set!_ne,
    getElem!_set!_self]
  exact le32_bytes v

theorem getLE32_setLE32_of_ne (b : ByteArray) (i j : Nat) (v : UInt32) (hij : j ≠ i) :
    getLE32 (setLE32 b i v) j = getLE32 b j :=
  getLE32_congr fun k hk => get_setLE32_of_ne _ _ _ _ (by omega)

theorem getBE32_setLE32_of_ne (b : ByteArray) (i j : Nat) (v : UInt32) (hij : j ≠ i) :
    getBE32 (setLE32 b i v) j = getBE32 b j :=
  getBE32_congr fun k hk => get_setLE32_of_ne _ _ _ _ (by omega)

@[simp] theorem size_setLE64 (b : ByteArray) (i : Nat) (v : UInt64) : (setLE64 b i v).size = b.size := by
  simp [setLE64]

theorem get_setLE64_of_ne (b : ByteArray) (i j : Nat) (v : UInt64) (hj : j < 8 * i ∨ 8 * i + 8 ≤ j) :
    (setLE64 b i v)[j]! = b[j]! := by
  simp (disch := omega) only [setLE64, getElem!_set!_ne]

theorem getLE64_setLE64_self (b : ByteArray) (i : Nat) (v : UInt64) (h : 8 * i + 7 < b.size) :
    getLE64 (setLE64 b i v) i = v := by
  simp (disch := first | omega | (simp only [size_set!]; omega)) only [getLE64, setLE64, getElem!_set!_ne,
    getElem!_set!_self]
  exact le64_bytes v

theorem getLE64_setLE64_of_ne (b : ByteArray) (i j : Nat) (v : UInt64) (hij : j ≠ i) :
    getLE64 (setLE64 b i v) j = getLE64 b j :=
  getLE64_congr fun k hk => get_setLE64_of_ne _ _ _ _ (by omega)

theorem getBE64_setLE64_of_ne (b : ByteArray) (i j : Nat) (v : UInt64) (hij : j ≠ i) :
    getBE64 (setLE64 b i v) j = getBE64 b j :=
  getBE64_congr fun k hk => get_setLE64_of_ne _ _ _ _ (by omega)

@[simp] theorem size_zeroBytes (n : Nat) : (zeroBytes n).size = n := by
  simp [zeroBytes, ByteArray.size]

theorem zeroBytes_extract (z i j : Nat) : (zeroBytes z).extract i j = zeroBytes (min j z - i) := by
  apply ByteArray.ext
  simp [zeroBytes, ByteArray.data_extract]

theorem zeroBytes_add (a b : Nat) : zeroBytes (a + b) = zeroBytes a ++ zeroBytes b := by
  apply ByteArray.ext
  simp [zeroBytes, ByteArray.data_append]

theorem zeroBytes_zero : zeroBytes 0 = ByteArray.empty := by
  apply ByteArray.ext; simp [zeroBytes]

@[simp] theorem Src.size_toBytes (s : Src) : s.toBytes.size = s.size := by
  simp [Src.toBytes, Src.size, ByteArray.size_append]

theorem extract_all (b : ByteArray) (e : Nat) (h : b.size ≤ e) : b.extract 0 e = b := by
  apply ByteArray.ext
  simp [ByteArray.data_extract]
  omega

theorem extract_empty' (b : ByteArray) (s e : Nat) (h : e ≤ s ∨ b.size ≤ s) : b.extract s e = ByteArray.empty := by
  rw [ByteArray.extract_eq_empty_iff]; omega

theorem Src.read_eq (s : Src) (off n : Nat) (h : off + n ≤ s.size) (hn : n ≤ 128) :
    s.read off n = s.toBytes.extract off (off + n) := by
  unfold Src.size at h
  rw [Src.read, Src.toBytes, ByteArray.extract_append, zeros128, zeroBytes_extract, zeroBytes_extract]
  split
  · rename_i h1
    rw [Nat.sub_eq_zero_of_le h1, Nat.zero_min, Nat.zero_sub, zeroBytes_zero, ByteArray.append_empty]
  · congr 2; omega

theorem memcpy_eq (dst : ByteArray) (pos : Nat) (blk : ByteArray) :
    memcpy dst pos blk = dst.extract 0 pos ++ blk ++ dst.extract (pos + blk.size) dst.size := by
  unfold memcpy
  rw [ByteArray.copySlice_eq_append]
  simp [ByteArray.extract_zero_size]

theorem size_memcpy (dst : ByteArray) (pos : Nat) (blk : ByteArray) (h : pos + blk.size ≤ dst.size) :
    (memcpy dst pos blk).size = dst.size := by
  rw [memcpy_eq]; simp [ByteArray.size_append, ByteArray.size_extract]; omega

theorem append_extract_extract (m x : ByteArray) {a b c : Nat} (hab : a ≤ b) (hbc : b ≤ c) :
    m ++ x.extract a b ++ x.extract b c = m ++ x.extract a c := by
  rw [ByteArray.append_assoc, ByteArray.extract_append_extract, Nat.min_eq_left hab, Nat.max_eq_right hbc]

theorem memcpy_prefix (dst : ByteArray) (pos : Nat) (blk : ByteArray) (h : pos ≤ dst.size) :
    (memcpy dst pos blk).extract 0 (pos + blk.size) = dst.extract 0 pos ++ blk := by
  have hp : (dst.extract 0 pos).size = pos := by rw [ByteArray.size_extract]; omega
  rw [memcpy_eq]
  exact ByteArray.extract_append_eq_left (by rw [ByteArray.size_append, hp])

end PV.Hash
