import PV.Spec.HashStd
/-!
# The constants of the C source are the standards' constants (C11)

`iroot_spec`: `Std.iroot r n` is `⌊n^(1/r)⌋`, so `Std.fracRoot r b p` is the first `b` bits of the
fractional part of the `r`-th root of `p`.  The tables and initial values extracted from the C
source (`PV.Generated.HashMD`) are then compared with the standards' defining formulas by
evaluation in the kernel.  Two things keep that evaluation small: trial division stops at the
square root (`isPrime_sqrt`), and a table entry is not recomputed by bisection but checked to
bracket the root (`RootBits`, by `iroot_unique`).
-/
namespace PV.Hash.Std

theorem irootGo_spec (r n : Nat) (fuel lo hi : Nat) (h1 : lo ^ r ≤ n) (h2 : n < hi ^ r) (h3 : lo < hi)
    (h4 : hi - lo ≤ 2 ^ fuel) :
    (irootGo r n fuel lo hi) ^ r ≤ n ∧ n < (irootGo r n fuel lo hi + 1) ^ r := by
  induction fuel generalizing lo hi with
  | zero =>
    have : hi = lo + 1 := by simp at h4; omega
    subst this
    exact ⟨h1, h2⟩
  | succ fuel ih =>
    unfold irootGo
    split
    · have : hi = lo + 1 := by omega
      subst this
      exact ⟨h1, h2⟩
    · rename_i hgap
      have hp : 2 ^ (fuel + 1) = 2 * 2 ^ fuel := by rw [Nat.pow_succ]; omega
      split
      · rename_i hm
        exact ih _ _ hm h2 (by omega) (by omega)
      · rename_i hm
        exact ih _ _ h1 (by omega) (by omega) (by omega)

/-- `iroot r n` is the floor of the `r`-th root of `n` -/
theorem iroot_spec (r n : Nat) (hr : 0 < r) : (iroot r n) ^ r ≤ n ∧ n < (iroot r n + 1) ^ r := by
  unfold iroot
  apply irootGo_spec
  · rw [Nat.zero_pow hr]; exact Nat.zero_le _
  · exact Nat.lt_of_lt_of_le (Nat.lt_succ_self n) (Nat.le_self_pow (by omega) _)
  · omega
  · have := Nat.lt_log2_self (n := n)
    rw [Nat.pow_succ, Nat.pow_succ]
    omega

/-- … and the only number with that property -/
theorem iroot_unique (r n x : Nat) (hr : 0 < r) (h1 : x ^ r ≤ n) (h2 : n < (x + 1) ^ r) : x = iroot r n := by
  obtain ⟨s1, s2⟩ := iroot_spec r n hr
  have a : x < iroot r n + 1 := by
    apply Nat.lt_of_not_le; intro h
    exact absurd (Nat.lt_of_lt_of_le s2 (Nat.pow_le_pow_left h r)) (by omega)
  have b : iroot r n < x + 1 := by
    apply Nat.lt_of_not_le; intro h
    exact absurd (Nat.lt_of_lt_of_le h2 (Nat.pow_le_pow_left h r)) (by omega)
  omega

/-- `fracRoot r b p = y mod 2^b` where `y = ⌊2^b · p^(1/r)⌋`, i.e. `y^r ≤ p · 2^(r·b) < (y+1)^r` -/
theorem fracRoot_spec (r b p : Nat) (hr : 0 < r) :
    ∃ y, y ^ r ≤ p * (2 ^ b) ^ r ∧ p * (2 ^ b) ^ r < (y + 1) ^ r ∧ fracRoot r b p = y % 2 ^ b := by
  refine ⟨iroot r (p * 2 ^ (r * b)), ?_, ?_, rfl⟩
  · rw [← Nat.pow_mul, Nat.mul_comm b r]; exact (iroot_spec r _ hr).1
  · rw [← Nat.pow_mul, Nat.mul_comm b r]; exact (iroot_spec r _ hr).2

theorem all_range_mono {p : Nat → Bool} {m n : Nat} (h : m ≤ n) (hn : (List.range n).all p = true) :
    (List.range m).all p = true := by
  rw [List.all_eq_true] at hn ⊢
  exact fun d hd => hn d (List.mem_range.mpr (Nat.lt_of_lt_of_le (List.mem_range.mp hd) h))

/-- trial division may stop at the square root -/
theorem isPrime_sqrt (n s : Nat) (hs : n < s * s) :
    isPrime n = (decide (2 ≤ n) && (List.range (min n s)).all fun d => d < 2 || n % d != 0) := by
  unfold isPrime
  congr 1
  rw [Bool.eq_iff_iff]
  refine ⟨all_range_mono (Nat.min_le_left n s), fun h => ?_⟩
  simp only [List.all_eq_true, List.mem_range, Bool.or_eq_true, decide_eq_true_eq, bne_iff_ne, ne_eq] at h ⊢
  intro d hd
  refine (Nat.lt_or_ge d 2).imp_right fun hd2 hdiv => ?_
  -- `n = d * q` with `1 < d, q < n`, and one of the two factors is below `s`
  obtain ⟨q, rfl⟩ := Nat.dvd_of_mod_eq_zero hdiv
  have hq : 1 < q := (Nat.lt_mul_iff_one_lt_right (by omega)).mp hd
  have hqn : q < d * q := (Nat.lt_mul_iff_one_lt_left (by omega)).mpr hd2
  rcases Nat.lt_or_ge d s with h1 | h1
  · exact (h d (by omega)).elim (by omega) (fun hh => hh (Nat.mul_mod_right d q))
  · have h2 : q < s := Nat.lt_of_not_le fun hq => by
      have : s * s ≤ d * q := Nat.mul_le_mul h1 hq
      omega
    exact (h q (by omega)).elim (by omega) (fun hh => hh (Nat.mul_mod_left d q))

def firstPrimes : List Nat := [2, 3, 5, 7, 11, 13, 17, 19, 23, 29, 31, 37, 41, 43, 47, 53, 59, 61, 67, 71, 73, 79, 83, 89, 97,
  101, 103, 107, 109, 113, 127, 131, 137, 139, 149, 151, 157, 163, 167, 173, 179, 181, 191, 193, 197, 199,
  211, 223, 227, 229, 233, 239, 241, 251, 257, 263, 269, 271, 277, 281, 283, 293,
  307, 311, 313, 317, 331, 337, 347, 349, 353, 359, 367, 373, 379, 383, 389, 397, 401, 409]

theorem primes_eq : primes = firstPrimes := by
  have h : primes = (List.range 410).filter fun n =>
      decide (2 ≤ n) && (List.range (min n 21)).all fun d => d < 2 || n % d != 0 :=
    List.filter_congr fun n hn => isPrime_sqrt n 21 (by have := List.mem_range.mp hn; omega)
  rw [h]
  decide +kernel

theorem prime_eq (t : Nat) : prime t = firstPrimes[t]! := by rw [prime, primes_eq]

/-- `k` is the first `b` bits of the fractional part of the `r`-th root of `p`, as a test that only
    raises to the `r`-th power: with the integer part of the root in front, `k` brackets `2^b · p^(1/r)` -/
def RootBits (r b p k : Nat) : Prop :=
  k < 2 ^ b ∧ (iroot r p * 2 ^ b + k) ^ r ≤ p * 2 ^ (r * b) ∧ p * 2 ^ (r * b) < (iroot r p * 2 ^ b + k + 1) ^ r

instance (r b p k : Nat) : Decidable (RootBits r b p k) := inferInstanceAs (Decidable (_ ∧ _))

theorem fracRoot_of_rootBits {r b p k : Nat} (hr : 0 < r) (h : RootBits r b p k) : fracRoot r b p = k := by
  rw [fracRoot, ← iroot_unique r _ _ hr h.2.1 h.2.2, Nat.mul_add_mod_self_right, Nat.mod_eq_of_lt h.1]

end PV.Hash.Std

namespace PV.Hash
open PV.Generated.HashMD

/-- there are exactly 80 primes below 410: `Std.prime 0 … Std.prime 79` are the first 80 primes -/
theorem primes_length : Std.primes.length = 80 := by rw [Std.primes_eq]; rfl

theorem sha256K_std (t : Nat) (ht : t < 64) : sha256K[t]! = Std.sha256K t := by
  have cert : ∀ t, t < 64 → Std.RootBits 3 32 Std.firstPrimes[t]! sha256K[t]!.toNat := by decide +kernel
  rw [Std.sha256K, Std.prime_eq, Std.fracRoot_of_rootBits (by decide) (cert t ht), UInt32.ofNat_toNat]

theorem sha512K_std (t : Nat) (ht : t < 80) : sha512K[t]! = Std.sha512K t := by
  have cert : ∀ t, t < 80 → Std.RootBits 3 64 Std.firstPrimes[t]! sha512K[t]!.toNat := by decide +kernel
  rw [Std.sha512K, Std.prime_eq, Std.fracRoot_of_rootBits (by decide) (cert t ht), UInt64.ofNat_toNat]

theorem sha256IV_std : sha256IV = Std.sha256IV := by decide +kernel
theorem sha224IV_std : sha224IV = Std.sha224IV := by decide +kernel
theorem sha512IV_std : sha512IV = Std.sha512IV := by decide +kernel
theorem sha384IV_std : sha384IV = Std.sha384IV := by decide +kernel

/-- `Std.sha1K` is constant on each of the four rounds of twenty steps -/
theorem sha1K_std (t : Nat) (ht : t < 80) : sha1K[t / 20]! = Std.sha1K t := by
  have root : ∀ q, q < 4 → sha1K[q]! = Std.sha1K (20 * q) := by decide +kernel
  rw [root _ (by omega), Std.sha1K, Std.sha1K]
  simp only [show 20 * (t / 20) < 20 ↔ t < 20 by omega, show 20 * (t / 20) < 40 ↔ t < 40 by omega,
    show 20 * (t / 20) < 60 ↔ t < 60 by omega]

theorem sha1IV_std : sha1IV = Std.sha1IV := rfl
theorem md5IV_std : md5IV = Std.md5IV := rfl
theorem md5K_std : md5K = Std.md5T := rfl
theorem md5S_std : ∀ i, i < 64 → md5S[i]! = Std.md5Shift i := by decide +kernel
theorem md5X_std : ∀ i, i < 64 → md5X[i]! = Std.md5Index i := by decide +kernel

end PV.Hash
