import PV.Lemmas.Hash.StdConst
import PV.Model.Hash.Compress
/-!
# The model's block functions are the standards' compression functions (C11)

`md5Block = Std.md5Compress` (all inputs), `sha1Block = Std.sha1Compress`,
`sha256Block = Std.sha256Compress`, `sha512Block = Std.sha512Compress` (all hash words, all
16-word blocks).  The model side is the transliteration of the C macros (other boolean forms of
Ch / Maj / F / G, variable *values* rotated through the argument positions, a 16-word ring for the
SHA-1 schedule, schedule words appended while the rounds run for SHA-256, 80 precomputed words for
SHA-512, constants from the C tables); the standard side is `PV.Spec.HashStd`.
-/
namespace PV.Hash
open PV.Generated.HashMD

/-- a boolean identity on 32- or 64-bit words: bit `i` of both sides is the same boolean function of
    the bits `i` of the three variables, checked on all their values -/
macro "bitwise" : tactic => `(tactic| (
  first | apply UInt32.eq_of_toBitVec_eq | apply UInt64.eq_of_toBitVec_eq
  apply BitVec.eq_of_getLsbD_eq
  intro i hi
  simp only [UInt32.toBitVec_xor, UInt32.toBitVec_and, UInt32.toBitVec_or, UInt32.toBitVec_not,
    UInt64.toBitVec_xor, UInt64.toBitVec_and, UInt64.toBitVec_or, UInt64.toBitVec_not,
    BitVec.getLsbD_xor, BitVec.getLsbD_and, BitVec.getLsbD_or, BitVec.getLsbD_not, hi, decide_true, Bool.true_and]
  generalize BitVec.getLsbD _ i = p
  generalize BitVec.getLsbD _ i = q
  generalize BitVec.getLsbD _ i = r
  revert p q r
  decide))

theorem md5F_std (x y z : UInt32) : z ^^^ (x &&& (y ^^^ z)) = Std.F x y z := by unfold Std.F; bitwise
theorem md5G_std (x y z : UInt32) : y ^^^ (z &&& (x ^^^ y)) = Std.G x y z := by unfold Std.G; bitwise

/-- the four round functions as the C macros compute them -/
theorem md5F_agrees (q : Nat) (b c d : UInt32) :
    (match q with
      | 0 => d ^^^ (b &&& (c ^^^ d)) | 1 => c ^^^ (d &&& (b ^^^ c)) | 2 => b ^^^ c ^^^ d | _ => c ^^^ (b ||| ~~~d)) =
    match q with
      | 0 => Std.F b c d | 1 => Std.G b c d | 2 => Std.H b c d | _ => Std.I b c d := by
  split
  · exact md5F_std b c d
  · exact md5G_std b c d
  · rfl
  · rfl

theorem md5Steps_std (x : Array UInt32) (n i : Nat) (a b c d : UInt32) (h : i + n ≤ 64) :
    md5Steps x n i a b c d =
      (let r := (List.range' i n).foldl (Std.md5Op x) (a, b, c, d); #[r.1, r.2.1, r.2.2.1, r.2.2.2]) := by
  induction n generalizing i a b c d with
  | zero => rfl
  | succ n ih =>
    have hi : i < 64 := by omega
    -- the C step is operation `i` of the RFC: same function, word, constant and shift, sum written the other way round
    have hstep : Std.md5Op x (a, b, c, d) i = (d, rotl32 (a + (match i / 16 with
          | 0 => d ^^^ (b &&& (c ^^^ d)) | 1 => c ^^^ (d &&& (b ^^^ c)) | 2 => b ^^^ c ^^^ d | _ => c ^^^ (b ||| ~~~d))
          + x[md5X[i]!]! + md5K[i]!) md5S[i]! + b, b, c) := by
      simp only [Std.md5Op, md5X_std i hi, md5S_std i hi, md5K_std, md5F_agrees]
      rw [UInt32.add_comm]
      rfl
    rw [List.range'_succ, List.foldl_cons, md5Steps, hstep]
    exact ih _ _ _ _ _ (by omega)

theorem md5Block_std (h x : Array UInt32) : md5Block h x = Std.md5Compress h x := by
  unfold md5Block Std.md5Compress
  rw [md5Steps_std x 64 0 _ _ _ _ (by omega), List.range_eq_range']
  simp

theorem aget_set! {α : Type} [Inhabited α] (w : Array α) (j k : Nat) (v : α) :
    (w.set! j v)[k]! = if j = k ∧ j < w.size then v else w[k]! := by
  show (w.setIfInBounds j v)[k]! = _
  by_cases hk : k < w.size
  · rw [getElem!_pos _ k (by simpa using hk), Array.getElem_setIfInBounds hk, getElem!_pos _ k hk]
    by_cases hjk : j = k
    · subst hjk; simp [hk]
    · simp [hjk]
  · rw [getElem!_neg _ k (by simpa using hk), getElem!_neg _ k hk]
    have : ¬ (j = k ∧ j < w.size) := by rintro ⟨rfl, h⟩; exact hk h
    simp [this]

theorem sha1Ch_std (x y z : UInt32) : (x &&& y) ||| (~~~x &&& z) = Std.Ch x y z := by unfold Std.Ch; bitwise
theorem sha1Maj_std (x y z : UInt32) : (x &&& y) ||| (x &&& z) ||| (y &&& z) = Std.Maj x y z := by unfold Std.Maj; bitwise

/-- the 16-word ring holds the last sixteen schedule words -/
def Ring (m w : Array UInt32) (i : Nat) : Prop :=
  w.size = 16 ∧ ∀ t, t < max i 16 → max i 16 ≤ t + 16 → w[t % 16]! = Std.sha1W m t

theorem sha1W_lt (m : Array UInt32) (t : Nat) (h : t < 16) : Std.sha1W m t = m[t]! := by
  rw [Std.sha1W, dif_pos h]

theorem sha1W_ge (m : Array UInt32) (t : Nat) (h : 16 ≤ t) :
    Std.sha1W m t = Std.rotl32 (Std.sha1W m (t - 3) ^^^ Std.sha1W m (t - 8) ^^^ Std.sha1W m (t - 14) ^^^ Std.sha1W m (t - 16)) 1 := by
  rw [Std.sha1W, dif_neg (by omega)]

theorem Ring.word {x w : Array UInt32} {i : Nat} (hR : Ring x w i) :
    (if i < 16 then w[i]! else
      rotl32 (w[(i - sha1Taps[0]!) % 16]! ^^^ w[(i - sha1Taps[1]!) % 16]! ^^^ w[(i - sha1Taps[2]!) % 16]!
        ^^^ w[(i - sha1Taps[3]!) % 16]!) sha1RotW) = Std.sha1W x i := by
  split
  · rename_i h16
    have := hR.2 i (by omega) (by omega)
    rwa [Nat.mod_eq_of_lt h16] at this
  · have tap : ∀ d, 1 ≤ d → d ≤ 16 → w[(i - d) % 16]! = Std.sha1W x (i - d) :=
      fun d _ _ => hR.2 (i - d) (by omega) (by omega)
    rw [sha1W_ge x i (by omega)]
    exact congrArg (rotl32 · 1) (by
      rw [← tap 3 (by decide) (by decide), ← tap 8 (by decide) (by decide), ← tap 14 (by decide) (by decide),
        ← tap 16 (by decide) (by decide)]; rfl)

theorem Ring.step {x w : Array UInt32} {i : Nat} (hR : Ring x w i) :
    Ring x (if i < 16 then w else w.set! (i % 16) (Std.sha1W x i)) (i + 1) := by
  obtain ⟨hsz, hw⟩ := hR
  split
  · exact ⟨hsz, fun t h1 h2 => hw t (by omega) (by omega)⟩
  · refine ⟨by simpa using hsz, fun t h1 h2 => ?_⟩
    rw [aget_set!, hsz]
    by_cases ht : t = i
    · rw [ht, if_pos ⟨rfl, Nat.mod_lt _ (by decide)⟩]
    · rw [if_neg (by omega)]
      exact hw t (by omega) (by omega)

theorem sha1F_agrees (i : Nat) (hi : i < 80) (b c d : UInt32) :
    (match sha1F[i / 20]! with
      | 1 => (b &&& c) ||| (~~~b &&& d)
      | 2 => b ^^^ c ^^^ d
      | _ => (b &&& c) ||| (b &&& d) ||| (c &&& d)) = Std.sha1F i b c d := by
  unfold Std.sha1F
  obtain h | h | h | h : i / 20 = 0 ∨ i / 20 = 1 ∨ i / 20 = 2 ∨ i / 20 = 3 := by omega
  · rw [h, show sha1F[0]! = 1 by decide, if_pos (by omega)]; exact sha1Ch_std b c d
  · rw [h, show sha1F[1]! = 2 by decide, if_neg (by omega), if_pos (by omega)]; rfl
  · rw [h, show sha1F[2]! = 3 by decide, if_neg (by omega), if_neg (by omega), if_pos (by omega)]; exact sha1Maj_std b c d
  · rw [h, show sha1F[3]! = 2 by decide, if_neg (by omega), if_neg (by omega), if_neg (by omega)]; rfl

theorem sha1Steps_std (x : Array UInt32) (n i : Nat) (w : Array UInt32) (a b c d e : UInt32) (h : i + n ≤ 80)
    (hR : Ring x w i) :
    sha1Steps n i w a b c d e =
      (let r := (List.range' i n).foldl (Std.sha1Round x) (a, b, c, d, e); #[r.1, r.2.1, r.2.2.1, r.2.2.2.1, r.2.2.2.2]) := by
  induction n generalizing i w a b c d e with
  | zero => rfl
  | succ n ih =>
    have hi : i < 80 := by omega
    have hstep : Std.sha1Round x (a, b, c, d, e) i = (e + (rotl32 a sha1RotA + (match sha1F[i / 20]! with
          | 1 => (b &&& c) ||| (~~~b &&& d) | 2 => b ^^^ c ^^^ d | _ => (b &&& c) ||| (b &&& d) ||| (c &&& d))
          + sha1K[i / 20]! + Std.sha1W x i), a, rotl32 b sha1RotB, c, d) := by
      rw [sha1F_agrees i hi, sha1K_std i hi, Std.sha1Round]
      refine congrArg (·, a, rotl32 b sha1RotB, c, d) ?_
      show Std.rotl32 a 5 + Std.sha1F i b c d + e + Std.sha1K i + Std.sha1W x i =
        e + (Std.rotl32 a 5 + Std.sha1F i b c d + Std.sha1K i + Std.sha1W x i)
      ac_rfl
    rw [List.range'_succ, List.foldl_cons, sha1Steps, hstep]
    simp only [hR.word]
    exact ih _ _ _ _ _ _ _ (by omega) hR.step
theorem sha1Block_std (h x : Array UInt32) (hx : x.size = 16) : sha1Block h x = Std.sha1Compress h x := by
  unfold sha1Block Std.sha1Compress
  rw [sha1Steps_std x 80 0 x _ _ _ _ _ (by omega) ⟨hx, fun t h1 h2 => by
    rw [Nat.mod_eq_of_lt (by omega), sha1W_lt x t (by omega)]⟩, List.range_eq_range']
  simp

/-- `w` holds the first `w.size` values of the sequence `W` (a message schedule) -/
def Holds {α : Type} [Inhabited α] (W : Nat → α) (w : Array α) : Prop := ∀ t, t < w.size → w[t]! = W t

theorem Holds.push {α : Type} [Inhabited α] {W : Nat → α} {w : Array α} (h : Holds W w) : Holds W (w.push (W w.size)) := by
  intro t ht
  rw [Array.size_push] at ht
  by_cases h1 : t < w.size
  · rw [getElem!_pos _ t (by rw [Array.size_push]; omega), Array.getElem_push_lt h1, ← getElem!_pos w t h1]; exact h t h1
  · rw [show t = w.size by omega, getElem!_pos _ _ (by rw [Array.size_push]; omega), Array.getElem_push_eq]

theorem sha2Ch_std (x y z : UInt32) : z ^^^ (x &&& (y ^^^ z)) = Std.Ch x y z := by unfold Std.Ch; bitwise
theorem sha2Maj_std (x y z : UInt32) : (x &&& y) ||| (z &&& (x ||| y)) = Std.Maj x y z := by unfold Std.Maj; bitwise
theorem sha2Ch64_std (x y z : UInt64) : z ^^^ (x &&& (y ^^^ z)) = Std.Ch64 x y z := by unfold Std.Ch64; bitwise
theorem sha2Maj64_std (x y z : UInt64) : (x &&& y) ||| (z &&& (x ||| y)) = Std.Maj64 x y z := by unfold Std.Maj64; bitwise

theorem sha256S0_std (x : UInt32) : sha256S0 x = Std.smallSigma0 x := rfl
theorem sha256S1_std (x : UInt32) : sha256S1 x = Std.smallSigma1 x := rfl
theorem sha256S2_std (x : UInt32) : sha256S2 x = Std.bigSigma0 x := rfl
theorem sha256S3_std (x : UInt32) : sha256S3 x = Std.bigSigma1 x := rfl
theorem sha512S0_std (x : UInt64) : sha512S0 x = Std.smallSigma0_64 x := rfl
theorem sha512S1_std (x : UInt64) : sha512S1 x = Std.smallSigma1_64 x := rfl
theorem sha512S2_std (x : UInt64) : sha512S2 x = Std.bigSigma0_64 x := rfl
theorem sha512S3_std (x : UInt64) : sha512S3 x = Std.bigSigma1_64 x := rfl

theorem sha256W_lt (m : Array UInt32) (t : Nat) (h : t < 16) : Std.sha256W m t = m[t]! := by
  rw [Std.sha256W, dif_pos h]
theorem sha256W_ge (m : Array UInt32) (t : Nat) (h : 16 ≤ t) :
    Std.sha256W m t = Std.smallSigma1 (Std.sha256W m (t - 2)) + Std.sha256W m (t - 7)
      + Std.smallSigma0 (Std.sha256W m (t - 15)) + Std.sha256W m (t - 16) := by
  rw [Std.sha256W, dif_neg (by omega)]

/-- `w` holds the schedule words `W_0 … W_{max i 16 - 1}` -/
def Sched (m w : Array UInt32) (i : Nat) : Prop := w.size = max i 16 ∧ Holds (Std.sha256W m) w

theorem Sched.word {x w : Array UInt32} {i : Nat} (hS : Sched x w i) :
    (if i < 16 then w[i]! else sha256S1 w[i - 2]! + w[i - 7]! + sha256S0 w[i - 15]! + w[i - 16]!) = Std.sha256W x i := by
  have back : ∀ d, 1 ≤ d → w[i - d]! = Std.sha256W x (i - d) := fun d _ => hS.2 (i - d) (by rw [hS.1]; omega)
  split
  · exact hS.2 i (by rw [hS.1]; omega)
  · rw [back 2 (by decide), back 7 (by decide), back 15 (by decide), back 16 (by decide), sha256W_ge x i (by omega),
      sha256S0_std, sha256S1_std]

theorem Sched.step {x w : Array UInt32} {i : Nat} (hS : Sched x w i) :
    Sched x (if i < 16 then w else w.push (Std.sha256W x i)) (i + 1) := by
  obtain ⟨hsz, hw⟩ := hS
  split
  · exact ⟨by omega, hw⟩
  · have := hw.push
    rw [show w.size = i by omega] at this
    exact ⟨by rw [Array.size_push]; omega, this⟩

theorem sha256Steps_std (x : Array UInt32) (n i : Nat) (w : Array UInt32) (a b c d e f g h : UInt32)
    (hn : i + n ≤ 64) (hS : Sched x w i) :
    sha256Steps n i w a b c d e f g h =
      (let r := (List.range' i n).foldl (Std.sha256Round x) (a, b, c, d, e, f, g, h)
       #[r.1, r.2.1, r.2.2.1, r.2.2.2.1, r.2.2.2.2.1, r.2.2.2.2.2.1, r.2.2.2.2.2.2.1, r.2.2.2.2.2.2.2]) := by
  induction n generalizing i w a b c d e f g h with
  | zero => rfl
  | succ n ih =>
    have hstep : Std.sha256Round x (a, b, c, d, e, f, g, h) i =
        (h + sha256S3 e + (g ^^^ (e &&& (f ^^^ g))) + sha256K[i]! + Std.sha256W x i +
          (sha256S2 a + ((a &&& b) ||| (c &&& (a ||| b)))), a, b, c,
          d + (h + sha256S3 e + (g ^^^ (e &&& (f ^^^ g))) + sha256K[i]! + Std.sha256W x i), e, f, g) := by
      simp only [Std.sha256Round, sha256K_std i (by omega), sha2Ch_std, sha2Maj_std, sha256S2_std, sha256S3_std]
    rw [List.range'_succ, List.foldl_cons, sha256Steps, hstep]
    simp only [hS.word]
    exact ih _ _ _ _ _ _ _ _ _ _ (by omega) hS.step

theorem sha256Block_std (h x : Array UInt32) (hx : x.size = 16) : sha256Block h x = Std.sha256Compress h x := by
  unfold sha256Block Std.sha256Compress
  rw [sha256Steps_std x 64 0 x _ _ _ _ _ _ _ _ (by omega) ⟨by simp [hx], fun t ht => by
    rw [sha256W_lt x t (by omega)]⟩, List.range_eq_range']
  simp

theorem sha512W_lt (m : Array UInt64) (t : Nat) (h : t < 16) : Std.sha512W m t = m[t]! := by
  rw [Std.sha512W, dif_pos h]
theorem sha512W_ge (m : Array UInt64) (t : Nat) (h : 16 ≤ t) :
    Std.sha512W m t = Std.smallSigma1_64 (Std.sha512W m (t - 2)) + Std.sha512W m (t - 7)
      + Std.smallSigma0_64 (Std.sha512W m (t - 15)) + Std.sha512W m (t - 16) := by
  rw [Std.sha512W, dif_neg (by omega)]

/-- `w` holds exactly the schedule words `W_0 … W_{w.size - 1}` -/
def Sched64 (m w : Array UInt64) : Prop := 16 ≤ w.size ∧ Holds (Std.sha512W m) w

theorem sha512Schedule_std (x : Array UInt64) (n : Nat) (w : Array UInt64) (hS : Sched64 x w) :
    Sched64 x (sha512Schedule n w) ∧ (sha512Schedule n w).size = w.size + n := by
  induction n generalizing w with
  | zero => exact ⟨hS, rfl⟩
  | succ n ih =>
    obtain ⟨hsz, hw⟩ := hS
    rw [sha512Schedule]
    have hv : sha512S1 w[w.size - 2]! + w[w.size - 7]! + sha512S0 w[w.size - 15]! + w[w.size - 16]!
        = Std.sha512W x w.size := by
      rw [hw _ (by omega), hw _ (by omega), hw _ (by omega), hw _ (by omega), sha512W_ge x _ hsz,
        sha512S0_std, sha512S1_std]
    simp only [hv]
    obtain ⟨r1, r2⟩ := ih _ ⟨by rw [Array.size_push]; omega, hw.push⟩
    exact ⟨r1, by rw [r2, Array.size_push]; omega⟩

theorem sha512Steps_std (x w : Array UInt64) (n i : Nat) (a b c d e f g h : UInt64)
    (hn : i + n ≤ 80) (hw : ∀ t, t < 80 → w[t]! = Std.sha512W x t) :
    sha512Steps w n i a b c d e f g h =
      (let r := (List.range' i n).foldl (Std.sha512Round x) (a, b, c, d, e, f, g, h)
       #[r.1, r.2.1, r.2.2.1, r.2.2.2.1, r.2.2.2.2.1, r.2.2.2.2.2.1, r.2.2.2.2.2.2.1, r.2.2.2.2.2.2.2]) := by
  induction n generalizing i a b c d e f g h with
  | zero => rfl
  | succ n ih =>
    have hi : i < 80 := by omega
    rw [List.range'_succ, List.foldl_cons, sha512Steps, ih _ _ _ _ _ _ _ _ _ (by omega)]
    have hstep : (h + sha512S3 e + (g ^^^ (e &&& (f ^^^ g))) + sha512K[i]! + w[i]! +
          (sha512S2 a + ((a &&& b) ||| (c &&& (a ||| b)))), a, b, c,
          d + (h + sha512S3 e + (g ^^^ (e &&& (f ^^^ g))) + sha512K[i]! + w[i]!), e, f, g)
        = Std.sha512Round x (a, b, c, d, e, f, g, h) i := by
      simp only [Std.sha512Round, sha512K_std i hi, hw i hi, sha2Ch64_std, sha2Maj64_std, sha512S2_std, sha512S3_std]
    rw [← hstep]

theorem sha512Block_std (h x : Array UInt64) (hx : x.size = 16) : sha512Block h x = Std.sha512Compress h x := by
  unfold sha512Block Std.sha512Compress
  dsimp only
  obtain ⟨⟨_, r1⟩, r2⟩ := sha512Schedule_std x 64 x ⟨by omega, fun t ht => by rw [sha512W_lt x t (by omega)]⟩
  rw [sha512Steps_std x _ 80 0 _ _ _ _ _ _ _ _ (by omega) (fun t ht => r1 t (by omega)), List.range_eq_range']
  simp

/-! `Spec.sha32` / `Spec.sha64` and `Std.sha32` / `Std.sha64` differ in the initial value and the compression
function only, and every block is read as sixteen words. -/

theorem sha32_spec_std {iv iv' : Array UInt32} {block block' : Array UInt32 → Array UInt32 → Array UInt32} (n : Nat)
    (hiv : iv = iv') (hb : ∀ h x, x.size = 16 → block h x = block' h x) :
    Spec.sha32 iv block n = Std.sha32 iv' block' n := by
  have hc : (fun h blk => block h (wordsBE32 blk)) = fun h blk => block' h (wordsBE32 blk) :=
    funext fun h => funext fun blk => hb h _ (by simp [wordsBE32])
  rw [Spec.sha32, Std.sha32, hiv, hc]

theorem sha64_spec_std {iv iv' : Array UInt64} (n : Nat) (hiv : iv = iv') : Spec.sha64 iv n = Std.sha64 iv' n := by
  have hc : (fun h blk => sha512Block h (wordsBE64 blk)) = fun h blk => Std.sha512Compress h (wordsBE64 blk) :=
    funext fun h => funext fun blk => sha512Block_std h _ (by simp [wordsBE64])
  rw [Spec.sha64, Std.sha64, hiv, hc]

end PV.Hash
