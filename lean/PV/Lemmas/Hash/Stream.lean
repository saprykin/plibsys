import PV.Model.Hash.MD
import PV.Spec.Hash
import PV.Lemmas.Hash.Bytes
/-! The generic streaming argument of C11: an `Alg` that satisfies `Laws` computes the one-shot
    specification for every chunking (`chunking_generic`).  A byte string is a whole number of blocks
    followed by its `rest`; every phase of `update` keeps `Absorbed`: the blocks of the bytes so far are
    compressed, their rest lies in front of the buffer. -/
namespace PV.Hash
open Spec

/-- the `m.size / B` consecutive `B`-byte blocks of `m` (`MDSpec.blocks` with the block size explicit) -/
def blocksOf (B : Nat) (m : ByteArray) : List ByteArray :=
  (List.range (m.size / B)).map fun i => m.extract (i * B) (i * B + B)

theorem MDSpec.blocks_eq (S : MDSpec) (m : ByteArray) : S.blocks m = blocksOf S.B m := rfl

/-- the bytes after the last whole block -/
def rest (B : Nat) (m : ByteArray) : ByteArray := m.extract (m.size / B * B) m.size

theorem blocksOf_small (B : Nat) (m : ByteArray) (h : m.size < B) : blocksOf B m = [] := by
  rw [blocksOf, Nat.div_eq_of_lt h]; rfl

theorem blocksOf_one (B : Nat) (hB : 0 < B) (m : ByteArray) (h : m.size = B) : blocksOf B m = [m] := by
  rw [blocksOf, h, Nat.div_self hB]
  show [m.extract (0 * B) (0 * B + B)] = [m]
  rw [Nat.zero_mul, Nat.zero_add, ← h, ByteArray.extract_zero_size]

theorem rest_small (B : Nat) (m : ByteArray) (h : m.size < B) : rest B m = m := by
  rw [rest, Nat.div_eq_of_lt h, Nat.zero_mul, ByteArray.extract_zero_size]

theorem size_rest (B : Nat) (m : ByteArray) : (rest B m).size = m.size % B := by
  rw [rest, ByteArray.size_extract, Nat.min_self, Nat.mul_comm, ← Nat.mod_eq_sub_mul_div]

theorem size_append_mul {B : Nat} (hB : 0 < B) {a : ByteArray} {n : Nat} (ha : a.size = n * B) (m : ByteArray) :
    (a ++ m).size / B = n + m.size / B ∧ (a ++ m).size % B = m.size % B := by
  rw [ByteArray.size_append, ha, Nat.mul_comm, Nat.mul_add_div hB, Nat.mul_add_mod]
  exact ⟨rfl, rfl⟩

theorem blocksOf_append_mul {B : Nat} (hB : 0 < B) {a : ByteArray} {n : Nat} (ha : a.size = n * B) (m : ByteArray) :
    blocksOf B (a ++ m) = blocksOf B a ++ blocksOf B m := by
  have han : a.size / B = n := by rw [ha, Nat.mul_div_cancel _ hB]
  rw [blocksOf, blocksOf, blocksOf, (size_append_mul hB ha m).1, han, List.range_add, List.map_append, List.map_map]
  refine congr (congrArg _ (List.map_congr_left fun i hi => ?_)) (List.map_congr_left fun i _ => ?_)
  · have : (i + 1) * B ≤ a.size := ha ▸ Nat.mul_le_mul_right B (List.mem_range.mp hi)
    rw [Nat.add_mul, Nat.one_mul] at this
    rw [ByteArray.extract_append, Nat.sub_eq_zero_of_le this, extract_empty' m _ 0 (Or.inl (Nat.zero_le _)),
      ByteArray.append_empty]
  · show (a ++ m).extract ((n + i) * B) ((n + i) * B + B) = _
    rw [Nat.add_mul, ← ha, Nat.add_assoc, ByteArray.extract_append_size_add]

theorem rest_append_mul {B : Nat} (hB : 0 < B) {a : ByteArray} {n : Nat} (ha : a.size = n * B) (m : ByteArray) :
    rest B (a ++ m) = rest B m := by
  rw [rest, rest, (size_append_mul hB ha m).1, Nat.add_mul, ← ha, ByteArray.size_append,
    ByteArray.extract_append_size_add]

theorem split_rest (B : Nat) (m : ByteArray) :
    m.extract 0 (m.size / B * B) ++ rest B m = m ∧ (m.extract 0 (m.size / B * B)).size = m.size / B * B := by
  have hq : m.size / B * B ≤ m.size := Nat.div_mul_le_self _ _
  constructor
  · rw [rest, ByteArray.extract_append_extract, Nat.zero_min, Nat.max_eq_right hq, ByteArray.extract_zero_size]
  · rw [ByteArray.size_extract, Nat.min_eq_left hq, Nat.sub_zero]

theorem blocksOf_prefix (B : Nat) (hB : 0 < B) (m : ByteArray) :
    blocksOf B m = blocksOf B (m.extract 0 (m.size / B * B)) := by
  obtain ⟨h1, h2⟩ := split_rest B m
  conv => lhs; rw [← h1]
  rw [blocksOf_append_mul hB h2, blocksOf_small B (rest B m) (by rw [size_rest]; exact Nat.mod_lt _ hB), List.append_nil]

/-- appending `d` to `m` appends the blocks of (rest of `m`) `++ d` and leaves the rest of that -/
theorem blocksOf_append (B : Nat) (hB : 0 < B) (m d : ByteArray) :
    blocksOf B (m ++ d) = blocksOf B m ++ blocksOf B (rest B m ++ d) := by
  obtain ⟨h1, h2⟩ := split_rest B m
  conv => lhs; rw [← h1, ByteArray.append_assoc]
  rw [blocksOf_append_mul hB h2, ← blocksOf_prefix B hB]

theorem rest_append (B : Nat) (hB : 0 < B) (m d : ByteArray) :
    rest B (m ++ d) = rest B (rest B m ++ d) ∧ (m ++ d).size % B = (rest B m ++ d).size % B := by
  obtain ⟨h1, h2⟩ := split_rest B m
  have := ByteArray.append_assoc (a := m.extract 0 (m.size / B * B)) (b := rest B m) (c := d)
  rw [h1] at this
  rw [this]
  exact ⟨rest_append_mul hB h2 _, (size_append_mul hB h2 _).2⟩

/-- what the generic argument needs to know about an algorithm -/
structure Laws (A : Alg) where
  /-- compression of one block of bytes (the spec's view) -/
  compress : A.σ → ByteArray → A.σ
  encLen : Nat → List UInt8
  out : A.σ → List UInt8
  hashLen : Nat
  /-- the number the two counter words stand for -/
  kVal : A.κ → Nat
  /-- the counters count bytes modulo `M` -/
  M : Nat
  /-- the two block sizes of the family, not a general `B`: the arithmetic of `padLen` with `L = B / 8`
      (`Laws.pad_arith`) is settled by `omega` for each, and `Src.read` supplies at most 128 zero bytes -/
  hB : A.B = 64 ∨ A.B = 128
  hM : A.B ∣ M
  swap_size : ∀ b n, (A.swap b n).size = b.size
  proc_swap : ∀ h b, b.size = A.B → A.proc h (A.swap b 16) = compress h b
  kLeft_eq : ∀ k, A.kLeft k = kVal k % A.B
  kVal_k0 : kVal A.k0 = 0
  kVal_add : ∀ k len, len < 2 ^ 64 → kVal (A.kAdd k len) = (kVal k + len) % M
  encLen_length : ∀ bits, (encLen bits).length = A.L
  proc_final : ∀ h b k, b.size = A.B → 8 * kVal k < M →
    A.proc h (A.swap (A.putLen k b) 14) = compress h (b.extract 0 (A.B - A.L) ++ (encLen (8 * kVal k)).toByteArray)
  pad_eq : A.pad = [0x80].toByteArray ++ zeroBytes (A.B - 1)
  out_eq : ∀ h, (A.hashBytes (A.outSwap h)).take hashLen = out h

variable {A : Alg}

/-- the one-shot specification the laws speak about -/
def Laws.spec (W : Laws A) : MDSpec where
  σ := A.σ
  B := A.B
  L := A.L
  iv := A.iv
  compress := W.compress
  encLen := W.encLen
  out := W.out

theorem Laws.B_pos (W : Laws A) : 0 < A.B := by rcases W.hB with h | h <;> omega
theorem Laws.B_le (W : Laws A) : A.B ≤ 128 := by rcases W.hB with h | h <;> omega

/-- The invariant of every phase of `update`: buffer `buf` and hash words `h` are what the bytes `m`
    (all of them since `init`) leave behind — the whole blocks of `m` compressed, its rest in front of the buffer. -/
structure Absorbed (W : Laws A) (buf : ByteArray) (h : A.σ) (m : ByteArray) : Prop where
  size : buf.size = A.B
  hash : h = (blocksOf A.B m).foldl W.compress A.iv
  pend : buf.extract 0 (m.size % A.B) = rest A.B m

/-- `memcpy`, `swap_bytes`, `process` on a buffer that the copy completes: the top-up, and every round of the
    block loop (where nothing is pending) -/
theorem Absorbed.fill (W : Laws A) {buf : ByteArray} {h : A.σ} {m : ByteArray} (hA : Absorbed W buf h m)
    (Y : ByteArray) (hY : m.size % A.B + Y.size = A.B) :
    Absorbed W (A.swap (memcpy buf (m.size % A.B) Y) 16) (A.proc h (A.swap (memcpy buf (m.size % A.B) Y) 16))
      (m ++ Y) ∧ (m ++ Y).size % A.B = 0 := by
  have hBp := W.B_pos
  have hX : memcpy buf (m.size % A.B) Y = rest A.B m ++ Y := by
    rw [memcpy_eq, hY, hA.pend, extract_empty' buf _ _ (Or.inr (by rw [hA.size]; exact Nat.le_refl _)),
      ByteArray.append_empty]
  have hXs : (rest A.B m ++ Y).size = A.B := by rw [ByteArray.size_append, size_rest, hY]
  obtain ⟨t1, t2⟩ := rest_append A.B hBp m Y
  have hz : (m ++ Y).size % A.B = 0 := by rw [t2, hXs, Nat.mod_self]
  refine ⟨⟨by rw [W.swap_size, hX, hXs], ?_, ?_⟩, hz⟩
  · rw [hX, W.proc_swap _ _ hXs, blocksOf_append A.B hBp m, List.foldl_append, ← hA.hash, blocksOf_one A.B hBp _ hXs]
    rfl
  · rw [hz, t1, rest, hXs, Nat.div_self hBp, Nat.one_mul, ByteArray.extract_same, ByteArray.extract_same]

/-- the final `memcpy` of `update`: the bytes do not complete a block -/
theorem Absorbed.stash (W : Laws A) {buf : ByteArray} {h : A.σ} {m : ByteArray} (hA : Absorbed W buf h m)
    (Y : ByteArray) (hY : m.size % A.B + Y.size < A.B) :
    Absorbed W (memcpy buf (m.size % A.B) Y) h (m ++ Y) := by
  have hBp := W.B_pos
  have hs : (rest A.B m ++ Y).size < A.B := by rw [ByteArray.size_append, size_rest]; exact hY
  obtain ⟨t1, t2⟩ := rest_append A.B hBp m Y
  refine ⟨by rw [size_memcpy _ _ _ (by rw [hA.size]; omega), hA.size], ?_, ?_⟩
  · rw [blocksOf_append A.B hBp m, blocksOf_small _ _ hs, List.append_nil]; exact hA.hash
  · rw [t1, t2, rest_small _ _ hs, Nat.mod_eq_of_lt hs, ByteArray.size_append, size_rest,
      memcpy_prefix _ _ _ (by rw [hA.size]; omega), hA.pend]

theorem Absorbed.wholeBlocks (W : Laws A) (data : Src) (n off : Nat) {buf : ByteArray} {h : A.σ} {m : ByteArray}
    (hA : Absorbed W buf h m) (h0 : n = 0 ∨ m.size % A.B = 0) (hin : off + n * A.B ≤ data.size) :
    Absorbed W (A.wholeBlocks data n off buf h).1 (A.wholeBlocks data n off buf h).2
      (m ++ data.toBytes.extract off (off + n * A.B)) := by
  induction n generalizing off buf h m with
  | zero =>
    rw [Nat.zero_mul, Nat.add_zero, ByteArray.extract_same, ByteArray.append_empty]
    exact hA
  | succ n ih =>
    have hr : m.size % A.B = 0 := h0.resolve_left (Nat.succ_ne_zero n)
    rw [Nat.add_mul, Nat.one_mul] at hin
    have hread := Src.read_eq data off A.B (by omega) W.B_le
    have hYs : (data.toBytes.extract off (off + A.B)).size = A.B := by
      rw [ByteArray.size_extract, Src.size_toBytes]; omega
    obtain ⟨f1, f2⟩ := hA.fill W (data.toBytes.extract off (off + A.B)) (by rw [hr, hYs, Nat.zero_add])
    rw [hr] at f1
    have := ih (off + A.B) f1 (Or.inr f2) (by omega)
    rw [append_extract_extract _ _ (Nat.le_add_right _ _) (Nat.le_add_right _ _), Nat.add_assoc, Nat.add_comm A.B,
      ← Nat.succ_mul] at this
    rw [Alg.wholeBlocks, hread]
    exact this

/-- phases two and three of `update` on the input from `off` on; the block loop runs only when nothing is pending -/
theorem Absorbed.tail (W : Laws A) (data : Src) (off len left : Nat) {buf : ByteArray} {h : A.σ} {M : ByteArray}
    (hA : Absorbed W buf h M) (hoff : off + len = data.size) (hleft : M.size % A.B = left)
    (h0 : left = 0 ∨ left + len < A.B) :
    let r := A.wholeBlocks data (len / A.B) off buf h
    Absorbed W (if len % A.B > 0 then memcpy r.1 left (data.read (off + len / A.B * A.B) (len % A.B)) else r.1) r.2
      (M ++ data.toBytes.extract off data.size) := by
  intro r
  have hBp := W.B_pos
  have hdm : len / A.B * A.B + len % A.B = len := by rw [Nat.mul_comm]; exact Nat.div_add_mod _ _
  have hl2 : len % A.B < A.B := Nat.mod_lt _ hBp
  have w := hA.wholeBlocks W data (len / A.B) off
    (h0.imp (fun h => hleft.trans h) fun h => Nat.div_eq_of_lt (by omega)).symm (by omega)
  have hz : (M ++ data.toBytes.extract off (off + len / A.B * A.B)).size % A.B = left := by
    rw [ByteArray.size_append, ByteArray.size_extract, Src.size_toBytes, Nat.min_eq_left (by omega), Nat.add_sub_cancel_left,
      Nat.add_mul_mod_self_right, hleft]
  split
  · have s := w.stash W (data.toBytes.extract (off + len / A.B * A.B) (off + len / A.B * A.B + len % A.B)) (by
      rw [hz, ByteArray.size_extract, Src.size_toBytes]; omega)
    have hmsg : M ++ data.toBytes.extract off (off + len / A.B * A.B) ++
        data.toBytes.extract (off + len / A.B * A.B) (off + len / A.B * A.B + len % A.B) =
        M ++ data.toBytes.extract off data.size := by
      rw [append_extract_extract _ _ (Nat.le_add_right _ _) (Nat.le_add_right _ _), Nat.add_assoc, hdm, hoff]
    rw [hz, hmsg] at s
    rw [Src.read_eq _ _ _ (by omega) (by have := W.B_le; omega)]
    exact s
  · rw [show off + len / A.B * A.B = data.size by omega] at w
    exact w

/-- **One `update`**, for a context that has absorbed `m` and counts its bytes: it has then absorbed `m ++` input. -/
theorem Absorbed.update (W : Laws A) (c : Ctx A) (data : Src) {m : ByteArray} (hA : Absorbed W c.buf c.hash m)
    (hk : W.kVal c.k % A.B = m.size % A.B) :
    Absorbed W (A.update c data).buf (A.update c data).hash (m ++ data.toBytes) := by
  have hBp := W.B_pos
  have hBl := W.B_le
  have hr : m.size % A.B < A.B := Nat.mod_lt _ hBp
  have hD : data.toBytes.extract 0 data.size = data.toBytes := by rw [← Src.size_toBytes, ByteArray.extract_zero_size]
  unfold Alg.update
  simp only [W.kLeft_eq, hk]
  by_cases htop : (m.size % A.B != 0 && decide (A.B - m.size % A.B ≤ data.size)) = true
  · simp only [htop, if_true]
    obtain ⟨hr0, hge⟩ : m.size % A.B ≠ 0 ∧ A.B - m.size % A.B ≤ data.size := by simpa using htop
    have hread := Src.read_eq data 0 (A.B - m.size % A.B) (by omega) (by omega)
    rw [Nat.zero_add] at hread
    obtain ⟨f1, f2⟩ := hA.fill W (data.toBytes.extract 0 (A.B - m.size % A.B)) (by
      rw [ByteArray.size_extract, Src.size_toBytes]; omega)
    have := f1.tail W data (A.B - m.size % A.B) (data.size - (A.B - m.size % A.B)) 0 (by omega) f2 (Or.inl rfl)
    rw [append_extract_extract _ _ (Nat.zero_le _) hge, hD] at this
    rw [hread]
    exact this
  · simp only [htop, Bool.false_eq_true, if_false]
    have := hA.tail W data 0 data.size (m.size % A.B) (Nat.zero_add _) rfl (by
      rcases Nat.eq_zero_or_pos (m.size % A.B) with h0 | h0
      · exact Or.inl h0
      · right
        have : ¬ (A.B - m.size % A.B ≤ data.size) := fun hc => htop (by simp [hc]; omega)
        omega)
    rw [hD] at this
    exact this

/-- the streaming invariant: `c` is the context after the bytes `m` -/
structure Inv (W : Laws A) (c : Ctx A) (m : ByteArray) : Prop where
  abs : Absorbed W c.buf c.hash m
  cnt : W.kVal c.k = m.size % W.M

theorem inv_init (W : Laws A) : Inv W A.init ByteArray.empty :=
  ⟨⟨size_zeroBytes _, by rw [blocksOf_small _ _ W.B_pos]; rfl,
    by rw [rest_small _ _ W.B_pos]; exact extract_empty' _ 0 _ (Or.inl (Nat.zero_le _))⟩, W.kVal_k0⟩

theorem inv_update (W : Laws A) {c : Ctx A} {m : ByteArray} (hI : Inv W c m) (data : Src) (hlen : data.size < 2 ^ 64) :
    Inv W (A.update c data) (m ++ data.toBytes) :=
  ⟨hI.abs.update W c data (by rw [hI.cnt, Nat.mod_mod_of_dvd _ W.hM]), by
    show W.kVal (A.kAdd c.k data.size) = _
    rw [W.kVal_add _ _ hlen, hI.cnt, Nat.mod_add_mod, ByteArray.size_append, Src.size_toBytes]⟩

theorem inv_fold (W : Laws A) (chunks : List Src) (hc : ∀ d ∈ chunks, d.size < 2 ^ 64) {c : Ctx A} {m : ByteArray}
    (hI : Inv W c m) :
    Inv W (chunks.foldl A.update c) (chunks.foldl (fun acc d => acc ++ d.toBytes) m) := by
  induction chunks generalizing c m with
  | nil => exact hI
  | cons d ds ih =>
    exact ih (fun x hx => hc x (List.mem_cons_of_mem _ hx)) (inv_update W hI d (hc d (List.mem_cons_self)))

/-- the arithmetic of `padLen`: the pad bytes `finish` adds are one `0x80`, the standard's zeros, and
    end `L = B / 8` bytes before a block boundary -/
theorem Laws.pad_arith (W : Laws A) (n : Nat) :
    1 ≤ A.padLen (n % A.B) ∧ A.padLen (n % A.B) ≤ A.B ∧ (n + A.padLen (n % A.B)) % A.B = A.B - A.B / 8 ∧
      W.spec.padZeros n = A.padLen (n % A.B) - 1 := by
  show _ ∧ _ ∧ _ ∧ (A.B - (n + 1 + A.B / 8) % A.B) % A.B = _
  unfold Alg.padLen Alg.L
  rcases W.hB with h | h <;> rw [h] <;> split <;> omega

theorem pad_prefix (W : Laws A) (last : Nat) (h1 : 1 ≤ last) (h2 : last ≤ A.B) :
    ({ bytes := A.pad.extract 0 last } : Src).toBytes = [0x80].toByteArray ++ zeroBytes (last - 1) := by
  rw [Src.toBytes, zeroBytes_zero, ByteArray.append_empty, W.pad_eq, ByteArray.extract_append, extract_all _ _ (by exact h1),
    Nat.zero_sub, zeroBytes_extract, Nat.min_eq_left (by show last - 1 ≤ A.B - 1; omega), Nat.sub_zero]
  rfl

theorem finish_spec (W : Laws A) {c : Ctx A} {m : ByteArray} (hI : Inv W c m) (hbound : 8 * m.size < W.M) :
    (A.digest (A.finish c)).take W.hashLen = W.spec.H m := by
  have hBp := W.B_pos
  have kv : W.kVal c.k = m.size := by rw [hI.cnt, Nat.mod_eq_of_lt (by omega)]
  obtain ⟨a1, a2, a3, a4⟩ := W.pad_arith m.size
  rw [Alg.finish, Alg.digest, W.kLeft_eq, kv]
  generalize A.padLen (m.size % A.B) = last at a1 a2 a3 a4
  rw [if_pos (by omega : last > 0)]
  -- the padding bytes go through `update`
  have hsrc := pad_prefix W last a1 a2
  have hm1s : (m ++ ([0x80].toByteArray ++ zeroBytes (last - 1))).size = m.size + last := by
    rw [ByteArray.size_append, ByteArray.size_append, size_zeroBytes]
    show m.size + (1 + (last - 1)) = _
    omega
  have hI1 := inv_update W hI { bytes := A.pad.extract 0 last } (by
    rw [← Src.size_toBytes, hsrc]; have := W.B_le; rw [ByteArray.size_append] at hm1s; omega)
  rw [hsrc] at hI1
  generalize A.update c { bytes := A.pad.extract 0 last } = c1 at hI1
  generalize hm1 : m ++ ([0x80].toByteArray ++ zeroBytes (last - 1)) = m1 at hI1 hm1s
  -- the last block: the rest of the padded bytes, then the length field
  have hp := hI1.abs.pend
  rw [hm1s, a3] at hp
  have he : (W.encLen (8 * m.size)).toByteArray.size = A.B / 8 := by rw [List.size_toByteArray, W.encLen_length]; rfl
  have hlast : (rest A.B m1 ++ (W.encLen (8 * m.size)).toByteArray).size = A.B := by
    rw [ByteArray.size_append, he, size_rest, hm1s, a3]
    rcases W.hB with h | h <;> omega
  have hpad : W.spec.pad m = m1 ++ (W.encLen (8 * m.size)).toByteArray := by
    rw [MDSpec.pad, a4, ← hm1, ByteArray.append_assoc (a := m)]
    rfl
  rw [W.proc_final c1.hash c1.buf c.k hI1.abs.size (by rw [kv]; exact hbound), W.out_eq, kv]
  show W.out (W.compress c1.hash (c1.buf.extract 0 (A.B - A.B / 8) ++ _)) =
    W.out ((blocksOf A.B (W.spec.pad m)).foldl W.compress A.iv)
  rw [hp, hpad, blocksOf_append A.B hBp m1, List.foldl_append, ← hI1.abs.hash, blocksOf_one A.B hBp _ hlast]
  rfl

/-- **Generic chunking theorem.**  For an algorithm that satisfies `Laws`: whatever the splitting of
    the input into `update` calls (each of a `psize` length), `finish` leaves the one-shot digest of
    the concatenation, as long as the bit length fits the length field. -/
theorem chunking_generic (W : Laws A) (chunks : List Src) (hc : ∀ d ∈ chunks, d.size < 2 ^ 64)
    (hb : 8 * (Src.concat chunks).size < W.M) :
    (A.digest (A.finish (chunks.foldl A.update A.init))).take W.hashLen = W.spec.H (Src.concat chunks) :=
  finish_spec W (inv_fold W chunks hc (inv_init W)) hb

end PV.Hash
