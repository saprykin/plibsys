import PV.Lemmas.Hash.Inst32
/-! `Laws` for SHA-2-384/512 (64-bit words and counters, 128-byte blocks, 16-byte length field). -/
namespace PV.Hash
open Spec PV.Generated.HashMD

def kVal64 (k : UInt64 × UInt64) : Nat := k.1.toNat * 2 ^ 64 + k.2.toNat

theorem kVal64_add (k : UInt64 × UInt64) (len : Nat) (h : len < 2 ^ 64) :
    kVal64 (kAdd64 k len) = (kVal64 k + len) % 2 ^ 128 := by
  obtain ⟨hi, lo⟩ := k
  have h1 := hi.toNat_lt; have h2 := lo.toNat_lt
  simp only [kVal64, kAdd64]
  -- carry or no carry out of the low word: the same arithmetic decides both
  split
  all_goals
    rename_i hc
    rw [UInt64.lt_iff_toNat_lt] at hc
    simp only [UInt64.toNat_add, UInt64.toNat_ofNat', UInt64.toNat_ofNat, Nat.reducePow, Nat.reduceMod] at hc ⊢
    omega

theorem kLeft64 (k : UInt64 × UInt64) : (k.2 &&& UInt64.ofNat (128 - 1)).toNat = kVal64 k % 128 := by
  have := Nat.and_two_pow_sub_one_eq_mod k.2.toNat 7
  simp only [kVal64, UInt64.toNat_and, UInt64.toNat_ofNat', Nat.reducePow, Nat.reduceMod, Nat.reduceSub] at this ⊢
  rw [this]; omega

/-- the two length words of `finish` are the 128-bit bit count -/
theorem lenWords64 (k : UInt64 × UInt64) (h : 8 * kVal64 k < 2 ^ 128) :
    ((k.1 <<< 3) ||| (k.2 >>> 61)).toNat = 8 * kVal64 k / 2 ^ 64 ∧ (k.2 <<< 3).toNat = 8 * kVal64 k % 2 ^ 64 := by
  obtain ⟨hi, lo⟩ := k
  have h1 := hi.toNat_lt; have h2 := lo.toNat_lt
  simp only [kVal64] at h ⊢
  -- `lo >>> 61 < 8` fills only the three bits that `hi <<< 3` leaves empty: the `|||` is a sum
  have hor := Nat.shiftLeft_add_eq_or_of_lt (i := 3) (b := lo.toNat >>> 61)
    (by rw [Nat.shiftRight_eq_div_pow]; omega) hi.toNat
  simp only [UInt64.toNat_or, UInt64.toNat_shiftLeft, UInt64.toNat_shiftRight, UInt64.toNat_ofNat, Nat.reducePow, Nat.reduceMod]
  -- the bit count fits the length field, so `hi < 2^61` and `hi <<< 3` does not wrap
  have hs : hi.toNat <<< 3 % 18446744073709551616 = hi.toNat <<< 3 := by
    rw [Nat.shiftLeft_eq]; omega
  rw [hs, ← hor]
  simp only [Nat.shiftLeft_eq, Nat.shiftRight_eq_div_pow, Nat.reducePow]
  omega

def wordsLE64 (b : ByteArray) : Array UInt64 := Array.ofFn (n := 16) fun i => getLE64 b i.val

theorem nativeWords64_eq (b : ByteArray) : nativeWords64 b = wordsLE64 b := by
  simp [nativeWords64, wordsLE64, getW64, isBigEndian]

theorem final_words_be64 (b : ByteArray) (hb : b.size = 128) (hi lo : UInt64) :
    wordsLE64 (revWords64 (setLE64 (setLE64 b 14 hi) 15 lo) 14) =
      wordsBE64 (b.extract 0 112 ++ ((beBytes64 hi).toByteArray ++ (beBytes64 lo).toByteArray)) := by
  apply words_congr
  intro i hi16
  rw [getLE64_revWords64 _ _ _ (by simp; omega),
    fields_word getBE64_congr b _ _ (by omega) (by rw [List.size_toByteArray]; rfl) i hi16]
  split
  · rw [getBE64_setLE64_of_ne _ _ _ _ (by omega), getBE64_setLE64_of_ne _ _ _ _ (by omega)]
  · rcases (by omega : i = 14 ∨ i = 15) with rfl | rfl
    · rw [if_pos rfl, getLE64_setLE64_of_ne _ _ _ _ (by omega), getLE64_setLE64_self _ _ _ (by omega), getBE64_beBytes64]
    · rw [if_neg (by decide), getLE64_setLE64_self _ _ _ (by simp; omega), getBE64_beBytes64]

theorem leBytes64_bswap64 (v : UInt64) : leBytes64 (bswap64 v) = beBytes64 v := by
  unfold bswap64
  rw [leBytes64_le64]
  simp [beBytes64, leBytes64]

theorem out_be64 (h : Array UInt64) (n k : Nat) (hk : k ≤ 8 * n) :
    (bytesOfWords64 (swapHash64 true h n)).take k = (h.toList.flatMap beBytes64).take k := by
  simp only [bytesOfWords64, swapHash64, isBigEndian, Bool.true_bne, Bool.not_false, if_true, Bool.false_eq_true, if_false]
  exact take_swapped 8 leBytes64 beBytes64 bswap64 leBytes64_bswap64 (fun v => by simp [beBytes64, leBytes64]) h.toList n k hk

theorem proc_final_be64 (block : Array UInt64 → Array UInt64 → Array UInt64) (h : Array UInt64) (b : ByteArray)
    (k : UInt64 × UInt64) (hb : b.size = 128) (hbound : 8 * kVal64 k < 2 ^ 128) :
    block h (nativeWords64 (swapBytes64 true (putLen64 false k b) 14)) =
      block h (wordsBE64 (b.extract 0 112 ++ (beBytesN 16 (8 * kVal64 k)).toByteArray)) := by
  obtain ⟨w1, w2⟩ := lenWords64 k hbound
  rw [nativeWords64_eq]
  simp only [swapBytes64, putLen64, setW64, isBigEndian, Bool.true_bne, Bool.not_false, if_true, Bool.false_eq_true, if_false]
  rw [lenField_be64 _ _ _ w1 w2, List.toByteArray_append, final_words_be64 b hb]

theorem proc_swap_be64 (block : Array UInt64 → Array UInt64 → Array UInt64) (h : Array UInt64) (b : ByteArray)
    (hb : b.size = 128) : block h (nativeWords64 (swapBytes64 true b 16)) = block h (wordsBE64 b) := by
  rw [nativeWords64_eq]
  simp only [swapBytes64, isBigEndian, Bool.true_bne, Bool.not_false, if_true]
  exact congrArg _ (words_congr fun i hi => by rw [getLE64_revWords64 _ _ _ (by omega), if_pos hi])

theorem size_swapBytes64 (s : Bool) (b : ByteArray) (n : Nat) : (swapBytes64 s b n).size = b.size := by
  unfold swapBytes64; split <;> simp

theorem dvd128 : 128 ∣ 2 ^ 128 := ⟨2 ^ 121, by decide⟩

/-- SHA-2-384/512 -/
def lawsBE64 (pad : ByteArray) (iv : Array UInt64) (outWords hashLen : Nat)
    (block : Array UInt64 → Array UInt64 → Array UInt64)
    (hpad : pad = [0x80].toByteArray ++ zeroBytes 127) (hk : hashLen ≤ 8 * outWords) :
    Laws (alg64 128 true false pad iv outWords block) where
  compress := fun h b => block h (wordsBE64 b)
  encLen := fun bits => beBytesN 16 bits
  out := fun h => (h.toList.flatMap beBytes64).take hashLen
  hashLen := hashLen
  kVal := kVal64
  M := 2 ^ 128
  hB := Or.inr rfl
  hM := dvd128
  swap_size := size_swapBytes64 true
  proc_swap := by
    intro h b hb
    dsimp only [alg64] at h hb ⊢
    exact proc_swap_be64 block h b hb
  kLeft_eq := kLeft64
  kVal_k0 := by show kVal64 (0, 0) = 0; simp [kVal64]
  kVal_add := kVal64_add
  encLen_length := by intro bits; simp [Alg.L, alg64, length_beBytesN]
  proc_final := by
    intro h b k hb hbound
    have hL : (alg64 128 true false pad iv outWords block).B - (alg64 128 true false pad iv outWords block).L = 112 := by
      simp [Alg.L, alg64]
    rw [hL]
    dsimp only [alg64] at h k hb hbound ⊢
    exact proc_final_be64 block h b k hb hbound
  pad_eq := hpad
  out_eq := fun h => out_be64 h outWords hashLen hk

theorem sha512Pad_eq : sha512Pad = [0x80].toByteArray ++ zeroBytes 127 := by
  apply ByteArray.ext; simp [sha512Pad, zeroBytes, ByteArray.data_append, List.data_toByteArray]

def lawsSHA384 : Laws sha384 := lawsBE64 sha512Pad sha384IV sha384OutWords 48 sha512Block sha512Pad_eq (by decide)
def lawsSHA512 : Laws sha512 := lawsBE64 sha512Pad sha512IV sha512OutWords 64 sha512Block sha512Pad_eq (by decide)

theorem lawsSHA384_spec : lawsSHA384.spec = Spec.sha384 := rfl
theorem lawsSHA512_spec : lawsSHA512.spec = Spec.sha512 := rfl

end PV.Hash
