import PV.Lemmas.Hash.Inst64
import PV.Model.Hash.Dispatch
/-! What `PV.Props.C11md` rests on beyond the chunking theorem: the dispatcher (`PCryptoHash`) over every sequence
    of calls (`Rel`, `run_rel`), the length of the standard digest (`H_length`), the length of the hex string
    (`hexOf_length`), and that no chunk is longer than the concatenation (`size_le_concat`). -/
namespace PV.Hash
open Spec PV.Generated.HashMD

def lawsOf : (t : HashType) → Laws t.alg
  | .md5 => lawsMD5 | .sha1 => lawsSHA1 | .sha224 => lawsSHA224
  | .sha256 => lawsSHA256 | .sha384 => lawsSHA384 | .sha512 => lawsSHA512

theorem lawsOf_spec (t : HashType) : (lawsOf t).spec = Spec.ofType t := by
  cases t
  · exact lawsMD5_spec
  · exact lawsSHA1_spec
  · exact lawsSHA224_spec
  · exact lawsSHA256_spec
  · exact lawsSHA384_spec
  · exact lawsSHA512_spec
theorem lawsOf_hashLen (t : HashType) : (lawsOf t).hashLen = t.hashLen := by cases t <;> rfl

/-- the largest message (bytes) whose bit length fits the length field -/
def HashType.maxBytes : HashType → Nat
  | .sha384 | .sha512 => 2 ^ 125
  | _ => 2 ^ 61

theorem lawsOf_M (t : HashType) : (lawsOf t).M = 8 * t.maxBytes := by cases t <;> decide

/-- the standard digest of `msg` for hash type `t` -/
def H (t : HashType) (msg : ByteArray) : List UInt8 := (Spec.ofType t).H msg

inductive Op where
  | update (d : Src) | reset | getString | getDigest (cap : Nat)

inductive Out where
  | done | str (s : String) | dig (r : Option (List UInt8))

def step {t : HashType} (h : PHash t) : Op → PHash t × Out
  | .update d => (h.update d, .done)
  | .reset => (h.reset, .done)
  | .getString => ((h.getString).1, .str (h.getString).2)
  | .getDigest cap => ((h.getDigest cap).1, .dig (h.getDigest cap).2)

def run {t : HashType} (h : PHash t) : List Op → List Out
  | [] => []
  | op :: ops => (step h op).2 :: run (step h op).1 ops

/-- what the user may rely on: the bytes that count, and whether the digest was read -/
structure View where
  msg : ByteArray
  read : Bool

def View.step (t : HashType) (v : View) : Op → View × Out
  | .update d => (if v.read then v else { v with msg := v.msg ++ d.toBytes }, .done)
  | .reset => ({ msg := ByteArray.empty, read := false }, .done)
  | .getString => ({ v with read := true }, .str (hexOf (H t v.msg)))
  | .getDigest cap =>
    if t.hashLen > cap then (v, .dig none) else ({ v with read := true }, .dig (some (H t v.msg)))

def View.run (t : HashType) (v : View) : List Op → List Out
  | [] => []
  | op :: ops => (v.step t op).2 :: View.run t (v.step t op).1 ops

/-- every `update` length is a `psize` and the counted bytes stay below `maxBytes` -/
def Admissible (t : HashType) (v : View) : List Op → Prop
  | [] => True
  | op :: ops => (∀ d, op = .update d → d.size < 2 ^ 64) ∧ (v.step t op).1.msg.size < t.maxBytes ∧
      Admissible t (v.step t op).1 ops

theorem PHash.closed_close {t : HashType} (h : PHash t) : h.close.closed = true := by
  unfold PHash.close
  split
  · assumption
  · rfl

theorem PHash.close_of_closed {t : HashType} (h : PHash t) (hc : h.closed = true) : h.close = h := if_pos hc

theorem PHash.update_of_closed {t : HashType} (h : PHash t) (d : Src) (hc : h.closed = true) : h.update d = h := by
  simp only [PHash.update, if_pos hc, ite_self]

theorem toBytes_of_size_zero (d : Src) (h : d.size = 0) : d.toBytes = ByteArray.empty := by
  rw [← ByteArray.size_eq_zero_iff, Src.size_toBytes, h]

/-- model state vs. user view: an open hash is the streaming context after the view's bytes, a closed
    one holds their digest -/
inductive Rel {t : HashType} (h : PHash t) : View → Prop
  | opened (m : ByteArray) : h.closed = false → Inv (lawsOf t) h.ctx m → Rel h { msg := m, read := false }
  | closed (m : ByteArray) : h.closed = true → h.digestBytes = H t m → Rel h { msg := m, read := true }

theorem close_spec {t : HashType} (h : PHash t) (v : View) (hR : Rel h v) (hb : v.msg.size < t.maxBytes) :
    Rel h.close { v with read := true } := by
  cases hR with
  | closed m hc hd => rw [h.close_of_closed hc]; exact .closed m hc hd
  | opened m hc hI =>
    have hb : m.size < t.maxBytes := hb
    refine .closed m h.closed_close ?_
    have := finish_spec (lawsOf t) hI (by rw [lawsOf_M]; omega)
    rw [lawsOf_spec, lawsOf_hashLen] at this
    rw [PHash.close, if_neg (by rw [hc]; decide)]
    exact this

theorem Rel.digest {t : HashType} {h : PHash t} {v : View} (hR : Rel h { v with read := true }) :
    h.digestBytes = H t v.msg := by
  cases hR; assumption

theorem step_rel {t : HashType} (h : PHash t) (v : View) (op : Op) (hR : Rel h v)
    (hd : ∀ d, op = .update d → d.size < 2 ^ 64) (hb : (v.step t op).1.msg.size < t.maxBytes) :
    (step h op).2 = (v.step t op).2 ∧ Rel (step h op).1 (v.step t op).1 := by
  cases op with
  | update d =>
    refine ⟨rfl, ?_⟩
    cases hR with
    | closed m hc hd' =>
      show Rel (h.update d) { msg := m, read := true }
      rw [h.update_of_closed d hc]; exact .closed m hc hd'
    | opened m hc hI =>
      show Rel (h.update d) { msg := m ++ d.toBytes, read := false }
      unfold PHash.update
      split
      · rw [toBytes_of_size_zero d ‹_›, ByteArray.append_empty]; exact .opened m hc hI
      · rw [if_neg (by rw [hc]; decide)]; exact .opened _ hc (inv_update (lawsOf t) hI d (hd d rfl))
  | reset => exact ⟨rfl, .opened _ rfl (inv_init (lawsOf t))⟩
  | getString =>
    have hc := close_spec h v hR hb
    exact ⟨by simp only [step, View.step, PHash.getString, hc.digest], hc⟩
  | getDigest cap =>
    simp only [step, View.step, PHash.getDigest]
    split
    · exact ⟨rfl, hR⟩
    · have hc := close_spec h v hR (by simpa only [View.step, if_neg ‹_›] using hb)
      exact ⟨by rw [hc.digest], hc⟩

theorem run_rel {t : HashType} (ops : List Op) (h : PHash t) (v : View) (hR : Rel h v) (ha : Admissible t v ops) :
    run h ops = View.run t v ops := by
  induction ops generalizing h v with
  | nil => rfl
  | cons op ops ih =>
    obtain ⟨a1, a2, a3⟩ := ha
    obtain ⟨s1, s2⟩ := step_rel h v op hR a1 a2
    simp only [run, View.run, s1]
    rw [ih _ _ s2 a3]

theorem rel_new (t : HashType) : Rel (PHash.new t) { msg := ByteArray.empty, read := false } :=
  .opened _ rfl (inv_init (lawsOf t))

theorem foldl_last {α β : Type} (P : β → Prop) (f : β → α → β) (hf : ∀ s x, P (f s x)) (l : List α) (hl : l ≠ [])
    (s : β) : P (l.foldl f s) := by
  induction l generalizing s with
  | nil => exact absurd rfl hl
  | cons x xs ih =>
    by_cases hx : xs = []
    · subst hx; exact hf s x
    · exact ih hx (f s x)

theorem blocks_pad_ne_nil (S : MDSpec) (hB : 0 < S.B)
    (hL : ∀ bits, (S.encLen bits).length = S.L) (msg : ByteArray) : S.blocks (S.pad msg) ≠ [] := by
  have hsz : (S.pad msg).size = msg.size + 1 + S.padZeros msg.size + S.L := by
    simp [MDSpec.pad, ByteArray.size_append, hL]
  have : 1 ≤ (S.pad msg).size / S.B := by
    apply Nat.div_pos _ hB
    rw [hsz]; unfold MDSpec.padZeros
    by_cases h : msg.size + 1 + S.L < S.B
    · rw [Nat.mod_eq_of_lt h, Nat.mod_eq_of_lt (by omega)]; omega
    · omega
  intro hnil
  have hlen : (S.blocks (S.pad msg)).length = (S.pad msg).size / S.B := by simp [MDSpec.blocks]
  rw [hnil] at hlen
  simp at hlen
  omega

/-- The padded message has at least one block, so the digest is the output of a state that came out
    of the compression function: a property `P` of all such states decides its length. -/
theorem Spec.MDSpec.H_length (S : MDSpec) (hB : 0 < S.B)
    (hL : ∀ bits, (S.encLen bits).length = S.L) (P : S.σ → Prop) (hP : ∀ s x, P (S.compress s x)) (n : Nat)
    (hout : ∀ s, P s → (S.out s).length = n) (msg : ByteArray) : (S.H msg).length = n :=
  hout _ (foldl_last P S.compress hP _ (blocks_pad_ne_nil S hB hL msg) S.iv)

theorem length_take_words {α : Type} (w : Nat) (f : α → List UInt8) (hf : ∀ v, (f v).length = w) (h : Array α) (nw n : Nat)
    (hs : h.size = nw) (hn : n ≤ w * nw) : ((h.toList.flatMap f).take n).length = n := by
  rw [List.length_take, length_flatMap_const w f hf, Array.length_toList, hs]; omega

theorem md5_H_length (msg : ByteArray) : (Spec.md5.H msg).length = 16 :=
  Spec.md5.H_length (by decide) (length_leBytesN 8) (fun h : Array UInt32 => h.size = 4)
    (fun _ _ => by simp [Spec.md5, md5Block]) 16
    (fun s hs => length_take_words 4 leBytes32 (fun _ => rfl) s 4 16 hs (by decide)) msg

theorem sha32_H_length (iv : Array UInt32) (block : Array UInt32 → Array UInt32 → Array UInt32) (outLen nw : Nat)
    (hblock : ∀ h x, (block h x).size = nw) (hout : outLen ≤ 4 * nw) (msg : ByteArray) :
    ((sha32 iv block outLen).H msg).length = outLen :=
  (sha32 iv block outLen).H_length (Nat.succ_pos 63) (length_beBytesN 8) (fun h : Array UInt32 => h.size = nw)
    (fun s _ => hblock s _) outLen (fun s hs => length_take_words 4 beBytes32 (fun _ => rfl) s nw outLen hs hout) msg

theorem sha64_H_length (iv : Array UInt64) (outLen : Nat) (hout : outLen ≤ 8 * 8) (msg : ByteArray) :
    ((sha64 iv outLen).H msg).length = outLen :=
  (sha64 iv outLen).H_length (Nat.succ_pos 127) (length_beBytesN 16) (fun h : Array UInt64 => h.size = 8)
    (fun _ _ => by simp [sha64, sha512Block]) outLen
    (fun s hs => length_take_words 8 beBytes64 (fun _ => by simp [beBytes64, leBytes64]) s 8 outLen hs hout) msg

theorem H_length (t : HashType) (msg : ByteArray) : (H t msg).length = t.hashLen := by
  cases t
  · exact md5_H_length msg
  · exact sha32_H_length sha1IV sha1Block 20 5 (fun h x => by simp [sha1Block]) (by decide) msg
  · exact sha32_H_length sha224IV sha256Block 28 8 (fun h x => by simp [sha256Block]) (by decide) msg
  · exact sha32_H_length sha256IV sha256Block 32 8 (fun h x => by simp [sha256Block]) (by decide) msg
  · exact sha64_H_length sha384IV 48 (by decide) msg
  · exact sha64_H_length sha512IV 64 (by decide) msg

theorem hexOf_length (d : List UInt8) : (hexOf d).length = 2 * d.length := by
  simp only [hexOf, String.length_ofList]
  exact length_flatMap_const 2 _ (fun _ => rfl) d

theorem foldl_concat_size (chunks : List Src) (acc : ByteArray) :
    acc.size ≤ (chunks.foldl (fun a c => a ++ c.toBytes) acc).size ∧
    ∀ d ∈ chunks, d.size ≤ (chunks.foldl (fun a c => a ++ c.toBytes) acc).size := by
  induction chunks generalizing acc with
  | nil => exact ⟨Nat.le_refl _, fun d hd => absurd hd (List.not_mem_nil)⟩
  | cons c cs ih =>
    obtain ⟨h1, h2⟩ := ih (acc ++ c.toBytes)
    simp only [List.foldl_cons]
    rw [ByteArray.size_append, Src.size_toBytes] at h1
    refine ⟨by omega, ?_⟩
    intro d hd
    rcases List.mem_cons.mp hd with rfl | hd
    · omega
    · exact h2 d hd

theorem size_le_concat (chunks : List Src) (d : Src) (hd : d ∈ chunks) : d.size ≤ (Src.concat chunks).size :=
  (foldl_concat_size chunks ByteArray.empty).2 d hd

end PV.Hash
