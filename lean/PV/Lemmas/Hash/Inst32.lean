import PV.Lemmas.Hash.Stream
import PV.Model.Hash.Algs
/-! `Laws` for the three files with 32-bit words: MD5 (little-endian flavour), SHA-1 and SHA-2-224/256
    (big-endian flavour).  Everything that depends on the byte order, on the width of the counters
    and on the two length words of `finish` is here. -/
namespace PV.Hash
open Spec PV.Generated.HashMD

def kVal32 (k : UInt32 × UInt32) : Nat := k.1.toNat * 2 ^ 32 + k.2.toNat

theorem kVal32_add (k : UInt32 × UInt32) (len : Nat) (h : len < 2 ^ 64) :
    kVal32 (kAdd32 k len) = (kVal32 k + len) % 2 ^ 64 := by
  obtain ⟨hi, lo⟩ := k
  have h1 := hi.toNat_lt; have h2 := lo.toNat_lt
  simp only [kVal32, kAdd32]
  -- carry or no carry out of the low word: the same arithmetic decides both
  split
  all_goals
    rename_i hc
    rw [UInt32.lt_iff_toNat_lt] at hc
    simp only [UInt32.toNat_add, UInt32.toNat_ofNat', UInt32.toNat_ofNat, Nat.reducePow, Nat.reduceMod] at hc ⊢
    omega

theorem kLeft32 (k : UInt32 × UInt32) : (k.2 &&& UInt32.ofNat (64 - 1)).toNat = kVal32 k % 64 := by
  have := Nat.and_two_pow_sub_one_eq_mod k.2.toNat 6
  simp only [kVal32, UInt32.toNat_and, UInt32.toNat_ofNat', Nat.reducePow, Nat.reduceMod, Nat.reduceSub] at this ⊢
  rw [this]; omega

/-- the two length words of `finish` are the 64-bit bit count -/
theorem lenWords32 (k : UInt32 × UInt32) (h : 8 * kVal32 k < 2 ^ 64) :
    ((k.1 <<< 3) ||| (k.2 >>> 29)).toNat = 8 * kVal32 k / 2 ^ 32 ∧ (k.2 <<< 3).toNat = 8 * kVal32 k % 2 ^ 32 := by
  obtain ⟨hi, lo⟩ := k
  have h1 := hi.toNat_lt; have h2 := lo.toNat_lt
  simp only [kVal32] at h ⊢
  -- `lo >>> 29 < 8` fills only the three bits that `hi <<< 3` leaves empty: the `|||` is a sum
  have hor := Nat.shiftLeft_add_eq_or_of_lt (i := 3) (b := lo.toNat >>> 29)
    (by rw [Nat.shiftRight_eq_div_pow]; omega) hi.toNat
  simp only [UInt32.toNat_or, UInt32.toNat_shiftLeft, UInt32.toNat_shiftRight, UInt32.toNat_ofNat, Nat.reducePow, Nat.reduceMod]
  -- the bit count fits the length field, so `hi < 2^29` and `hi <<< 3` does not wrap
  have hs : hi.toNat <<< 3 % 4294967296 = hi.toNat <<< 3 := by
    rw [Nat.shiftLeft_eq]; omega
  rw [hs, ← hor]
  simp only [Nat.shiftLeft_eq, Nat.shiftRight_eq_div_pow, Nat.reducePow]
  omega

theorem nativeWords32_eq (b : ByteArray) : nativeWords32 b = wordsLE32 b := by
  simp [nativeWords32, wordsLE32, getW32, isBigEndian]

theorem words_congr {α : Type} {f g : Nat → α} (h : ∀ i, i < 16 → f i = g i) :
    (Array.ofFn (n := 16) fun i => f i.val) = Array.ofFn (n := 16) fun i => g i.val :=
  congrArg _ (funext fun i => h i.val i.isLt)

/-- The last block of `finish`, SHA flavour: storing the two length words natively and swapping the
    fourteen words before them gives the words of the block that ends with the length field. -/
theorem final_words_be32 (b : ByteArray) (hb : b.size = 64) (hi lo : UInt32) :
    wordsLE32 (revWords32 (setLE32 (setLE32 b 14 hi) 15 lo) 14) =
      wordsBE32 (b.extract 0 56 ++ ((beBytes32 hi).toByteArray ++ (beBytes32 lo).toByteArray)) := by
  apply words_congr
  intro i hi16
  rw [getLE32_revWords32 _ _ _ (by simp; omega),
    fields_word getBE32_congr b _ _ (by omega) (by rw [List.size_toByteArray]; rfl) i hi16]
  split
  · rw [getBE32_setLE32_of_ne _ _ _ _ (by omega), getBE32_setLE32_of_ne _ _ _ _ (by omega)]
  · rcases (by omega : i = 14 ∨ i = 15) with rfl | rfl
    · rw [if_pos rfl, getLE32_setLE32_of_ne _ _ _ _ (by omega), getLE32_setLE32_self _ _ _ (by omega), getBE32_beBytes32]
    · rw [if_neg (by decide), getLE32_setLE32_self _ _ _ (by simp; omega), getBE32_beBytes32]

/-- … MD5 flavour: low word first, nothing swapped -/
theorem final_words_le32 (b : ByteArray) (hb : b.size = 64) (hi lo : UInt32) :
    wordsLE32 (setLE32 (setLE32 b 14 lo) 15 hi) =
      wordsLE32 (b.extract 0 56 ++ ((leBytes32 lo).toByteArray ++ (leBytes32 hi).toByteArray)) := by
  apply words_congr
  intro i hi16
  rw [fields_word getLE32_congr b _ _ (by omega) (by rw [List.size_toByteArray]; rfl) i hi16]
  split
  · rw [getLE32_setLE32_of_ne _ _ _ _ (by omega), getLE32_setLE32_of_ne _ _ _ _ (by omega)]
  · rcases (by omega : i = 14 ∨ i = 15) with rfl | rfl
    · rw [if_pos rfl, getLE32_setLE32_of_ne _ _ _ _ (by omega), getLE32_setLE32_self _ _ _ (by omega), getLE32_leBytes32]
    · rw [if_neg (by decide), getLE32_setLE32_self _ _ _ (by simp; omega), getLE32_leBytes32]

theorem leBytes32_bswap32 (v : UInt32) : leBytes32 (bswap32 v) = beBytes32 v := by
  simp [bswap32, leBytes32_le32, beBytes32]

theorem take_swapped {α : Type} (w : Nat) (le be : α → List UInt8) (sw : α → α) (hsw : ∀ v, le (sw v) = be v)
    (hbe : ∀ v, (be v).length = w) (l : List α) (n k : Nat) (hk : k ≤ w * n) :
    (((l.take n).map sw ++ l.drop n).flatMap le).take k = (l.flatMap be).take k := by
  have h1 : ((l.take n).map sw).flatMap le = (l.take n).flatMap be := by
    rw [List.flatMap_map]; congr 1; funext v; exact hsw v
  rw [List.flatMap_append, h1]
  conv => rhs; rw [← List.take_append_drop n l, List.flatMap_append]
  by_cases hl : n ≤ l.length
  · have hlen : ((l.take n).flatMap be).length = w * n := by
      rw [length_flatMap_const w be hbe, List.length_take, Nat.min_eq_left hl]
    rw [List.take_append_of_le_length (by omega), List.take_append_of_le_length (by omega)]
  · rw [List.drop_eq_nil_of_le (by omega)]; simp

theorem out_be32 (h : Array UInt32) (n k : Nat) (hk : k ≤ 4 * n) :
    (bytesOfWords32 (swapHash32 true h n)).take k = (h.toList.flatMap beBytes32).take k := by
  simp only [bytesOfWords32, swapHash32, isBigEndian, Bool.true_bne, Bool.not_false, if_true, Bool.false_eq_true, if_false]
  exact take_swapped 4 leBytes32 beBytes32 bswap32 leBytes32_bswap32 (fun v => rfl) h.toList n k hk

theorem out_le32 (h : Array UInt32) (n k : Nat) :
    (bytesOfWords32 (swapHash32 false h n)).take k = (h.toList.flatMap leBytes32).take k := by
  simp [bytesOfWords32, swapHash32, isBigEndian]

theorem dvd64 : 64 ∣ 2 ^ 64 := ⟨2 ^ 58, by decide⟩

theorem proc_final_be32 (block : Array UInt32 → Array UInt32 → Array UInt32) (h : Array UInt32) (b : ByteArray)
    (k : UInt32 × UInt32) (hb : b.size = 64) (hbound : 8 * kVal32 k < 2 ^ 64) :
    block h (nativeWords32 (swapBytes32 true (putLen32 false k b) 14)) =
      block h (wordsBE32 (b.extract 0 56 ++ (beBytesN 8 (8 * kVal32 k)).toByteArray)) := by
  obtain ⟨w1, w2⟩ := lenWords32 k hbound
  rw [nativeWords32_eq]
  simp only [swapBytes32, putLen32, setW32, isBigEndian, Bool.true_bne, Bool.not_false, if_true, Bool.false_eq_true, if_false]
  rw [lenField_be32 _ _ _ w1 w2, List.toByteArray_append, final_words_be32 b hb]

theorem proc_final_le32 (block : Array UInt32 → Array UInt32 → Array UInt32) (h : Array UInt32) (b : ByteArray)
    (k : UInt32 × UInt32) (hb : b.size = 64) (hbound : 8 * kVal32 k < 2 ^ 64) :
    block h (nativeWords32 (swapBytes32 false (putLen32 true k b) 14)) =
      block h (wordsLE32 (b.extract 0 56 ++ (leBytesN 8 (8 * kVal32 k)).toByteArray)) := by
  obtain ⟨w1, w2⟩ := lenWords32 k hbound
  rw [nativeWords32_eq]
  simp only [swapBytes32, putLen32, setW32, isBigEndian, bne_self_eq_false, Bool.false_eq_true, if_false, if_true]
  rw [lenField_le32 _ _ _ w1 w2, List.toByteArray_append, final_words_le32 b hb]

theorem proc_swap_be32 (block : Array UInt32 → Array UInt32 → Array UInt32) (h : Array UInt32) (b : ByteArray)
    (hb : b.size = 64) : block h (nativeWords32 (swapBytes32 true b 16)) = block h (wordsBE32 b) := by
  rw [nativeWords32_eq]
  simp only [swapBytes32, isBigEndian, Bool.true_bne, Bool.not_false, if_true]
  exact congrArg _ (words_congr fun i hi => by rw [getLE32_revWords32 _ _ _ (by omega), if_pos hi])

theorem proc_swap_le32 (block : Array UInt32 → Array UInt32 → Array UInt32) (h : Array UInt32) (b : ByteArray) :
    block h (nativeWords32 (swapBytes32 false b 16)) = block h (wordsLE32 b) := by
  rw [nativeWords32_eq]; simp [swapBytes32, isBigEndian]

theorem size_swapBytes32 (s : Bool) (b : ByteArray) (n : Nat) : (swapBytes32 s b n).size = b.size := by
  unfold swapBytes32; split <;> simp

/-- SHA-1 / SHA-2-224/256: big-endian words, `swap_bytes` active, `buf_w[14] = high` -/
def lawsBE32 (pad : ByteArray) (iv : Array UInt32) (outWords hashLen : Nat)
    (block : Array UInt32 → Array UInt32 → Array UInt32)
    (hpad : pad = [0x80].toByteArray ++ zeroBytes 63) (hk : hashLen ≤ 4 * outWords) :
    Laws (alg32 64 true false pad iv outWords block) where
  compress := fun h b => block h (wordsBE32 b)
  encLen := fun bits => beBytesN 8 bits
  out := fun h => (h.toList.flatMap beBytes32).take hashLen
  hashLen := hashLen
  kVal := kVal32
  M := 2 ^ 64
  hB := Or.inl rfl
  hM := dvd64
  swap_size := size_swapBytes32 true
  proc_swap := by
    intro h b hb
    dsimp only [alg32] at h hb ⊢
    exact proc_swap_be32 block h b hb
  kLeft_eq := kLeft32
  kVal_k0 := by show kVal32 (0, 0) = 0; simp [kVal32]
  kVal_add := kVal32_add
  encLen_length := by intro bits; simp [Alg.L, alg32, length_beBytesN]
  proc_final := by
    intro h b k hb hbound
    have hL : (alg32 64 true false pad iv outWords block).B - (alg32 64 true false pad iv outWords block).L = 56 := by
      simp [Alg.L, alg32]
    rw [hL]
    dsimp only [alg32] at h k hb hbound ⊢
    exact proc_final_be32 block h b k hb hbound
  pad_eq := hpad
  out_eq := fun h => out_be32 h outWords hashLen hk

/-- MD5: little-endian words, `swap_bytes` is the identity here, `buf_w[14] = low` -/
def lawsLE32 (pad : ByteArray) (iv : Array UInt32) (outWords hashLen : Nat)
    (block : Array UInt32 → Array UInt32 → Array UInt32)
    (hpad : pad = [0x80].toByteArray ++ zeroBytes 63) :
    Laws (alg32 64 false true pad iv outWords block) where
  compress := fun h b => block h (wordsLE32 b)
  encLen := fun bits => leBytesN 8 bits
  out := fun h => (h.toList.flatMap leBytes32).take hashLen
  hashLen := hashLen
  kVal := kVal32
  M := 2 ^ 64
  hB := Or.inl rfl
  hM := dvd64
  swap_size := size_swapBytes32 false
  proc_swap := fun h b _ => proc_swap_le32 block h b
  kLeft_eq := kLeft32
  kVal_k0 := by show kVal32 (0, 0) = 0; simp [kVal32]
  kVal_add := kVal32_add
  encLen_length := by intro bits; simp [Alg.L, alg32, length_leBytesN]
  proc_final := by
    intro h b k hb hbound
    have hL : (alg32 64 false true pad iv outWords block).B - (alg32 64 false true pad iv outWords block).L = 56 := by
      simp [Alg.L, alg32]
    rw [hL]
    dsimp only [alg32] at h k hb hbound ⊢
    exact proc_final_le32 block h b k hb hbound
  pad_eq := hpad
  out_eq := fun h => out_le32 h outWords hashLen

theorem md5Pad_eq : md5Pad = [0x80].toByteArray ++ zeroBytes 63 := by
  apply ByteArray.ext; simp [md5Pad, zeroBytes, ByteArray.data_append, List.data_toByteArray]
theorem sha1Pad_eq : sha1Pad = [0x80].toByteArray ++ zeroBytes 63 := by
  apply ByteArray.ext; simp [sha1Pad, zeroBytes, ByteArray.data_append, List.data_toByteArray]
theorem sha256Pad_eq : sha256Pad = [0x80].toByteArray ++ zeroBytes 63 := by
  apply ByteArray.ext; simp [sha256Pad, zeroBytes, ByteArray.data_append, List.data_toByteArray]

def lawsMD5 : Laws md5 := lawsLE32 md5Pad md5IV md5OutWords 16 md5Block md5Pad_eq
def lawsSHA1 : Laws sha1 := lawsBE32 sha1Pad sha1IV sha1OutWords 20 sha1Block sha1Pad_eq (by decide)
def lawsSHA224 : Laws sha224 := lawsBE32 sha256Pad sha224IV sha224OutWords 28 sha256Block sha256Pad_eq (by decide)
def lawsSHA256 : Laws sha256 := lawsBE32 sha256Pad sha256IV sha256OutWords 32 sha256Block sha256Pad_eq (by decide)

theorem lawsMD5_spec : lawsMD5.spec = Spec.md5 := rfl
theorem lawsSHA1_spec : lawsSHA1.spec = Spec.sha1 := rfl
theorem lawsSHA224_spec : lawsSHA224.spec = Spec.sha224 := rfl
theorem lawsSHA256_spec : lawsSHA256.spec = Spec.sha256 := rfl

end PV.Hash
