import PV.Lemmas.Atomics
/-! The lock machines of `PV.Model.Locks` for any record satisfying `SpinGood` / `MutexGood`;
`PV.Props.C01` instantiates with the generated records. -/
namespace PV.Locks
open PV.Atomics

theorem afterCas_false {p : SpinImpl} (g : SpinGood p) : afterCas p false = .spin := by
  simp [afterCas, g.loop]

theorem afterCas_true {p : SpinImpl} (g : SpinGood p) : afterCas p true = .held := by
  simp [afterCas, g.loop, g.lockRet]

theorem cas_outcome {i : AtomicImpl} (h0 : interp i 0#32 0 0 = some (1#32, Ret.bool true))
    (hN : ∀ w : BitVec 32, w ≠ 0#32 → interp i w 0 0 = some (w, Ret.bool false)) {w w' : W32} {b : Bool}
    (hc : interp i w 0 0 = some (w', Ret.bool b)) : (w = 0 ∧ w' = 1 ∧ b = true) ∨ (w ≠ 0 ∧ w' = w ∧ b = false) := by
  by_cases hw : w = 0#32
  · rw [hw, h0] at hc; cases hc; exact .inl ⟨hw, rfl, rfl⟩
  · rw [hN w hw] at hc; cases hc; exact .inr ⟨hw, rfl, rfl⟩

/-- The test-and-set lock that a record satisfying `SpinGood` denotes: `SStep` with its `interp` calls
    evaluated.  `SpinGood` allows a weak CAS in the lock loop, so `casFail` says nothing about the word. -/
inductive TasStep (rogue : Bool) : SState → Lbl → SState → Prop
  | callLock (s : SState) (t : Tid) : s.pc t = .idle → TasStep rogue s (.callLock t) ⟨s.word, upd s.pc t .spin⟩
  | casOk (s : SState) (t : Tid) : s.pc t = .spin → s.word = 0 → TasStep rogue s (.cas t true) ⟨1, upd s.pc t .held⟩
  | casFail (s : SState) (t : Tid) : s.pc t = .spin → TasStep rogue s (.cas t false) ⟨s.word, upd s.pc t .spin⟩
  | tryOk (s : SState) (t : Tid) : s.pc t = .idle → s.word = 0 → TasStep rogue s (.try_ t true) ⟨1, upd s.pc t .held⟩
  | tryFail (s : SState) (t : Tid) : s.pc t = .idle → s.word ≠ 0 → TasStep rogue s (.try_ t false) ⟨s.word, upd s.pc t .idle⟩
  | unlock (s : SState) (t : Tid) : s.pc t = .held → TasStep rogue s (.unlock t) ⟨0, upd s.pc t .idle⟩
  | rogueUnlock (s : SState) (t : Tid) : rogue = true → TasStep rogue s (.rogueUnlock t) ⟨0, s.pc⟩

theorem SStep.tas {p : SpinImpl} {rogue : Bool} {s s' : SState} {l : Lbl} (g : SpinGood p)
    (st : SStep p rogue s l s') : TasStep rogue s l s' := by
  cases st with
  | callLock t h => exact .callLock s t h
  | cas t w' b h hc =>
    obtain ⟨hw, rfl, rfl⟩ | ⟨_, rfl, rfl⟩ := cas_outcome g.lockCas0 g.lockCasN hc
    · rw [afterCas_true g]; exact .casOk s t h hw
    · rw [afterCas_false g]; exact .casFail s t h
  | casSpurious t h _ => rw [afterCas_false g]; exact .casFail s t h
  | try_ t w' b h hc =>
    obtain ⟨hw, rfl, rfl⟩ | ⟨hw, rfl, rfl⟩ := cas_outcome g.tryCas0 g.tryCasN hc
    · exact .tryOk s t h hw
    · exact .tryFail s t h hw
  | trySpurious t h hweak => exact absurd hweak g.tryStrong
  | unlock t w' h hc => rw [g.unlock] at hc; cases hc; exact .unlock s t h
  | rogueUnlock t w' hr _ hc => rw [g.unlock] at hc; cases hc; exact .rogueUnlock s t hr

structure SInv (s : SState) : Prop where
  heldWord : ∀ t, s.pc t = .held → s.word = 1
  uniq : ∀ t u, s.pc t = .held → s.pc u = .held → t = u
  freeWord : (∀ t, s.pc t ≠ .held) → s.word = 0

theorem SInv.acquire {s : SState} (inv : SInv s) (t : Tid) (hw : s.word = 0) : SInv ⟨1, upd s.pc t .held⟩ := by
  have only : ∀ u, upd s.pc t .held u = .held → u = t := fun u hu =>
    (upd_eq_iff.1 hu).elim (·.1) fun h => absurd ((inv.heldWord u h.2).symm.trans hw) (one_ne_zero (by decide))
  exact ⟨fun _ _ => rfl, fun a b ha hb => (only a ha).trans (only b hb).symm, fun h => absurd (upd_same _ _ _) (h t)⟩

theorem SInv.neutral {s : SState} (inv : SInv s) (t : Tid) {x : PC} (hx : x ≠ .held) (ht : s.pc t ≠ .held) :
    SInv ⟨s.word, upd s.pc t x⟩ := by
  have same : ∀ u, upd s.pc t x u = .held ↔ s.pc u = .held := by
    intro u; by_cases hu : u = t
    · subst hu; simp [upd, hx, ht]
    · simp [upd, hu]
  exact ⟨fun u hu => inv.heldWord u ((same u).1 hu), fun a b ha hb => inv.uniq a b ((same a).1 ha) ((same b).1 hb),
    fun h => inv.freeWord fun u hu => h u ((same u).2 hu)⟩

theorem SInv.release {s : SState} (inv : SInv s) (t : Tid) (ht : s.pc t = .held) : SInv ⟨0, upd s.pc t .idle⟩ := by
  have nobody : ∀ u, upd s.pc t .idle u ≠ .held := fun u hu =>
    (upd_eq_iff.1 hu).elim (fun h => nomatch h.2) fun h => h.1 (inv.uniq u t h.2 ht)
  exact ⟨fun u hu => absurd hu (nobody u), fun a _ ha => absurd ha (nobody a), fun _ => rfl⟩

theorem SInv.step {s s' : SState} {l : Lbl} (inv : SInv s) (st : TasStep false s l s') : SInv s' := by
  cases st with
  | callLock t h => exact inv.neutral t (by decide) (by rw [h]; decide)
  | casOk t _ hw => exact inv.acquire t hw
  | casFail t h => exact inv.neutral t (by decide) (by rw [h]; decide)
  | tryOk t _ hw => exact inv.acquire t hw
  | tryFail t h _ => exact inv.neutral t (by decide) (by rw [h]; decide)
  | unlock t h => exact inv.release t h
  | rogueUnlock t hr => cases hr

theorem sInv_reach {p : SpinImpl} {s : SState} (g : SpinGood p) (r : SReach p false s) : SInv s := by
  induction r with
  | init => exact ⟨fun _ h => (nomatch h), fun _ _ h => (nomatch h), fun _ => rfl⟩
  | step _ st ih => exact ih.step (st.tas g)

/-- mutual exclusion, any number of threads, any interleaving of lock / trylock / unlock -/
theorem spin_excl {p : SpinImpl} {s : SState} (g : SpinGood p) (r : SReach p false s) (t u : Tid)
    (ht : s.holds t) (hu : s.holds u) : t = u :=
  (sInv_reach g r).uniq t u ht hu

/-- a trylock call is always enabled and is over after one step (it never waits) -/
theorem spin_try_enabled {p : SpinImpl} (g : SpinGood p) (rogue : Bool) (s : SState) (t : Tid)
    (h : s.pc t = .idle) : ∃ b s', SStep p rogue s (.try_ t b) s' ∧ s'.pc t ≠ .spin ∧ (s'.holds t ↔ b = true) := by
  by_cases hw : s.word = 0#32
  · exact ⟨true, _, .try_ s t 1#32 true h (by rw [hw, g.tryCas0]), by simp, by simp [SState.holds]⟩
  · exact ⟨false, _, .try_ s t s.word false h (by rw [g.tryCasN _ hw]), by simp, by simp [SState.holds]⟩

theorem spin_try_free {p : SpinImpl} {s s' : SState} (g : SpinGood p) (r : SReach p false s) (t : Tid) (b : Bool)
    (free : ∀ u, ¬ s.holds u) (st : SStep p false s (.try_ t b) s') : b = true ∧ s'.holds t := by
  cases st.tas g with
  | tryOk => exact ⟨rfl, upd_same _ _ _⟩
  | tryFail _ _ hw => exact absurd ((sInv_reach g r).freeWord free) hw

theorem spin_try_false_iff_held {p : SpinImpl} {s s' : SState} (g : SpinGood p) (r : SReach p false s) (t : Tid) (b : Bool)
    (st : SStep p false s (.try_ t b) s') : b = false ↔ ∃ u, s.holds u := by
  have inv := sInv_reach g r
  cases st.tas g with
  | tryOk _ _ hw =>
    exact iff_of_false Bool.noConfusion fun ⟨u, hu⟩ => one_ne_zero (by decide) ((inv.heldWord u hu).symm.trans hw)
  | tryFail _ _ hw =>
    exact iff_of_true rfl (Classical.byContradiction fun hn => hw (inv.freeWord fun u hu => hn ⟨u, hu⟩))

/-- the only way out of the spin loop into "lock returned" is a successful CAS 0 → 1 -/
theorem spin_exit_only_by_cas_ok {p : SpinImpl} {rogue : Bool} {s s' : SState} {l : Lbl} (g : SpinGood p) (t : Tid)
    (st : SStep p rogue s l s') (h0 : s.pc t = .spin) (h1 : s'.pc t = .held) :
    l = .cas t true ∧ s.word = 0#32 ∧ s'.word = 1#32 := by
  have own : ∀ {u x}, upd s.pc u x t = .held → t = u ∧ x = .held := fun h =>
    (upd_eq_iff.1 h).elim id fun h => nomatch h0.symm.trans h.2
  cases st.tas g with
  | casOk u _ hw => obtain ⟨rfl, _⟩ := own h1; exact ⟨rfl, hw, rfl⟩
  | tryOk u h _ => obtain ⟨rfl, _⟩ := own h1; exact nomatch h0.symm.trans h
  | callLock u _ => exact nomatch (own h1).2
  | casFail u _ => exact nomatch (own h1).2
  | tryFail u _ _ => exact nomatch (own h1).2
  | unlock u _ => exact nomatch (own h1).2
  | rogueUnlock u _ => exact nomatch h0.symm.trans h1

theorem sReachG_reach {p : SpinImpl} {s : SState} {lw : Option Lbl} (r : SReachG p s lw) : SReach p false s := by
  induction r with
  | init => exact .init
  | step _ st ih => exact .step ih st

/-- the ghost of `SReachG` is an acquisition exactly while the word is 1 -/
theorem lastWrite_inv {p : SpinImpl} {s : SState} (g : SpinGood p) {lw : Option Lbl} (r : SReachG p s lw) :
    (lw = none ∨ ∃ u, lw = some (.unlock u)) ∨ (s.word = 1#32 ∧ ∃ u, lw = some (.cas u true) ∨ lw = some (.try_ u true)) := by
  induction r with
  | init => exact .inl (.inl rfl)
  | step _ st ih =>
    cases st.tas g with
    | callLock t _ => exact ih
    | casOk t _ _ => exact .inr ⟨rfl, t, .inl rfl⟩
    | casFail t _ => exact ih
    | tryOk t _ _ => exact .inr ⟨rfl, t, .inr rfl⟩
    | tryFail t _ _ => exact ih
    | unlock t _ => exact .inl (.inr ⟨t, rfl⟩)
    | rogueUnlock t hr => cases hr

/-- a successful acquisition (spin-loop CAS or trylock) reads the most recent unlock store or the initial zero -/
theorem acquire_reads_release {p : SpinImpl} {s s' : SState} {l : Lbl} {lw : Option Lbl} (g : SpinGood p)
    (r : SReachG p s lw) (st : SStep p false s l s') (hl : (∃ t, l = .cas t true) ∨ (∃ t, l = .try_ t true)) :
    lw = none ∨ ∃ u, lw = some (.unlock u) := by
  refine (lastWrite_inv g r).resolve_right fun ⟨hw, _⟩ => ?_
  have free : s.word = 0 := by
    obtain ⟨t, rfl⟩ | ⟨t, rfl⟩ := hl <;> cases st.tas g <;> assumption
  exact one_ne_zero (by decide) (hw.symm.trans free)

theorem native_inv {eb : Int} (heb : eb ≠ 0) {k : NativeFn} {o o' : Option Tid} {t : Tid} {c : Int}
    (h : Native eb k o t c o') :
    (c ≠ 0 ∧ o' = o) ∨ (c = 0 ∧ k ≠ .unlock ∧ o = none ∧ o' = some t) ∨ (c = 0 ∧ k = .unlock ∧ o = some t ∧ o' = none) := by
  cases h with
  | lockAcquire => exact .inr (.inl ⟨rfl, nofun, rfl, rfl⟩)
  | lockFail _ _ _ h => exact .inl ⟨h, rfl⟩
  | tryAcquire => exact .inr (.inl ⟨rfl, nofun, rfl, rfl⟩)
  | tryBusy => exact .inl ⟨heb, rfl⟩
  | tryFail _ _ _ h => exact .inl ⟨h, rfl⟩
  | unlockRelease => exact .inr (.inr ⟨rfl, rfl, rfl, rfl⟩)
  | unlockFail _ _ _ h => exact .inl ⟨h, rfl⟩

theorem MStep.native {eb : Int} {m : MutexImpl} {s s' : MState} (g : MutexGood m) {l : MLbl} (st : MStep eb m s l s') :
    ∃ k t c, Native eb k s.owner t c s'.owner ∧ s'.pc = upd s.pc t (if k ≠ .unlock ∧ c = 0 then .held else .idle) := by
  cases st with
  | lock t c o' k _ hk hn =>
    rw [g.lockNative] at hk; cases hk
    exact ⟨_, t, c, hn, by simp [← g.lockRet c]⟩
  | try_ t c o' k _ hk hn =>
    rw [g.tryNative] at hk; cases hk
    exact ⟨_, t, c, hn, by simp [← g.tryRet c]⟩
  | unlock t c o' k _ hk hn =>
    rw [g.unlockNative] at hk; cases hk
    exact ⟨_, t, c, hn, by simp⟩

theorem mutex_inv {eb : Int} {m : MutexImpl} {s : MState} (heb : eb ≠ 0) (g : MutexGood m) (r : MReach eb m s) :
    ∀ t, s.pc t = .held → s.owner = some t := by
  induction r with
  | init => exact fun _ h => nomatch h
  | step _ st ih =>
    obtain ⟨k, t, c, hn, hpc⟩ := st.native g
    intro u hu
    rw [hpc, upd_eq_iff] at hu
    rcases native_inv heb hn with ⟨hc, ho⟩ | ⟨hc, hk, ho, ho'⟩ | ⟨_, hk, ho, ho'⟩
    · rw [ho]
      exact ih u (hu.elim (fun h => by simp [hc] at h) (·.2))
    · rw [ho']
      exact hu.elim (fun h => by rw [h.1]) fun h => nomatch ho.symm.trans (ih u h.2)
    · exact hu.elim (fun h => by simp [hk] at h) fun h => absurd (Option.some.inj ((ih u h.2).symm.trans ho)) h.1

theorem mutex_excl {eb : Int} {m : MutexImpl} {s : MState} (heb : eb ≠ 0) (g : MutexGood m) (r : MReach eb m s) (t u : Tid)
    (ht : s.holds t) (hu : s.holds u) : t = u :=
  Option.some.inj ((mutex_inv heb g r t ht).symm.trans (mutex_inv heb g r u hu))

theorem mutex_try_enabled {eb : Int} {m : MutexImpl} (g : MutexGood m) (s : MState) (t : Tid) (h : s.pc t = .idle) :
    ∃ c s', MStep eb m s (.try_ t c (m.trylock.ret c)) s' := by
  cases ho : s.owner with
  | none => exact ⟨0, _, .try_ s t 0 (some t) .trylock h g.tryNative (by rw [ho]; exact .tryAcquire t)⟩
  | some u => exact ⟨eb, _, .try_ s t eb (some u) .trylock h g.tryNative (by rw [ho]; exact .tryBusy u t)⟩

theorem mutex_try_free {eb : Int} {m : MutexImpl} {s s' : MState} (g : MutexGood m) (t : Tid) (c : Int) (b : Bool)
    (free : s.owner = none) (valid : c = 0 ∨ c = eb) (st : MStep eb m s (.try_ t c b) s') : b = true ∧ s'.holds t := by
  cases st with
  | try_ _ _ o' k _ hk hn =>
    rw [g.tryNative] at hk; cases hk
    -- a failure code equal to EBUSY on a free mutex is not a behaviour of `Native`
    have hc : c = 0 := by
      rw [free] at hn
      cases hn with
      | tryAcquire => rfl
      | tryFail _ _ _ h0 hb => exact valid.elim (absurd · h0) (absurd · hb)
    have hr := (g.tryRet c).2 hc
    exact ⟨hr, by simp [MState.holds, hr]⟩

theorem mutex_lock_true {eb : Int} {m : MutexImpl} {s s' : MState} (g : MutexGood m) {t : Tid} {c : Int} {b : Bool}
    (st : MStep eb m s (.lock t c b) s') (hb : b = true) : c = 0 ∧ s.owner = none ∧ s'.owner = some t := by
  cases st with
  | lock _ _ o' k _ hk hn =>
    rw [g.lockNative] at hk; cases hk
    have hc := (g.lockRet c).1 hb
    generalize s.owner = o at hn
    cases hn with
    | lockAcquire => exact ⟨rfl, rfl, rfl⟩
    | lockFail _ _ _ h0 => exact absurd hc h0

theorem psReach_proj {p : SpinImpl} {f : Nat → SState} (r : PSReach p f) (i : Nat) : SReach p false (f i) := by
  induction r generalizing i with
  | init => exact .init
  | step _ st ih =>
    cases st with
    | on j l s' h =>
      by_cases hij : i = j
      · subst hij; simp only [updObj, if_true]; exact .step (ih i) h
      · simp only [updObj, hij, if_false]; exact ih i

theorem pmReach_proj {eb : Int} {m : MutexImpl} {f : Nat → MState} (r : PMReach eb m f) (i : Nat) : MReach eb m (f i) := by
  induction r generalizing i with
  | init => exact .init
  | step _ st ih =>
    cases st with
    | on j l s' h =>
      by_cases hij : i = j
      · subst hij; simp only [updObj, if_true]; exact .step (ih i) h
      · simp only [updObj, hij, if_false]; exact ih i

theorem psStep_frame {p : SpinImpl} {f g : Nat → SState} (st : PSStep p f g) :
    ∃ i, ∀ j, j ≠ i → g j = f j := by
  cases st with
  | on i l s' h => exact ⟨i, fun j hj => upd_other f i j s' hj⟩

theorem pmStep_frame {eb : Int} {m : MutexImpl} {f g : Nat → MState} (st : PMStep eb m f g) :
    ∃ i, ∀ j, j ≠ i → g j = f j := by
  cases st with
  | on i l s' h => exact ⟨i, fun j hj => upd_other f i j s' hj⟩

end PV.Locks
