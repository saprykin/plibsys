import PV.Lemmas.IPCMap
import PV.Lemmas.IPCSeq
/-!
`KeyInv k s L` — "the segment of name `k` exists": the name is bound to object `s` of `L ≠ 0` bytes,
every live PShm handle of `k` is mapped to `s` (shared, writable unless read-only, reported size ≤ L),
every `p_shm_new (k)` in flight is a follower that has so far only seen `s`, and nobody is about to
`ftruncate` `s`.  Together with `MapInv` it is preserved by EVERY action of every schedule that
contains no `shm_unlink (k)` — the follower's own system calls may interleave arbitrarily with
those of other threads and processes.

`SegWF` — object ids bound to names or held by descriptors, and the descriptors of `p_shm_new` calls in
flight, lie below the allocation counters.  It is what establishes `KeyInv` at a first creation
(`keyInv_after_creation`): a descriptor somebody is about to `ftruncate` is an old one, so it cannot refer
to the object just created.
-/
namespace PV.IPC
open PV.Generated.IPC

/-- the mapping at address `a` of process `p`, if there is one, is a shared mapping of object `s`,
    writable unless the handle is read-only -/
def GoodMap (g : G) (s : SegId) (p : Pid) (a : Nat) (ro : Bool) : Prop :=
  ∀ m ∈ (g.os.procs p).maps, m.addr = a → m.seg = s ∧ m.shared = true ∧ (ro = false → m.writable = true)

/-- descriptor `fd` of process `p` was handed out, and as long as it is open it refers to object `s` -/
def FdOf (g : G) (s : SegId) (p : Pid) (fd : Nat) : Prop :=
  fd < (g.os.procs p).nextFd ∧ ∀ s', lookupFd (g.os.procs p) fd = some s' → s' = s

/-- descriptor `fd` of process `p` was handed out and does NOT refer to object `s` -/
def FdNot (g : G) (s : SegId) (p : Pid) (fd : Nat) : Prop :=
  fd < (g.os.procs p).nextFd ∧ ∀ s', lookupFd (g.os.procs p) fd = some s' → s' ≠ s

/-- a `p_shm_new (k)` in flight is a follower that has only seen object `s` so far -/
def FollowerOK (g : G) (s : SegId) (L : Nat) (p : Pid) (st : ShmNewSt) : Prop :=
  st.created = false ∧
  match st.pc with
  | .excl | .open | .fClose _ _ | .fUnlink _ => True
  | .fstat fd => FdOf g s p fd
  | .ftrunc _ => False
  | .mmap fd => FdOf g s p fd ∧ st.size = repSize st.req L
  | .close _ | .sem _ | .fMunmap _ => st.size ≤ L ∧ ∀ a, st.addr = some a → GoodMap g s p a st.ro

structure KeyInv (k : ShmKey) (s : SegId) (L : Nat) (g : G) : Prop where
  bound : g.os.shmNames k = some s
  len : (g.os.segs s).bytes.length = L
  pos : L ≠ 0
  segLt : s < g.os.nextSeg
  /-- every live handle of `k` reports at most `L` bytes and is mapped to `s` -/
  handles : ∀ h p y, g.hs h = some (p, .shm y) → y.key = k → y.size ≤ L ∧ GoodMap g s p y.addr y.ro
  flight : ∀ t hid st, g.calls t = some (.shmNew hid st) → st.key = k → FollowerOK g s L (g.pidOf t) st
  /-- nobody (of any name) is about to `ftruncate` `s` -/
  noTrunc : ∀ t hid st fd, g.calls t = some (.shmNew hid st) → st.pc = .ftrunc fd → FdNot g s (g.pidOf t) fd

variable {g : G} {t : Tid} {c : Call} {os' : OS} {r : Res} {s : SegId} {L : Nat} {k : ShmKey}

/-- under `MapInv`, a mapping found after `advance` at an address handed out before was there before -/
theorem maps_advance (hM : MapInv g) (hc : g.calls t = some c) (hE : SysEffect (g.pidOf t) g.os c.next os' r)
    {p : Pid} {m : Mapping} (hm : m ∈ (os'.procs p).maps) (ha : m.addr < (g.os.procs p).nextAddr) :
    m ∈ (g.os.procs p).maps := by
  by_cases hp : p = g.pidOf t
  · subst hp
    have frame := hE.maps_frame
    generalize hcn : c.next = cn at hE frame
    cases hE with
    | mapped fd len prot fl s0 =>
      simp only [OS.addMap, OS.setProc, if_true, List.mem_cons] at hm
      rcases hm with rfl | hm
      · exact absurd ha (Nat.lt_irrefl _)
      · exact hm
    | unmapped a len =>
      simp only [OS.setProc, if_true] at hm
      rw [(hM.claims.munmap_exact (claim_of_next_munmap hM hc hcn).1).2.1] at hm
      exact (List.mem_filter.mp hm).1
    | fails => exact hm
    | _ => rw [(frame nofun nofun _).1] at hm; exact hm
  · rwa [hE.procs_other p hp] at hm

theorem goodMap_advance (hM : MapInv g) (hc : g.calls t = some c) (hE : SysEffect (g.pidOf t) g.os c.next os' r)
    {p : Pid} {a : Nat} {ro : Bool} (ha : a < (g.os.procs p).nextAddr) (h : GoodMap g s p a ro) :
    GoodMap (g.advance t c os' r) s p a ro :=
  fun m hm hma => h m (maps_advance hM hc hE hm (hma ▸ ha)) hma

/-- a descriptor already handed out keeps whatever holds of the object it refers to (`FdOf`: it is `s`; `FdNot`: it is not `s`) -/
theorem fd_advance (hE : SysEffect (g.pidOf t) g.os c.next os' r) {p : Pid} {fd : Nat} {Q : SegId → Prop}
    (h : fd < (g.os.procs p).nextFd ∧ ∀ s', lookupFd (g.os.procs p) fd = some s' → Q s') :
    fd < ((g.advance t c os' r).os.procs p).nextFd ∧ ∀ s', lookupFd ((g.advance t c os' r).os.procs p) fd = some s' → Q s' :=
  ⟨Nat.lt_of_lt_of_le h.1 (hE.nextFd_le p), fun s' hs' => h.2 s' (hE.lookup_stable h.1 hs')⟩

theorem claim_lt (hM : MapInv g) {cl : Claimant} {p : Pid} {a l : Nat} (h : claimOf g cl = some (p, a, l)) :
    a < (g.os.procs p).nextAddr := by
  obtain ⟨_, m, hm, hma, _⟩ := hM.claims.valid _ _ _ _ h
  rw [← hma]; exact hM.claims.fresh _ m hm

theorem shmNew_addr_lt (hM : MapInv g) {hid : Hid} {st : ShmNewSt} (hc : g.calls t = some (.shmNew hid st))
    (hnu : ∀ e, st.pc ≠ .fUnlink e) {a : Nat} (ha : st.addr = some a) : a < (g.os.procs (g.pidOf t)).nextAddr := by
  refine claim_lt hM (cl := .inr t) (l := st.size) ?_
  simp only [claimOf, tClaim, hc, Call.claim, ha, Option.map_some]

theorem followerOK_next {hid : Hid} {st st' : ShmNewSt} (hM : MapInv g) (hK : KeyInv st.key s L g)
    (hc : g.calls t = some (.shmNew hid st)) (hE : SysEffect (g.pidOf t) g.os st.next os' r) (hn : st.Next r st') :
    FollowerOK (g.advance t (.shmNew hid st) os' r) s L (g.pidOf t) st' := by
  have hwf := hM.newwf t hid st hc
  obtain ⟨hcr, hF⟩ := hK.flight t hid st hc rfl
  have hEc : SysEffect (g.pidOf t) g.os (Call.shmNew hid st).next os' r := hE
  -- a mapping the call holds stays good
  have keepMap : (st.size ≤ L ∧ ∀ a, st.addr = some a → GoodMap g s (g.pidOf t) a st.ro) → (∀ e, st.pc ≠ .fUnlink e) →
      st.size ≤ L ∧ ∀ a, st.addr = some a → GoodMap (g.advance t (.shmNew hid st) os' r) s (g.pidOf t) a st.ro :=
    fun h hnu => ⟨h.1, fun a ha => goodMap_advance hM hc hEc (shmNew_addr_lt hM hc hnu ha) (h.2 a ha)⟩
  cases hn with
  | retry hpc => rcases hpc with hpc | hpc <;> exact ⟨hcr, by rw [hpc]; trivial⟩
  | found hpc => exact ⟨hcr, trivial⟩
  | failed fd e hpc => exact ⟨hcr, trivial⟩
  | unlink e r hpc _ => exact ⟨hcr, trivial⟩
  | truncated fd v hpc => rw [hpc] at hF; exact hF.elim
  | created fd hpc =>
    -- the exclusive `shm_open` cannot succeed: the name is bound
    rw [show st.next = .shmOpen st.key shmOpen1Flags shmOpen1Mode by simp only [ShmNewSt.next, hpc]] at hE
    cases hE with
    | shmOpened _ _ _ _ _ hx => rw [shmExcl1] at hx; cases hx
    | shmCreated _ _ _ hn => rw [hK.bound] at hn; cases hn
  | opened fd hpc =>
    rw [show st.next = .shmOpen st.key shmOpen2Flags shmOpen2Mode by simp only [ShmNewSt.next, hpc]] at hE
    cases hE with
    | shmOpened _ _ _ s0 hk0 _ =>
      rw [hK.bound] at hk0; cases hk0
      exact ⟨hcr, by simp [FdOf, advance_os, OS.openFd, OS.setProc, lookupFd]⟩
    | shmCreated _ _ _ hn => rw [hK.bound] at hn; cases hn
  | sized fd n hpc =>
    rw [hpc] at hF
    have hfd := fd_advance (c := .shmNew hid st) hEc hF
    have hsz : st.size = st.req := by have := hwf.2.1; rwa [hpc] at this
    rw [show st.next = .fstat fd by simp only [ShmNewSt.next, hpc]] at hE
    cases hE with
    | fstat _ s0 hl =>
      cases hF.2 s0 hl
      exact ⟨hcr, hfd, by simp only [hsz, existingSize_eq, hK.len]⟩
  | mapped fd a hpc =>
    rw [hpc] at hF
    rw [show st.next = .mmap fd st.size (if st.ro then shmMmapProtRO else shmMmapProtRW) shmMmapFlags by
      simp only [ShmNewSt.next, hpc]] at hE
    cases hE with
    | mapped _ _ _ _ s0 hl _ =>
      cases hF.1.2 s0 hl
      refine ⟨hcr, by rw [hF.2]; exact repSize_le _ _, fun a' ha' m hm hma => ?_⟩
      cases ha'
      simp only [advance_os, OS.addMap, OS.setProc, if_true, List.mem_cons] at hm
      rcases hm with rfl | hm
      · exact ⟨rfl, mapShared, fun hro => by rw [hro]; exact rwWritable⟩
      · exact absurd hma (Nat.ne_of_lt (hM.claims.fresh _ m hm))
  | closed fd r hpc => rw [hpc] at hF; exact ⟨hcr, keepMap hF (by rw [hpc]; exact nofun)⟩
  | sem s0 s1 r hpc _ => rw [hpc] at hF; exact ⟨hcr, keepMap hF (by rw [hpc]; exact nofun)⟩
  | unmap e r hpc ha =>
    rcases hpc with ⟨s0, hpc⟩ | ⟨fd, hpc⟩
    · rw [hpc] at hF; exact ⟨hcr, keepMap hF (by rw [hpc]; exact nofun)⟩
    · have := hwf.2.2; rw [hpc] at this; rw [this] at ha; cases ha

theorem followerOK_other {t' : Tid} {hid : Hid} {st : ShmNewSt} (hM : MapInv g) (hc : g.calls t = some c)
    (hE : SysEffect (g.pidOf t) g.os c.next os' r) (hc' : g.calls t' = some (.shmNew hid st))
    (h : FollowerOK g s L (g.pidOf t') st) : FollowerOK (g.advance t c os' r) s L (g.pidOf t') st := by
  obtain ⟨h1, h2⟩ := h
  refine ⟨h1, ?_⟩
  have keepMap : (st.size ≤ L ∧ ∀ a, st.addr = some a → GoodMap g s (g.pidOf t') a st.ro) → (∀ e, st.pc ≠ .fUnlink e) →
      st.size ≤ L ∧ ∀ a, st.addr = some a → GoodMap (g.advance t c os' r) s (g.pidOf t') a st.ro :=
    fun h hnu => ⟨h.1, fun a ha => goodMap_advance hM hc hE (shmNew_addr_lt hM hc' hnu ha) (h.2 a ha)⟩
  cases hpc : st.pc with
  | fstat fd => rw [hpc] at h2; exact fd_advance hE h2
  | mmap fd => rw [hpc] at h2; exact ⟨fd_advance hE h2.1, h2.2⟩
  | close fd => rw [hpc] at h2; exact keepMap h2 (by rw [hpc]; exact nofun)
  | sem s0 => rw [hpc] at h2; exact keepMap h2 (by rw [hpc]; exact nofun)
  | fMunmap e => rw [hpc] at h2; exact keepMap h2 (by rw [hpc]; exact nofun)
  | ftrunc fd => rw [hpc] at h2; exact h2
  | _ => trivial

theorem handle_addr_lt (hM : MapInv g) {h : Hid} {p : Pid} {y : PShm} (hy : g.hs h = some (p, .shm y)) :
    y.addr < (g.os.procs p).nextAddr :=
  claim_lt hM (cl := .inl h) (l := y.size) (by simp only [claimOf, hClaim, hy])

theorem keyInv_advance (hM : MapInv g) (hK : KeyInv k s L g) (hc : g.calls t = some c)
    (hE : SysEffect (g.pidOf t) g.os c.next os' r) (hb : os'.shmNames k = some s) : KeyInv k s L (g.advance t c os' r) := by
  have hlen : (os'.segs s).bytes.length = (g.os.segs s).bytes.length := by
    refine hE.seg_len hK.segLt fun fd len hn e => ?_
    obtain ⟨hid, st, rfl, hpc⟩ := Call.next_ftruncate hn
    exact (hK.noTrunc t hid st fd hc hpc).2 s e rfl
  refine ⟨hb, hlen.trans hK.len, hK.pos, Nat.lt_of_lt_of_le hK.segLt hE.nextSeg_le, ?_, ?_, ?_⟩
  · -- handles
    intro h' p y hy hky
    rcases advance_hs g t c os' r h' with ⟨e, _⟩ | ⟨ret, x, hd, e⟩ <;> rw [e] at hy
    · obtain ⟨a, b⟩ := hK.handles h' p y hy hky
      exact ⟨a, goodMap_advance hM hc hE (handle_addr_lt hM hy) b⟩
    · cases hy
      rcases Call.after_done hd with ⟨_, _, _, _, e⟩ | ⟨st, y0, rfl, hy0, e⟩ <;> cases e
      obtain ⟨s0, ps, hpc, _, rfl⟩ := ShmNewSt.after_done hy0
      have hwf := hM.newwf t h' st hc
      obtain ⟨_, hF⟩ := hK.flight t h' st hc hky
      rw [hpc] at hF
      have h3 := hwf.2.2
      rw [hpc] at h3
      obtain ⟨a, ha⟩ := Option.isSome_iff_exists.mp h3
      refine ⟨by simp only [hwf.1]; exact hF.1, ?_⟩
      simp only [ha, Option.getD_some]
      exact goodMap_advance hM hc hE (shmNew_addr_lt hM hc (by rw [hpc]; exact nofun) ha) (hF.2 a ha)
  · -- calls in flight on `k`
    intro t' hid' st' hc' hkey'
    rcases advance_calls_shmNew hc' with ⟨_, h0⟩ | ⟨rfl, st, rfl, hn⟩
    · exact followerOK_other hM hc hE h0 (hK.flight t' hid' st' h0 hkey')
    · have hk0 : st.key = k := by rw [← hkey']; cases hn <;> rfl
      subst hk0
      exact followerOK_next hM hK hc hE hn
  · -- nobody is about to truncate `s`: a call gets to `ftruncate` only through a `shm_open` that created a new object
    intro t' hid' st' fd' hc' hpc'
    rcases advance_calls_shmNew hc' with ⟨_, h0⟩ | ⟨rfl, st, rfl, hn⟩
    · exact fd_advance hE (hK.noTrunc t' hid' st' fd' h0 hpc')
    · cases hn with
      | retry hpc => rcases hpc with h | h <;> rw [h] at hpc' <;> cases hpc'
      | created fd hpc =>
        cases hpc'
        rw [show (Call.shmNew hid' st).next = .shmOpen st.key shmOpen1Flags shmOpen1Mode by
          simp only [Call.next, ShmNewSt.next, hpc]] at hE
        cases hE with
        | shmOpened _ _ _ _ _ hx => rw [shmExcl1] at hx; cases hx
        | shmCreated _ _ _ hn =>
          refine ⟨by simp [advance_os, advance_pidOf, OS.openFd, OS.setProc, OS.shmCreate], fun s' hs' => ?_⟩
          simp only [advance_os, advance_pidOf, OS.openFd, OS.setProc, OS.shmCreate, if_true, lookupFd, List.find?_cons,
            decide_true, Option.map_some, Option.some.injEq] at hs'
          rw [← hs']; exact Nat.ne_of_gt hK.segLt
      | _ => cases hpc'

theorem keyInv_start (hK : KeyInv k s L g) (t : Tid) (op : Op) : KeyInv k s L (g.start t op) := by
  obtain ⟨segs', hos, hl⟩ := start_os g t op
  have hp : (g.start t op).os.procs = g.os.procs := by rw [hos]
  have foEq : ∀ p st, FollowerOK g s L p st → FollowerOK (g.start t op) s L p st := by
    intro p st h
    refine ⟨h.1, ?_⟩
    have h2 := h.2
    cases hpc : st.pc <;> rw [hpc] at h2 <;> simp only [GoodMap, FdOf, hp] <;> exact h2
  have flight : ∀ t' hid st, (g.start t op).calls t' = some (.shmNew hid st) →
      g.calls t' = some (.shmNew hid st) ∨ (st.pc = .excl ∧ st.created = false) := by
    intro t' hid st hc
    rcases start_calls hc with h0 | hi | ⟨_, x, _, e⟩
    · exact .inl h0
    · exact .inr ⟨hi.1, hi.2.1⟩
    · cases x <;> cases e
  refine ⟨by rw [hos]; exact hK.bound, by rw [hos]; exact (hl s).trans hK.len, hK.pos, by rw [hos]; exact hK.segLt, ?_, ?_, ?_⟩
  · intro h p y hy hky
    have old : ∀ z : PShm, g.hs h = some (p, .shm z) → z.key = k → z.size = y.size → z.addr = y.addr → z.ro = y.ro →
        y.size ≤ L ∧ GoodMap (g.start t op) s p y.addr y.ro := by
      intro z hz hkz e1 e2 e3
      obtain ⟨a, b⟩ := hK.handles h p z hz hkz
      exact ⟨e1 ▸ a, by simp only [GoodMap, hp]; rw [← e2, ← e3]; exact b⟩
    rcases start_hs hy with h0 | ⟨x0, h0, e⟩
    · exact old y h0 hky rfl rfl rfl
    · cases x0 with
      | sem z => cases e
      | shm z => cases e; exact old z h0 hky rfl rfl rfl
  · intro t' hid st hc hkey
    rw [start_pidOf]
    rcases flight t' hid st hc with h0 | ⟨hpc, hcr⟩
    · exact foEq _ _ (hK.flight t' hid st h0 hkey)
    · exact ⟨hcr, by rw [hpc]; trivial⟩
  · intro t' hid st fd hc hpc
    rw [start_pidOf]
    rcases flight t' hid st hc with h0 | ⟨hpc', _⟩
    · simpa only [FdNot, hp] using hK.noTrunc t' hid st fd h0 hpc
    · rw [hpc'] at hpc; cases hpc

theorem keyInv_kill (hK : KeyInv k s L g) (p : Pid) : KeyInv k s L (g.kill p) := by
  have gm : ∀ q a ro, GoodMap g s q a ro → GoodMap (g.kill p) s q a ro := by
    intro q a ro h m hm
    by_cases e : q = p
    · subst e; simp [G.kill, OS.kill, OS.setProc] at hm
    · rw [kill_procs_other g e] at hm; exact h m hm
  refine ⟨hK.bound, hK.len, hK.pos, hK.segLt, ?_, ?_, ?_⟩
  · intro h q y hy hky
    obtain ⟨a, b⟩ := hK.handles h q y (kill_hs hy).1 hky
    exact ⟨a, gm _ _ _ b⟩
  · intro t hid st hc hkey
    obtain ⟨h0, hne⟩ := kill_calls hc
    have hF := hK.flight t hid st h0 hkey
    show FollowerOK (g.kill p) s L (g.pidOf t) st
    refine ⟨hF.1, ?_⟩
    have h2 := hF.2
    cases hpc : st.pc <;> rw [hpc] at h2 <;> simp only [FdOf, kill_procs_other g hne] <;>
      first
      | exact h2
      | exact ⟨h2.1, fun a ha => gm _ _ _ (h2.2 a ha)⟩
  · intro t hid st fd hc hpc
    obtain ⟨h0, hne⟩ := kill_calls hc
    show FdNot (g.kill p) s (g.pidOf t) fd
    simpa only [FdNot, kill_procs_other g hne] using hK.noTrunc t hid st fd h0 hpc

/-- **the segment of `k` exists**: `MapInv ∧ KeyInv` is preserved by every schedule without a `shm_unlink (k)` -/
theorem keyInv_execAll (k : ShmKey) (s : SegId) (L : Nat) (as : List Action) :
    ∀ g, MapInv g → KeyInv k s L g → NoShmUnlink k g as → MapInv (execAll g as) ∧ KeyInv k s L (execAll g as) := by
  induction as with
  | nil => intro g hM hK _; exact ⟨hM, hK⟩
  | cons a as ih =>
    intro g hM hK hq
    refine ih (exec g a) (mapInv_exec g a hM) ?_ hq.2
    have hb := shm_binding_exec hK.bound hq
    revert hb
    exact exec_cases (P := fun g' => g'.os.shmNames k = some s → KeyInv k s L g') a (fun _ => hK)
      (fun t op _ => keyInv_start hK t op) (fun p _ => keyInv_kill hK p)
      (fun t c os' r hc hE hb => keyInv_advance hM hK hc hE hb)

/-- under `MapInv` a live handle's address is mapped, by exactly one mapping, of exactly the handle's size -/
theorem findMap_of_handle (g : G) (hM : MapInv g) (h : Hid) (p : Pid) (y : PShm) (hy : g.hs h = some (p, .shm y)) :
    ∃ m, findMap (g.os.procs p) y.addr = some m ∧ m ∈ (g.os.procs p).maps ∧ m.addr = y.addr ∧ m.len = y.size ∧ m.off = 0 ∧
      y.size ≠ 0 ∧ ∀ m' ∈ (g.os.procs p).maps, m'.addr = y.addr → m' = m := by
  obtain ⟨hl, m, hm, hma, hml, hmo⟩ := hM.claims.valid (.inl h) p y.addr y.size (by simp [claimOf, hClaim, hy])
  have uniq : ∀ m' ∈ (g.os.procs p).maps, m'.addr = y.addr → m' = m :=
    fun m' hm' ha' => nodup_map_inj (·.addr) _ (hM.claims.nodup p) m' m hm' hm (by rw [ha', hma])
  cases hf : findMap (g.os.procs p) y.addr with
  | none =>
    simp only [findMap, List.find?_eq_none] at hf
    exact absurd hma (by simpa using hf m hm)
  | some m' =>
    have h1 := List.find?_some hf
    have h2 := List.mem_of_find?_eq_some hf
    simp only [decide_eq_true_eq] at h1
    have := uniq m' h2 h1
    subst this
    exact ⟨m', rfl, hm, hma, hml, hmo, hl, uniq⟩

/-- **one memory per name, any interleaving**: in every state in which the segment of `k` exists
    (`MapInv ∧ KeyInv`), a byte stored through any live writable handle of `k` is the byte loaded through
    any live handle of `k` — same or different thread or process — at every offset below both reported sizes -/
theorem handles_share_bytes (k : ShmKey) (s : SegId) (L : Nat) (g : G) (hM : MapInv g) (hK : KeyInv k s L g)
    (ta tb : Tid) (ha hb : Hid) (ya yb : PShm) (off : Nat) (b : UInt8)
    (ia : Idle g ta) (ib : Idle g tb)
    (hha : g.hs ha = some (g.pidOf ta, .shm ya)) (hhb : g.hs hb = some (g.pidOf tb, .shm yb))
    (ka : ya.key = k) (kb : yb.key = k) (hrw : ya.ro = false) (la : off < ya.size) (lb : off < yb.size) :
    ((g.call ta (.wr ha off b)).call tb (.rd hb off)).ret tb = some (.byte b) := by
  obtain ⟨ma, fa, hma, aa, lena, offa, _, _⟩ := findMap_of_handle g hM ha _ ya hha
  obtain ⟨mb, fb, hmb, ab, lenb, offb, _, _⟩ := findMap_of_handle g hM hb _ yb hhb
  obtain ⟨sza, ga⟩ := hK.handles ha _ ya hha ka
  obtain ⟨szb, gb⟩ := hK.handles hb _ yb hhb kb
  obtain ⟨sa, sha, wra⟩ := ga ma hma aa
  obtain ⟨sb, _, _⟩ := gb mb hmb ab
  exact write_then_read g ta tb ha hb ya yb ma mb off b ia ib hha hhb fa fb (by rw [sa, sb]) offa offb
    (by rw [lena]; exact la) (by rw [lenb]; exact lb) (wra hrw) sha (by rw [sa, hK.len]; omega)

/-- **no fault below the reported size, any interleaving** -/
theorem handle_no_fault (k : ShmKey) (s : SegId) (L : Nat) (g : G) (hM : MapInv g) (hK : KeyInv k s L g)
    (h : Hid) (p : Pid) (y : PShm) (hy : g.hs h = some (p, .shm y)) (hk : y.key = k) (off : Nat) (ho : off < y.size) :
    ∃ b, g.os.load p y.addr off = .val b := by
  obtain ⟨m, fm, hm, am, lenm, offm, _, _⟩ := findMap_of_handle g hM h p y hy
  obtain ⟨sz, gm⟩ := hK.handles h p y hy hk
  obtain ⟨sm, _, _⟩ := gm m hm am
  have hlen : m.off + off < (g.os.segs m.seg).bytes.length := by rw [offm, sm, hK.len]; omega
  exact ⟨_, load_eq g.os p y.addr off m fm (by rw [lenm]; exact ho) hlen⟩

/-- **exact unmap, any interleaving**: the `munmap` step of any `p_shm_free` in flight removes exactly
    the one mapping the handle's `p_shm_new` created (it exists, is unique, has the handle's size) and
    nothing else, in no other process either -/
theorem free_unmaps_exactly (g : G) (t : Tid) (i : Bool) (st : ShmFreeSt) (hM : MapInv g)
    (hc : g.calls t = some (.shmFree st)) (hpc : st.pc = .munmap) :
    ∃ m, m ∈ (g.os.procs (g.pidOf t)).maps ∧ m.addr = st.h.addr ∧ m.len = st.h.size ∧
      (∀ m' ∈ (g.os.procs (g.pidOf t)).maps, m'.addr = st.h.addr → m' = m) ∧
      ((g.step t i).os.procs (g.pidOf t)).maps = (g.os.procs (g.pidOf t)).maps.filter (fun m' => decide (m'.addr ≠ st.h.addr)) ∧
      ∀ q, q ≠ g.pidOf t → ((g.step t i).os.procs q).maps = (g.os.procs q).maps := by
  have hclaim : claimOf g (.inr t) = some (g.pidOf t, st.h.addr, st.h.size) := by
    simp only [claimOf, tClaim, hc, Call.claim, hpc]
  obtain ⟨hl0, m, hm, hma, hml, _⟩ := hM.claims.valid _ _ _ _ hclaim
  have hnext : (Call.shmFree st).next = .munmap st.h.addr st.h.size := by simp only [Call.next, ShmFreeSt.next, hpc]
  have hos : (g.step t i).os = g.os.setProc (g.pidOf t) (munmapF (g.os.procs (g.pidOf t)) st.h.addr st.h.size) := by
    rw [step_eq g t i _ hc, advance_os, hnext, sysStep_munmap _ _ _ _ _ hl0]
  refine ⟨m, hm, hma, hml, fun m' hm' ha' => nodup_map_inj (·.addr) _ (hM.claims.nodup _) m' m hm' hm (by rw [ha', hma]), ?_,
    fun q hq => by rw [hos]; simp only [OS.setProc, hq, if_false]⟩
  rw [hos]
  simpa only [OS.setProc, if_true] using (hM.claims.munmap_exact hclaim).2.1

theorem mapInv_call (g : G) (t : Tid) (op : Op) (sc : List Nat) (h : MapInv g) : MapInv (g.call t op sc) := by
  obtain ⟨as, has⟩ := call_is_execAll g t op sc
  rw [has]; exact mapInv_execAll as g h

def ShmNewPC.fd? : ShmNewPC → Option Nat
  | .fstat fd | .ftrunc fd | .mmap fd | .close fd | .fClose fd _ => some fd
  | _ => none

/-- ids in use are below the allocation counters: segment ids bound to names (`names`) or held by
    descriptors (`fdsSeg`), and the descriptor a `p_shm_new` in flight works on (`flightFd`) -/
structure SegWF (g : G) : Prop where
  names : ∀ k s, g.os.shmNames k = some s → s < g.os.nextSeg
  fdsSeg : ∀ p x, x ∈ (g.os.procs p).fds → x.2 < g.os.nextSeg
  flightFd : ∀ t hid st fd, g.calls t = some (.shmNew hid st) → st.pc.fd? = some fd → fd < (g.os.procs (g.pidOf t)).nextFd

theorem ShmNewSt.fd_next {st st' : ShmNewSt} {fd' : Nat} (hn : st.Next r st') (hfd : st'.pc.fd? = some fd') :
    st.pc.fd? = some fd' ∨ ((st.pc = .excl ∨ st.pc = .open) ∧ r = .ok fd') := by
  cases hn with
  | retry => exact .inl hfd
  | created fd hpc => cases hfd; exact .inr ⟨.inl hpc, rfl⟩
  | opened fd hpc => cases hfd; exact .inr ⟨.inr hpc, rfl⟩
  | sized fd n hpc | truncated fd v hpc | mapped fd a hpc => cases hfd; exact .inl (by rw [hpc]; rfl)
  | failed fd e hpc => cases hfd; rcases hpc with hpc | hpc | hpc <;> exact .inl (by rw [hpc]; rfl)
  | _ => cases hfd

theorem segWF_advance (h : SegWF g) (hc : g.calls t = some c) (hE : SysEffect (g.pidOf t) g.os c.next os' r) :
    SegWF (g.advance t c os' r) := by
  obtain ⟨hn, hf⟩ := hE.segs_below h.names h.fdsSeg
  refine ⟨hn, hf, fun t' hid' st' fd' hc' hfd' => ?_⟩
  rcases advance_calls_shmNew hc' with ⟨_, h0⟩ | ⟨rfl, st, rfl, hnx⟩
  · exact Nat.lt_of_lt_of_le (h.flightFd t' hid' st' fd' h0 hfd') (hE.nextFd_le _)
  · rcases ShmNewSt.fd_next hnx hfd' with h0 | ⟨hpc, rfl⟩
    · exact Nat.lt_of_lt_of_le (h.flightFd t' hid' st fd' hc h0) (hE.nextFd_le _)
    · -- the descriptor a `shm_open` has just returned is below the new counter
      have : ∃ fl m, (Call.shmNew hid' st).next = .shmOpen st.key fl m := by
        rcases hpc with hpc | hpc <;> exact ⟨_, _, by rw [Call.next, ShmNewSt.next, hpc]⟩
      obtain ⟨fl, m, hnext⟩ := this
      rw [hnext] at hE
      cases hE <;> simp [advance_os, advance_pidOf, OS.openFd, OS.setProc, OS.shmCreate]

theorem segWF_exec (g : G) (a : Action) (h : SegWF g) : SegWF (exec g a) := by
  refine exec_cases a h (fun t op => ?_) (fun p => ?_) (fun t c os' r => segWF_advance h)
  · obtain ⟨segs', hos, _⟩ := start_os g t op
    refine ⟨by rw [hos]; exact h.names, by rw [hos]; exact h.fdsSeg, fun t' hid st fd hc hfd => ?_⟩
    rw [hos, start_pidOf]
    rcases start_calls hc with h0 | hi | ⟨_, x, _, e⟩
    · exact h.flightFd t' hid st fd h0 hfd
    · rw [hi.1] at hfd; cases hfd
    · cases x <;> cases e
  · refine ⟨h.names, fun q x hx => ?_, fun t hid st fd hc hfd => ?_⟩
    · by_cases e : q = p
      · subst e; simp [G.kill, OS.kill, OS.setProc] at hx
      · rw [kill_procs_other g e] at hx; exact h.fdsSeg q x hx
    · obtain ⟨h0, hne⟩ := kill_calls hc
      show fd < ((g.kill p).os.procs (g.pidOf t)).nextFd
      rw [kill_procs_other g hne]; exact h.flightFd t hid st fd h0 hfd

theorem segWF_execAll (as : List Action) : ∀ g, SegWF g → SegWF (execAll g as) :=
  execAll_invariant segWF_exec as

theorem segWF_init (pidOf : Tid → Pid) : SegWF (G.init pidOf) :=
  ⟨by intro k s h; simp [G.init, OS.init] at h, by intro p x h; simp [G.init, OS.init] at h,
   by intro t hid st fd h; simp [G.init] at h⟩

theorem segWF_call (g : G) (t : Tid) (op : Op) (sc : List Nat) (h : SegWF g) : SegWF (g.call t op sc) := by
  obtain ⟨as, has⟩ := call_is_execAll g t op sc
  rw [has]; exact segWF_execAll as g h

/-- After a first creation of `k` — no live handle of `k`, no `p_shm_new (k)` in flight — the segment
    exists: `KeyInv k (new object) size` holds (and `MapInv`, `SegWF` still do). -/
theorem keyInv_after_creation (g : G) (t : Tid) (h : Hid) (k : ShmKey) (size : Nat) (ro : Bool)
    (hM : MapInv g) (hS : SegWF g) (hi : Idle g t) (hh : g.hs h = none) (hk : g.os.shmNames k = none) (hs : size ≠ 0)
    (hnoH : ∀ h' p y, g.hs h' = some (p, .shm y) → y.key ≠ k)
    (hnoF : ∀ t' hid st, g.calls t' = some (.shmNew hid st) → st.key ≠ k) :
    KeyInv k g.os.nextSeg size (g.call t (.newShm h k size ro)) := by
  obtain ⟨fnames, fbytes, fseg, fprocs, _, _, _, fhs, fidle, fpid⟩ := creator_opened g t h k size ro hi hh hk hs
  have hco := call_calls_other g t (.newShm h k size ro) []
  refine ⟨fnames, by rw [fbytes]; exact List.length_replicate .., hs, by rw [fseg]; exact Nat.lt_succ_self _, ?_, ?_, ?_⟩
  · intro h' p y hy hky
    rw [fhs] at hy
    dsimp only at hy
    split at hy
    · cases hy
      refine ⟨Nat.le_refl _, fun m hm hma => ?_⟩
      rw [fprocs] at hm
      simp only [if_true, Proc.afterNew, List.mem_cons] at hm
      rcases hm with rfl | hm'
      · exact ⟨rfl, mapShared, fun hro => by simp only [creatorHandle] at hro; rw [hro]; exact rwWritable⟩
      · exact absurd hma (Nat.ne_of_lt (hM.claims.fresh _ m hm'))
    · exact absurd hky (hnoH h' p y hy)
  · intro t' hid st hc hkey
    by_cases e : t' = t
    · subst e; rw [fidle] at hc; cases hc
    · rw [hco t' e] at hc; exact absurd hkey (hnoF t' hid st hc)
  · intro t' hid st fd hc hpc
    by_cases e : t' = t
    · subst e; rw [fidle] at hc; cases hc
    · rw [hco t' e] at hc
      have hlt := hS.flightFd t' hid st fd hc (by rw [hpc]; rfl)
      rw [fpid]
      refine ⟨?_, fun s' hs' => ?_⟩
      · rw [fprocs]; dsimp only; split
        · rename_i e'; rw [e'] at hlt; simp only [Proc.afterNew]; omega
        · exact hlt
      · have hmem : (fd, s') ∈ (g.os.procs (g.pidOf t')).fds := by
          rw [fprocs] at hs'
          dsimp only at hs'
          split at hs'
          · rename_i e'
            have := lookupFd_mem hs'
            simp only [Proc.afterNew] at this
            rw [e']; exact (List.mem_filter.mp this).1
          · exact lookupFd_mem hs'
        exact Nat.ne_of_lt (hS.fdsSeg _ _ hmem)

end PV.IPC
