import PV.Model.Socket
/-! The retry loops of the socket model as functions on scripts (`ioLoop`, `pollLoop`, `connLoop`): which script entries
they skip, what their traces look like, how they end. -/
namespace PV.Socket
open PV.Generated.Socket

/-! ## facts about the generated table (closed by evaluation; re-checked whenever perror.c changes) -/

theorem io_EAGAIN : ioFromSystem EAGAIN = P_ERROR_IO_WOULD_BLOCK := by decide
theorem io_EWOULDBLOCK : ioFromSystem EWOULDBLOCK = P_ERROR_IO_WOULD_BLOCK := by decide
theorem io_EINTR : ioFromSystem EINTR = P_ERROR_IO_FAILED := by decide
theorem io_EINPROGRESS : ioFromSystem EINPROGRESS = P_ERROR_IO_IN_PROGRESS := by decide
theorem io_EPIPE : ioFromSystem EPIPE = P_ERROR_IO_FAILED := by decide
theorem io_ECONNRESET : ioFromSystem ECONNRESET = P_ERROR_IO_FAILED := by decide

/-- a native code classified as `c` is `d`, provided every table entry of class `c` has code `d` and the default
    class is not `c` (both decided on the extracted table where this is used) -/
theorem code_of_class {e c d : Int} (h : ioFromSystem e = c) (ht : ∀ p ∈ errnoTable, p.2 = c → p.1 = d)
    (hd : errnoDefault ≠ c) : e = d := by
  unfold ioFromSystem at h
  generalize errnoTable = l at h ht
  induction l with
  | nil => exact absurd h hd
  | cons p t ih =>
    obtain ⟨a, b⟩ := p
    by_cases hea : e = a
    · subst hea
      simp only [List.lookup, beq_self_eq_true, Option.getD_some] at h
      exact ht (e, b) (by simp) h
    · have : (e == a) = false := by simpa using hea
      simp only [List.lookup, this] at h
      exact ih h fun p hp => ht p (by simp [hp])

def isPollEintr (r : Res) : Bool := r.sys == .poll && r.ret == .err EINTR
def isPollReady (r : Res) : Bool := r.sys == .poll && r.ret == .ok 1

/-- the answer `r` of the data call `dsys` makes a blocking loop go round again; the value is the `errno` it leaves -/
def retryErrno (dsys : Sys) (r : Res) : Option Int :=
  if r.sys = dsys then
    match r.ret with
    | .err e => if e = EINTR ∨ ioFromSystem e = P_ERROR_IO_WOULD_BLOCK then some e else none
    | .ok _ => none
  else none

/-- **Blocking mode.**  Remove from the front of a script every `poll → EINTR` and every pair
    `poll → 1, data call → EINTR | would-block` (the poll success goes with the data-call retry it
    enabled); the second component is the `errno` value those retries leave behind. -/
def dropRetries (dsys : Sys) : List Res → Int → List Res × Int
  | [], e => ([], e)
  | [r], e => if isPollEintr r then ([], EINTR) else ([r], e)
  | r :: d :: s, e =>
    if isPollEintr r then dropRetries dsys (d :: s) EINTR
    else if isPollReady r then
      match retryErrno dsys d with
      | some e' => dropRetries dsys s e'
      | none => (r :: d :: s, e)
    else (r :: d :: s, e)

/-- remove leading `poll → EINTR` entries (the loop of `p_socket_io_condition_wait`) -/
def dropPollEintr : List Res → Int → List Res × Int
  | [], e => ([], e)
  | r :: s, e => if isPollEintr r then dropPollEintr s EINTR else (r :: s, e)

/-- **Non-blocking mode**: only `EINTR` of the data call is retried -/
def dropDataEintr (dsys : Sys) : List Res → Int → List Res × Int
  | [], e => ([], e)
  | r :: s, e => if r.sys = dsys ∧ r.ret = .err EINTR then dropDataEintr dsys s EINTR else (r :: s, e)

/-- `p_socket_connect`: `connect → EINTR` answers are answered by calling `connect` again -/
def dropConnEintr : List Res → Int → List Res × Int
  | [], e => ([], e)
  | r :: s, e => if r.sys = .connect ∧ r.ret = .err EINTR then dropConnEintr s EINTR else (r :: s, e)

/-- observable result of a loop: how it ended, what is left of the script, `errno` (the trace is dropped) -/
def LoopR.obs (r : LoopR) : LoopEnd × List Res × Int := (r.fin, r.rest, r.errno)

@[simp] theorem LoopR.obs_cons (ev : Ev) (r : LoopR) : (r.cons ev).obs = r.obs := rfl

theorem pollStep_eintr (r : Res) (e : Int) (h : isPollEintr r = true) : pollStep r e = .again EINTR := by
  simp [isPollEintr] at h
  simp [pollStep, h.2]

theorem pollStep_ready (r : Res) (e : Int) (h : isPollReady r = true) : pollStep r e = .ready := by
  simp [isPollReady] at h
  simp [pollStep, h.2]

theorem sys_of_pollEintr {r : Res} (h : isPollEintr r = true) : r.sys = .poll := by
  simp [isPollEintr] at h; exact h.1
theorem sys_of_pollReady {r : Res} (h : isPollReady r = true) : r.sys = .poll := by
  simp [isPollReady] at h; exact h.1

theorem isPollEintr_of_again {r : Res} {e e' : Int} (hs : r.sys = .poll) (hp : pollStep r e = .again e') :
    isPollEintr r = true := by
  unfold pollStep at hp
  cases hr : r.ret with
  | ok v => simp only [hr] at hp; split at hp <;> (try split at hp) <;> cases hp
  | err x =>
    simp only [hr] at hp
    by_cases h4 : x = EINTR
    · simp [isPollEintr, hs, hr, h4]
    · simp [h4] at hp

theorem isPollReady_of_ready {r : Res} {e : Int} (hs : r.sys = .poll) (hp : pollStep r e = .ready) :
    isPollReady r = true := by
  unfold pollStep at hp
  cases hr : r.ret with
  | ok v =>
    simp only [hr] at hp
    by_cases h1 : v = 1
    · simp [isPollReady, hs, hr, h1]
    · simp only [h1, if_false] at hp; split at hp <;> cases hp
  | err x => simp only [hr] at hp; split at hp <;> cases hp

theorem retryErrno_of_again {c : LoopCfg} {d : Res} {e' : Int} (hs : d.sys = c.call.sys)
    (h : dataStep c d = .again e') : retryErrno c.call.sys d = some e' := by
  unfold dataStep at h
  unfold retryErrno
  cases hr : d.ret with
  | ok v => simp [hr] at h
  | err x =>
    simp only [hr, hs, if_true] at h ⊢
    by_cases h4 : x = EINTR
    · simp_all
    · simp only [h4, if_false, false_or] at h ⊢
      split at h
      · rename_i hbw
        injection h with h
        subst h
        simp [hbw.2]
      · cases h

theorem dataStep_retry (c : LoopCfg) (hb : c.blocking = true) (d : Res) (e' : Int)
    (h : retryErrno c.call.sys d = some e') : d.sys = c.call.sys ∧ dataStep c d = .again e' := by
  unfold retryErrno at h
  split at h
  · rename_i hs
    refine ⟨hs, ?_⟩
    cases hr : d.ret with
    | ok v => simp [hr] at h
    | err x =>
      simp only [hr] at h
      split at h
      · rename_i hx
        injection h with h; subst h
        unfold dataStep
        simp only [hr]
        rcases hx with hx | hx
        · simp [hx]
        · by_cases h4 : x = EINTR
          · simp [h4]
          · simp [h4, hb, hx]
      · cases h
  · cases h

theorem ioLoop_wait_cons (c : LoopCfg) (r : Res) (s : List Res) (e : Int) :
    ioLoop c .wait (r :: s) e =
      if r.sys ≠ .poll then ⟨.stop (.mismatch .poll r.sys), [], r :: s, e⟩
      else match pollStep r e with
        | .again e' => (ioLoop c .wait s e').cons ⟨c.poll, r⟩
        | .ready => (ioLoop c .data s e).cons ⟨c.poll, r⟩
        | .fail pe e' => ⟨.fail pe, [⟨c.poll, r⟩], s, e'⟩ := by
  conv => lhs; unfold ioLoop
  split <;> rfl

theorem pollLoop_cons (call : Issued) (r : Res) (s : List Res) (e : Int) :
    pollLoop call (r :: s) e =
      if r.sys ≠ .poll then ⟨.stop (.mismatch .poll r.sys), [], r :: s, e⟩
      else match pollStep r e with
        | .again e' => (pollLoop call s e').cons ⟨call, r⟩
        | .ready => ⟨.done r, [⟨call, r⟩], s, e⟩
        | .fail pe e' => ⟨.fail pe, [⟨call, r⟩], s, e'⟩ := by
  conv => lhs; unfold pollLoop
  split <;> rfl

theorem ioLoop_data_cons (c : LoopCfg) (r : Res) (s : List Res) (e : Int) :
    ioLoop c .data (r :: s) e =
      if r.sys ≠ c.call.sys then ⟨.stop (.mismatch c.call.sys r.sys), [], r :: s, e⟩
      else match dataStep c r with
        | .done => ⟨.done r, [⟨c.call, r⟩], s, e⟩
        | .again e' => (ioLoop c (if c.blocking then .wait else .data) s e').cons ⟨c.call, r⟩
        | .fail pe e' => ⟨.fail pe, [⟨c.call, r⟩], s, e'⟩ := by
  conv => lhs; unfold ioLoop
  split <;> rfl

theorem connLoop_cons (call : Issued) (r : Res) (s : List Res) (e : Int) :
    connLoop call (r :: s) e =
      if r.sys ≠ .connect then ⟨.stop (.mismatch .connect r.sys), [], r :: s, e⟩
      else if r.ret = .ok 0 then ⟨.done r, [⟨call, r⟩], s, (match r.ret with | .err x => x | .ok _ => e)⟩
      else if (match r.ret with | .err x => x | .ok _ => e) = EINTR then
        (connLoop call s (match r.ret with | .err x => x | .ok _ => e)).cons ⟨call, r⟩
      else ⟨.done r, [⟨call, r⟩], s, (match r.ret with | .err x => x | .ok _ => e)⟩ := by
  conv => lhs; unfold connLoop
  split <;> rfl

/-- **the loop-level transparency lemma** (blocking mode) -/
theorem ioLoop_dropRetries (c : LoopCfg) (hb : c.blocking = true) :
    ∀ (s : List Res) (e : Int),
      (ioLoop c .wait s e).obs = (ioLoop c .wait (dropRetries c.call.sys s e).1 (dropRetries c.call.sys s e).2).obs := by
  intro s e
  induction s, e using dropRetries.induct (dsys := c.call.sys) with
  | case1 e => simp [dropRetries]
  | case2 r e h =>
    simp only [dropRetries, h, if_true]
    simp [ioLoop, sys_of_pollEintr h, pollStep_eintr r e h, LoopR.obs, LoopR.cons]
  | case3 r e h => simp [dropRetries, h]
  | case4 r d s e h ih =>
    simp only [dropRetries, h, if_true]
    rw [← ih]
    simp [ioLoop, sys_of_pollEintr h, pollStep_eintr r e h]
  | case5 r d s e h1 h2 e' h3 ih =>
    have h1' : isPollEintr r = false := by simpa using h1
    simp only [dropRetries, h1', h2, h3, if_true, Bool.false_eq_true, if_false]
    rw [← ih]
    obtain ⟨hs, hd⟩ := dataStep_retry c hb d e' h3
    simp [ioLoop, sys_of_pollReady h2, pollStep_ready r e h2, hs, hd, hb]
  | case6 r d s e h1 h2 h3 =>
    have h1' : isPollEintr r = false := by simpa using h1
    simp [dropRetries, h1', h2, h3]
  | case7 r d s e h1 h2 =>
    have h1' : isPollEintr r = false := by simpa using h1
    have h2' : isPollReady r = false := by simpa using h2
    simp [dropRetries, h1', h2']

/-- after `dropRetries` nothing is left to retry: the loop makes at most one `poll` and one data call -/
theorem ioLoop_dropRetries_once (c : LoopCfg) (s : List Res) (e : Int) :
    (ioLoop c .wait (dropRetries c.call.sys s e).1 (dropRetries c.call.sys s e).2).evs.length ≤ 2 := by
  induction s, e using dropRetries.induct (dsys := c.call.sys) with
  | case1 e => simp [dropRetries, ioLoop]
  | case2 r e h => simp [dropRetries, h, ioLoop]
  | case3 r e h =>
    have h' : isPollEintr r = false := by simpa using h
    simp only [dropRetries, h', Bool.false_eq_true, if_false]
    unfold ioLoop
    split
    · simp
    · cases hp : pollStep r e <;> simp [LoopR.cons, ioLoop]
  | case4 r d s e h ih => simpa [dropRetries, h] using ih
  | case5 r d s e h1 h2 e' h3 ih =>
    have h1' : isPollEintr r = false := by simpa using h1
    simpa [dropRetries, h1', h2, h3] using ih
  | case6 r d s e h1 h2 h3 =>
    have h1' : isPollEintr r = false := by simpa using h1
    simp only [dropRetries, h1', h2, h3, Bool.false_eq_true, if_false, if_true]
    simp only [ioLoop, sys_of_pollReady h2, pollStep_ready r e h2, ne_eq, not_true_eq_false, if_false]
    by_cases hs : d.sys = c.call.sys
    · simp only [hs, not_true_eq_false, if_false]
      cases hds : dataStep c d with
      | done => simp [LoopR.cons]
      | again e' => rw [retryErrno_of_again hs hds] at h3; cases h3
      | fail pe e' => simp [LoopR.cons]
    · simp [hs, LoopR.cons]
  | case7 r d s e h1 h2 =>
    have h1' : isPollEintr r = false := by simpa using h1
    have h2' : isPollReady r = false := by simpa using h2
    simp only [dropRetries, h1', h2', Bool.false_eq_true, if_false]
    unfold ioLoop
    split
    · simp
    · rename_i hsys
      have hsys' : r.sys = .poll := by simpa using hsys
      cases hp : pollStep r e with
      | again e' => rw [isPollEintr_of_again hsys' hp] at h1'; cases h1'
      | ready => rw [isPollReady_of_ready hsys' hp] at h2'; cases h2'
      | fail pe e' => simp

theorem pollLoop_dropPollEintr (call : Issued) : ∀ (s : List Res) (e : Int),
    (pollLoop call s e).obs = (pollLoop call (dropPollEintr s e).1 (dropPollEintr s e).2).obs := by
  intro s
  induction s with
  | nil => intro e; simp [dropPollEintr]
  | cons r s ih =>
    intro e
    by_cases h : isPollEintr r = true
    · simp only [dropPollEintr, h, if_true]
      rw [← ih]
      simp [pollLoop, sys_of_pollEintr h, pollStep_eintr r e h]
    · have h' : isPollEintr r = false := by simpa using h
      simp [dropPollEintr, h']

theorem pollLoop_dropPollEintr_once (call : Issued) : ∀ (s : List Res) (e : Int),
    (pollLoop call (dropPollEintr s e).1 (dropPollEintr s e).2).evs.length ≤ 1 := by
  intro s
  induction s with
  | nil => intro e; simp [dropPollEintr, pollLoop]
  | cons r s ih =>
    intro e
    by_cases h : isPollEintr r = true
    · simpa [dropPollEintr, h] using ih EINTR
    · have h' : isPollEintr r = false := by simpa using h
      simp only [dropPollEintr, h', Bool.false_eq_true, if_false]
      unfold pollLoop
      split
      · simp
      · rename_i hsys
        have hsys' : r.sys = .poll := by simpa using hsys
        cases hp : pollStep r e with
        | again e' => exact absurd (isPollEintr_of_again hsys' hp) h
        | ready => simp
        | fail pe e' => simp

/-- how a data loop continues after `p_socket_io_condition_wait`'s loop -/
def afterWait (c : LoopCfg) (p : LoopR) : LoopR :=
  match p.fin with
  | .done _ =>
    let r := ioLoop c .data p.rest p.errno
    { r with evs := p.evs ++ r.evs }
  | _ => p

/-- the wait phase of a data loop is `p_socket_io_condition_wait`'s loop followed by the data phase -/
theorem ioLoop_wait_eq (c : LoopCfg) : ∀ (s : List Res) (e : Int),
    ioLoop c .wait s e = afterWait c (pollLoop c.poll s e) := by
  intro s
  induction s with
  | nil => intro e; simp [ioLoop, pollLoop, afterWait]
  | cons r s ih =>
    intro e
    rw [ioLoop_wait_cons, pollLoop_cons]
    split
    · simp [afterWait]
    · cases hp : pollStep r e with
      | again e' =>
        simp only []
        rw [ih]
        unfold afterWait
        cases hf : (pollLoop c.poll s e').fin <;> simp [LoopR.cons, hf]
      | ready => simp [LoopR.cons, afterWait]
      | fail pe e' => simp [afterWait]

theorem ioLoop_dropDataEintr (c : LoopCfg) (hb : c.blocking = false) : ∀ (s : List Res) (e : Int),
    (ioLoop c .data s e).obs =
      (ioLoop c .data (dropDataEintr c.call.sys s e).1 (dropDataEintr c.call.sys s e).2).obs := by
  intro s
  induction s with
  | nil => intro e; simp [dropDataEintr]
  | cons r s ih =>
    intro e
    by_cases h : r.sys = c.call.sys ∧ r.ret = .err EINTR
    · simp only [dropDataEintr, h, and_self, if_true]
      rw [← ih]
      simp [ioLoop, h.1, dataStep, h.2, hb]
    · simp [dropDataEintr, h]

/-- non-blocking: a would-block answer of the data call ends the call at once with WOULD_BLOCK -/
theorem ioLoop_nonblocking_wouldblock (c : LoopCfg) (hb : c.blocking = false) (r : Res) (s : List Res) (e x : Int)
    (hs : r.sys = c.call.sys) (hr : r.ret = .err x) (hw : ioFromSystem x = P_ERROR_IO_WOULD_BLOCK) :
    ioLoop c .data (r :: s) e =
      ⟨.fail { code := P_ERROR_IO_WOULD_BLOCK, native := x, msg := c.failMsg }, [⟨c.call, r⟩], s, x⟩ := by
  have h4 : x ≠ EINTR := by
    intro h; subst h; rw [io_EINTR] at hw; revert hw; decide
  simp [ioLoop, hs, dataStep, hr, h4, hb, hw]

/-- every native call a data loop makes is its data call or its `poll`, and it polls only in the wait phase or in
    blocking mode (a non-blocking loop started at its data call never waits) -/
theorem ioLoop_events (c : LoopCfg) : ∀ (ph : Phase) (s : List Res) (e : Int),
    ∀ ev ∈ (ioLoop c ph s e).evs, (ev.call = c.poll ∧ (c.blocking = true ∨ ph = .wait)) ∨ ev.call = c.call := by
  intro ph s
  induction s generalizing ph with
  | nil => intro e ev h; cases ph <;> simp [ioLoop] at h
  | cons r s ih =>
    intro e ev h
    cases ph with
    | wait =>
      rw [ioLoop_wait_cons] at h
      split at h
      · simp at h
      · cases hp : pollStep r e with
        | again | ready =>
          simp only [hp, LoopR.cons, List.mem_cons] at h
          rcases h with rfl | h
          · exact .inl ⟨rfl, .inr rfl⟩
          · exact (ih _ _ _ h).imp_left fun h => ⟨h.1, .inr rfl⟩
        | fail pe e' => simp [hp] at h; simp [h]
    | data =>
      rw [ioLoop_data_cons] at h
      split at h
      · simp at h
      · cases hd : dataStep c r with
        | done => simp [hd] at h; simp [h]
        | again e' =>
          simp only [hd, LoopR.cons, List.mem_cons] at h
          rcases h with rfl | h
          · exact .inr rfl
          · refine (ih _ _ _ h).imp_left fun h => ⟨h.1, .inl ?_⟩
            cases hb : c.blocking <;> simp [hb] at h ⊢
        | fail pe e' => simp [hd] at h; simp [h]

theorem ioLoop_calls (c : LoopCfg) (ph : Phase) (s : List Res) (e : Int) :
    ∀ ev ∈ (ioLoop c ph s e).evs, ev.call = c.poll ∨ ev.call = c.call :=
  fun ev hev => (ioLoop_events c ph s e ev hev).imp_left (·.1)

theorem pollLoop_calls (call : Issued) : ∀ (s : List Res) (e : Int), ∀ ev ∈ (pollLoop call s e).evs, ev.call = call := by
  intro s
  induction s with
  | nil => intro e ev h; simp [pollLoop] at h
  | cons r s ih =>
    intro e ev h
    rw [pollLoop_cons] at h
    split at h
    · simp at h
    · cases hp : pollStep r e with
      | again e' =>
        simp only [hp, LoopR.cons, List.mem_cons] at h
        rcases h with h | h
        · simp [h]
        · exact ih _ _ h
      | ready => simp [hp] at h; simp [h]
      | fail pe e' => simp [hp] at h; simp [h]

theorem connLoop_calls (call : Issued) : ∀ (s : List Res) (e : Int), ∀ ev ∈ (connLoop call s e).evs, ev.call = call := by
  intro s
  induction s with
  | nil => intro e ev h; simp [connLoop] at h
  | cons r s ih =>
    intro e ev h
    rw [connLoop_cons] at h
    by_cases h1 : r.sys ≠ .connect
    · simp [h1] at h
    · simp only [h1, if_false] at h
      by_cases h2 : r.ret = .ok 0
      · simp only [h2, if_true] at h; simp at h; simp [h]
      · simp only [h2, if_false] at h
        generalize (match r.ret with | .err x => x | .ok _ => e) = e2 at h
        by_cases h3 : e2 = EINTR
        · simp only [h3, if_true, LoopR.cons, List.mem_cons] at h
          rcases h with h | h
          · simp [h]
          · exact ih _ _ h
        · simp only [h3, if_false] at h; simp at h; simp [h]


theorem connLoop_never_fails (call : Issued) : ∀ (t : List Res) (e : Int) (pe : PErr), (connLoop call t e).fin ≠ .fail pe := by
  intro t
  induction t with
  | nil => intro e pe; simp [connLoop]
  | cons r t ih =>
    intro e pe
    rw [connLoop_cons]
    by_cases h1 : r.sys ≠ .connect
    · simp [h1]
    · simp only [h1, if_false]
      by_cases h2 : r.ret = .ok 0
      · simp [h2]
      · simp only [h2, if_false]
        -- the `errno` this answer leaves (its own, or the one before); then: is it EINTR, so that the loop goes on
        split <;> split
        · simp only [LoopR.cons]; exact ih _ _
        · simp
        · simp only [LoopR.cons]; exact ih _ _
        · simp

theorem pollStep_fail {r : Res} {e e' : Int} {pe : PErr} (h : pollStep r e = .fail pe e') :
    (r.ret = .ok 0 ∧ pe.msg = msgTimedOut ∧ pe.stale = true) ∨
    (pe.msg = msgPollFailed ∧ (pe.stale = false → pe.native ≠ EINTR)) := by
  unfold pollStep at h
  split at h
  · -- `poll` failed: EINTR is retried, any other code is reported as it is
    split at h <;> cases h
    exact .inr ⟨rfl, fun _ => ‹_›⟩
  · -- `poll` returned `v`: 1 is ready, 0 a time-out, anything else an error with a stale `errno`
    split at h
    · cases h
    split at h <;> cases h
    · exact .inl ⟨by simp_all, rfl, rfl⟩
    · exact .inr ⟨rfl, nofun⟩

theorem dataStep_fail {c : LoopCfg} {r : Res} {pe : PErr} {e' : Int} (h : dataStep c r = .fail pe e') :
    r.failed = true ∧ pe.msg = c.failMsg ∧ pe.stale = false ∧ pe.native ≠ EINTR ∧
      ¬(c.blocking = true ∧ ioFromSystem pe.native = P_ERROR_IO_WOULD_BLOCK) := by
  unfold dataStep at h
  split at h
  · cases h
  · rename_i x hr
    split at h
    · cases h
    split at h <;> cases h
    simp_all [Res.failed]

theorem dataStep_again {c : LoopCfg} {r : Res} {e' : Int} (h : dataStep c r = .again e') : r.failed = true := by
  unfold dataStep at h
  split at h
  · cases h
  · simp_all [Res.failed]

theorem dataStep_done {c : LoopCfg} {r : Res} (h : dataStep c r = .done) : r.failed = false := by
  unfold dataStep at h
  split at h
  · simp_all [Res.failed]
  · split at h <;> (try split at h) <;> cases h

/-- the entry `⟨cl, r⟩` brings a loop to the end `fin`: the data call succeeded, or it failed for a reason that is
    not retried, or `poll` failed (timed out, or an error of its own) -/
def Decides (c : LoopCfg) (cl : Issued) (r : Res) : LoopEnd → Prop
  | .done r' => cl = c.call ∧ r' = r ∧ r.failed = false ∧ r.sys = c.call.sys
  | .fail pe =>
    (cl = c.call ∧ r.failed = true ∧ pe.msg = c.failMsg ∧ pe.stale = false ∧ pe.native ≠ EINTR ∧
      ¬(c.blocking = true ∧ ioFromSystem pe.native = P_ERROR_IO_WOULD_BLOCK)) ∨
    (cl = c.poll ∧ ((r.ret = .ok 0 ∧ pe.msg = msgTimedOut ∧ pe.stale = true) ∨
      (pe.msg = msgPollFailed ∧ (pe.stale = false → pe.native ≠ EINTR))))
  | .stop _ => False

/-- **shape of a loop that came to an end**: the trace is a run of retries — `poll`s, and data calls that failed —
    followed by the one entry that decided; the script is consumed exactly up to that entry.  What the theorems
    about one data call say (one successful call, nothing after it; a failed call moved nothing; where a time-out
    comes from) are readings of this. -/
theorem ioLoop_ended (c : LoopCfg) : ∀ (ph : Phase) (s : List Res) (e : Int), (∀ w, (ioLoop c ph s e).fin ≠ .stop w) →
    ∃ pre cl r, (ioLoop c ph s e).evs = pre ++ [⟨cl, r⟩] ∧
      (∀ ev ∈ pre, ev.call = c.poll ∨ (ev.call = c.call ∧ ev.res.failed = true)) ∧
      s = pre.map (·.res) ++ r :: (ioLoop c ph s e).rest ∧ Decides c cl r (ioLoop c ph s e).fin := by
  intro ph s
  induction s generalizing ph with
  | nil => intro e h; cases ph <;> exact absurd rfl (h .exhausted)
  | cons a s ih =>
    intro e h
    -- a retry: the rest of the loop, with `⟨cl, a⟩` in front
    have step : ∀ (ph' : Phase) (e' : Int) (cl : Issued), (cl = c.poll ∨ (cl = c.call ∧ a.failed = true)) →
        (∀ w, ((ioLoop c ph' s e').cons ⟨cl, a⟩).fin ≠ .stop w) →
        ∃ pre cl' r, ((ioLoop c ph' s e').cons ⟨cl, a⟩).evs = pre ++ [⟨cl', r⟩] ∧
          (∀ ev ∈ pre, ev.call = c.poll ∨ (ev.call = c.call ∧ ev.res.failed = true)) ∧
          a :: s = pre.map (·.res) ++ r :: ((ioLoop c ph' s e').cons ⟨cl, a⟩).rest ∧
          Decides c cl' r ((ioLoop c ph' s e').cons ⟨cl, a⟩).fin := by
      intro ph' e' cl hcl h'
      obtain ⟨pre, cl', r, h1, h2, h3, h4⟩ := ih ph' e' h'
      refine ⟨⟨cl, a⟩ :: pre, cl', r, by simp [LoopR.cons, h1], ?_, by simp [LoopR.cons, ← h3], h4⟩
      intro ev hev
      rcases List.mem_cons.1 hev with rfl | hev
      · exact hcl
      · exact h2 ev hev
    cases ph with
    | wait =>
      rw [ioLoop_wait_cons] at h ⊢
      split at h
      · exact absurd rfl (h _)
      rename_i hsys
      simp only [hsys, if_false] at h ⊢
      cases hp : pollStep a e with
      | again e' => simp only [hp] at h ⊢; exact step _ _ _ (.inl rfl) h
      | ready => simp only [hp] at h ⊢; exact step _ _ _ (.inl rfl) h
      | fail pe e' => exact ⟨[], c.poll, a, by simp, by simp, by simp, .inr ⟨rfl, pollStep_fail hp⟩⟩
    | data =>
      rw [ioLoop_data_cons] at h ⊢
      split at h
      · exact absurd rfl (h _)
      rename_i hsys
      simp only [hsys, if_false] at h ⊢
      have hsys : a.sys = c.call.sys := by simpa using hsys
      cases hd : dataStep c a with
      | done => exact ⟨[], c.call, a, by simp, by simp, by simp, rfl, rfl, dataStep_done hd, hsys⟩
      | again e' => simp only [hd] at h ⊢; exact step _ _ _ (.inr ⟨rfl, dataStep_again hd⟩) h
      | fail pe e' => exact ⟨[], c.call, a, by simp, by simp, by simp, .inl ⟨rfl, dataStep_fail hd⟩⟩

/-- when a loop ends with `done r`: `r` is the answer to the *last* call made, that call is the data
    call, every earlier data call had failed, and the script is untouched behind `r` -/
theorem ioLoop_done (c : LoopCfg) (hpc : c.poll ≠ c.call) (ph : Phase) (s : List Res) (e : Int) (r : Res)
    (h : (ioLoop c ph s e).fin = .done r) :
      ∃ pre : List Ev,
        (ioLoop c ph s e).evs = pre ++ [⟨c.call, r⟩] ∧
        (∀ ev ∈ pre, ev.call = c.call → ev.res.failed = true) ∧
        r.failed = false ∧ r.sys = c.call.sys ∧
        s = pre.map (·.res) ++ r :: (ioLoop c ph s e).rest := by
  obtain ⟨pre, cl, r', h1, h2, h3, h4⟩ := ioLoop_ended c ph s e (fun w hw => by rw [h] at hw; cases hw)
  rw [h] at h4
  obtain ⟨rfl, rfl, hf, hs⟩ := h4
  exact ⟨pre, h1, fun ev hev hc => (h2 ev hev).elim (fun hp => absurd (hp.symm.trans hc) hpc) (·.2), hf, hs, h3⟩

theorem ioLoop_failed (c : LoopCfg) (ph : Phase) (s : List Res) (e : Int) (pe : PErr)
    (h : (ioLoop c ph s e).fin = .fail pe) :
    ∀ ev ∈ (ioLoop c ph s e).evs, ev.call = c.poll ∨ (ev.call = c.call ∧ ev.res.failed = true) := by
  obtain ⟨pre, cl, r, h1, h2, -, h4⟩ := ioLoop_ended c ph s e (fun w hw => by rw [h] at hw; cases hw)
  rw [h] at h4
  intro ev hev
  rw [h1] at hev
  rcases List.mem_append.1 hev with hev | hev
  · exact h2 ev hev
  · obtain rfl := List.mem_singleton.1 hev
    exact h4.elim (fun h => .inr ⟨h.1, h.2.1⟩) (fun h => .inl h.1)

/-- an error that comes out of a retry loop never carries EINTR, and in blocking mode a would-block
    code is never that of the data call (only `poll` itself failing with it is reported) — unless the
    native code is a *stale* `errno` (poll returned 0 or > 1) -/
theorem ioLoop_fail_native (c : LoopCfg) (ph : Phase) (s : List Res) (e : Int) (pe : PErr)
    (h : (ioLoop c ph s e).fin = .fail pe) (hst : pe.stale = false) :
      pe.native ≠ EINTR ∧ (c.blocking = true → ioFromSystem pe.native = P_ERROR_IO_WOULD_BLOCK → pe.msg = msgPollFailed) := by
  obtain ⟨pre, cl, r, -, -, -, h4⟩ := ioLoop_ended c ph s e (fun w hw => by rw [h] at hw; cases hw)
  rw [h] at h4
  rcases h4 with ⟨-, -, -, -, h1, h2⟩ | ⟨-, ⟨-, -, h1⟩ | ⟨h1, h2⟩⟩
  · exact ⟨h1, fun hb hw => absurd ⟨hb, hw⟩ h2⟩
  · rw [hst] at h1; cases h1
  · exact ⟨h2 hst, fun _ _ => h1⟩

/-- a loop that fails with the time-out error did so on a `poll` that returned 0 (its last call) -/
theorem ioLoop_timeout_from_poll0 (c : LoopCfg) (ph : Phase) (s : List Res) (e : Int) (pe : PErr)
    (h : (ioLoop c ph s e).fin = .fail pe) (hm : pe.msg = msgTimedOut) (hne : c.failMsg ≠ msgTimedOut) :
      ∃ r, (ioLoop c ph s e).evs.getLast? = some ⟨c.poll, r⟩ ∧ r.ret = .ok 0 := by
  obtain ⟨pre, cl, r, h1, -, -, h4⟩ := ioLoop_ended c ph s e (fun w hw => by rw [h] at hw; cases hw)
  rw [h] at h4
  rcases h4 with ⟨-, -, h2, -⟩ | ⟨rfl, ⟨h2, -⟩ | ⟨h2, -⟩⟩
  · exact absurd (h2.symm.trans hm) hne
  · exact ⟨r, by simp [h1], h2⟩
  · rw [hm] at h2; exact absurd h2 (by decide)

/-! ### `p_socket_io_condition_wait`'s loop is the wait phase of any data loop -/

theorem pollLoop_as_ioLoop (call : Issued) (s : List Res) (e : Int) (pe : PErr) (h : (pollLoop call s e).fin = .fail pe) :
    ioLoop ⟨true, call, call, msgPollFailed⟩ .wait s e = pollLoop call s e := by
  rw [ioLoop_wait_eq]; simp [afterWait, h]

theorem pollLoop_fail_native (call : Issued) (s : List Res) (e : Int) (pe : PErr)
    (h : (pollLoop call s e).fin = .fail pe) (hst : pe.stale = false) : pe.native ≠ EINTR :=
  (ioLoop_fail_native _ .wait s e pe (by rw [pollLoop_as_ioLoop call s e pe h]; exact h) hst).1

theorem pollLoop_timeout_from_poll0 (call : Issued) (s : List Res) (e : Int) (pe : PErr)
    (h : (pollLoop call s e).fin = .fail pe) (hm : pe.msg = msgTimedOut) :
      ∃ r, (pollLoop call s e).evs.getLast? = some ⟨call, r⟩ ∧ r.ret = .ok 0 := by
  have := ioLoop_timeout_from_poll0 ⟨true, call, call, msgPollFailed⟩ .wait s e pe
  rw [pollLoop_as_ioLoop call s e pe h] at this
  exact this h hm (show msgPollFailed ≠ msgTimedOut by decide)

theorem pollLoop_fail_msg (call : Issued) (s : List Res) (e : Int) (pe : PErr)
    (h : (pollLoop call s e).fin = .fail pe) : pe.msg = msgTimedOut ∨ pe.msg = msgPollFailed := by
  obtain ⟨pre, cl, r, -, -, -, h4⟩ := ioLoop_ended ⟨true, call, call, msgPollFailed⟩ .wait s e
    (fun w hw => by rw [pollLoop_as_ioLoop call s e pe h, h] at hw; cases hw)
  rw [pollLoop_as_ioLoop call s e pe h, h] at h4
  rcases h4 with ⟨-, -, h2, -⟩ | ⟨-, ⟨-, h2, -⟩ | ⟨h2, -⟩⟩
  · exact .inr h2
  · exact .inl h2
  · exact .inr h2

theorem connLoop_dropConnEintr (call : Issued) : ∀ (s : List Res) (e : Int),
    (connLoop call s e).obs = (connLoop call (dropConnEintr s e).1 (dropConnEintr s e).2).obs := by
  intro s
  induction s with
  | nil => intro e; simp [dropConnEintr]
  | cons r s ih =>
    intro e
    by_cases h : r.sys = .connect ∧ r.ret = .err EINTR
    · simp only [dropConnEintr, h, and_self, if_true]
      rw [← ih]
      simp [connLoop, h.1, h.2]
    · simp [dropConnEintr, h]


/-- same error, except that what was read from a stale `errno` is not compared (the native code of the
    time-out error; code and native code of the error for an out-of-contract `poll` result > 1) -/
def PErr.eqv (a b : PErr) : Prop :=
  a.msg = b.msg ∧ a.stale = b.stale ∧ (a.stale = false → a.code = b.code ∧ a.native = b.native) ∧
  (a.msg = msgTimedOut → a.code = b.code)

theorem PErr.eqv_refl (a : PErr) : a.eqv a := ⟨rfl, rfl, fun _ => ⟨rfl, rfl⟩, fun _ => rfl⟩

def LoopEnd.eqv : LoopEnd → LoopEnd → Prop
  | .done a, .done b => a = b
  | .stop a, .stop b => a = b
  | .fail a, .fail b => a.eqv b
  | _, _ => False

theorem pollStep_errno (r : Res) (e e' : Int) :
    match pollStep r e, pollStep r e' with
    | .again a, .again b => a = b
    | .ready, .ready => True
    | .fail p a, .fail q b => p.eqv q ∧ (p.stale = false → a = b)
    | _, _ => False := by
  unfold pollStep
  cases r.ret with
  | err x => by_cases h : x = EINTR <;> simp [h, PErr.eqv]
  | ok v =>
    by_cases h1 : v = 1
    · simp [h1]
    · by_cases h0 : v = 0 <;> simp [h1, h0, PErr.eqv, msgPollFailed, msgTimedOut]

/-- the loop of `p_socket_io_condition_wait` does not depend on the `errno` it starts with, except
    through the stale native code of its time-out error -/
theorem pollLoop_errno (call : Issued) : ∀ (t : List Res) (e e' : Int),
    (pollLoop call t e).fin.eqv (pollLoop call t e').fin ∧ (pollLoop call t e).rest = (pollLoop call t e').rest ∧
    (pollLoop call t e).evs = (pollLoop call t e').evs := by
  intro t
  induction t with
  | nil => intro e e'; simp [pollLoop, LoopEnd.eqv]
  | cons r t ih =>
    intro e e'
    rw [pollLoop_cons, pollLoop_cons]
    by_cases hs : r.sys ≠ .poll
    · simp [hs, LoopEnd.eqv]
    · simp only [hs, if_false]
      have := pollStep_errno r e e'
      cases h1 : pollStep r e <;> cases h2 : pollStep r e' <;> simp only [h1, h2] at this ⊢
      · subst this
        rename_i a
        simp only [LoopR.cons]
        exact ⟨(ih a a).1, by simp⟩
      · simp [LoopEnd.eqv]
      · exact ⟨this.1, by simp⟩

end PV.Socket
