import PV.Lemmas.Tree.Variant
/-!
Red-black: the fix-ups after insertion and removal keep the in-order listing and the colour invariant, so the
red-black tree refines the sorted map and never dereferences NULL.

Both recursions are read one level at a time: `upL` / `upR` is one iteration of the loop of
`pp_tree_rb_balance_insert`, `rebalL` / `rebalR` one of `pp_tree_rb_balance_remove`, as seen from the node whose
subtree comes back changed.  `InsOK` / `DelOK` say what comes back; each level turns the promise about its subtree
into the promise about itself.  At the end the C13 bounds: `RT.pow_bh_le_size`, `RT.height_le_two_bh`.
-/
namespace PV.Tree
open Std

variable {κ ν : Type} {cmp : κ → κ → Ordering}

namespace RT

@[simp] theorem toList_nil : (nil : RT κ ν).toList = [] := rfl
@[simp] theorem toList_node (l : RT κ ν) (k : κ) (v : ν) (c : Color) (r : RT κ ν) :
    (node l k v c r).toList = l.toList ++ (k, v) :: r.toList := rfl
@[simp] theorem toList_paint (c : Color) (t : RT κ ν) : (paint c t).toList = t.toList := by
  cases t <;> rfl

@[simp] theorem bh_nil : (nil : RT κ ν).bh = 0 := rfl
@[simp] theorem bh_black (l : RT κ ν) (k : κ) (v : ν) (r : RT κ ν) :
    (node l k v .black r).bh = l.bh + 1 := rfl
@[simp] theorem bh_red (l : RT κ ν) (k : κ) (v : ν) (r : RT κ ν) :
    (node l k v .red r).bh = l.bh := rfl

@[simp] theorem isBlack_nil : (nil : RT κ ν).isBlack = true := rfl
@[simp] theorem isBlack_black (l : RT κ ν) (k : κ) (v : ν) (r : RT κ ν) :
    (node l k v .black r).isBlack = true := rfl
@[simp] theorem isBlack_red (l : RT κ ν) (k : κ) (v : ν) (r : RT κ ν) :
    (node l k v .red r).isBlack = false := rfl
@[simp] theorem isRedNode_nil : (nil : RT κ ν).isRedNode = false := rfl
@[simp] theorem isRedNode_black (l : RT κ ν) (k : κ) (v : ν) (r : RT κ ν) :
    (node l k v .black r).isRedNode = false := rfl
@[simp] theorem isRedNode_red (l : RT κ ν) (k : κ) (v : ν) (r : RT κ ν) :
    (node l k v .red r).isRedNode = true := rfl

theorem isRedNode_eq (t : RT κ ν) : t.isRedNode = !t.isBlack := by
  cases t with
  | nil => rfl
  | node l k v c r => cases c <;> rfl

@[simp] theorem Bal_nil : (nil : RT κ ν).Bal := trivial
@[simp] theorem Bal_black (l : RT κ ν) (k : κ) (v : ν) (r : RT κ ν) :
    (node l k v .black r).Bal ↔ l.Bal ∧ r.Bal ∧ l.bh = r.bh := by simp [Bal]
@[simp] theorem Bal_red (l : RT κ ν) (k : κ) (v : ν) (r : RT κ ν) :
    (node l k v .red r).Bal ↔ l.Bal ∧ r.Bal ∧ l.bh = r.bh ∧ l.isBlack = true ∧ r.isBlack = true := by
  simp [Bal]

theorem Bal_paint_black {t : RT κ ν} (h : t.Bal) : (paint .black t).Bal := by
  cases t with
  | nil => trivial
  | node l k v c r => exact ⟨h.1, h.2.1, h.2.2.1, nofun⟩

theorem isBlack_paint_black (t : RT κ ν) : (paint .black t).isBlack = true := by
  cases t <;> rfl

theorem red_of_not_black {t : RT κ ν} (h : t.isBlack = false) : ∃ l k v r, t = node l k v .red r := by
  cases t with
  | nil => cases h
  | node l k v c r =>
    cases c with
    | red => exact ⟨_, _, _, _, rfl⟩
    | black => cases h

theorem bh_paint_black_of_red {t : RT κ ν} (h : t.isBlack = false) : (paint .black t).bh = t.bh + 1 := by
  obtain ⟨_, _, _, _, rfl⟩ := red_of_not_black h
  rfl

theorem black_of_isBlack {l r : RT κ ν} {k : κ} {v : ν} {c : Color} (h : (node l k v c r).isBlack = true) :
    c = .black := by
  cases c with
  | red => cases h
  | black => rfl

/-- what the node `node _ k v c r` does when its left subtree comes back as `l'` in state `st` -/
def upL (l' : RT κ ν) (st : InsSt) (k : κ) (v : ν) (c : Color) (r : RT κ ν) : Option (RT κ ν × InsSt) :=
  match st with
  | .done => some (node l' k v c r, .done)
  | .node => some (node l' k v c r, atParent .left (node l' k v c r))
  | .child d => atGparentL l' k v r d

def upR (l : RT κ ν) (k : κ) (v : ν) (c : Color) (r' : RT κ ν) (st : InsSt) : Option (RT κ ν × InsSt) :=
  match st with
  | .done => some (node l k v c r', .done)
  | .node => some (node l k v c r', atParent .right (node l k v c r'))
  | .child d => atGparentR l k v r' d

theorem insAux_node {l r : RT κ ν} {k x : κ} {v y : ν} {c : Color} :
    insAux cmp (node l k v c r) x y =
      match cmp x k with
      | .lt => (insAux cmp l x y).bind fun p => (upL p.1 p.2.1 k v c r).map fun q => (q.1, q.2, p.2.2)
      | .gt => (insAux cmp r x y).bind fun p => (upR l k v c p.1 p.2.1).map fun q => (q.1, q.2, p.2.2)
      | .eq => some (node l x y c r, .done, false, [(k, v)]) := by
  rw [insAux]
  cases cmp x k
  · cases insAux cmp l x y with
    | none => rfl
    | some p => obtain ⟨l', st, a, d⟩ := p; cases st <;> rfl
  · rfl
  · cases insAux cmp r x y with
    | none => rfl
    | some p => obtain ⟨r', st, a, d⟩ := p; cases st <;> rfl

/-- side condition of the "red parent with a red `d` child" state -/
def RedChild (d : Dir) (a b : RT κ ν) : Prop :=
  match d with
  | .left => a.isBlack = false ∧ b.isBlack = true
  | .right => a.isBlack = true ∧ b.isBlack = false

/-- what `insAux` promises about the subtree `t'` it hands upward in place of `t` -/
def InsOK (t t' : RT κ ν) (st : InsSt) : Prop :=
  t'.bh = t.bh ∧
  match st with
  | .done => t'.Bal ∧ (t.isBlack = true → t'.isBlack = true)
  | .node => t'.Bal ∧ t'.isBlack = false
  | .child d => t.isBlack = false ∧ ∃ a k v b, t' = node a k v .red b ∧ a.Bal ∧ b.Bal ∧
      a.bh = b.bh ∧ RedChild d a b

/-- Cases 3–5 at the black grandparent end the red-red violation or move it to the grandparent -/
theorem atGparentL_ok {a b u : RT κ ν} {k gk : κ} {v gv : ν} {d : Dir}
    (ha : a.Bal) (hb : b.Bal) (hab : a.bh = b.bh) (hd : RedChild d a b) (hu : u.Bal) (hbh : a.bh = u.bh) :
    ∃ q, atGparentL (node a k v .red b) gk gv u d = some q ∧
      q.1.toList = (node a k v .red b).toList ++ (gk, gv) :: u.toList ∧ q.1.bh = u.bh + 1 ∧ q.1.Bal ∧
      (q.2 = .done ∧ q.1.isBlack = true ∨ q.2 = .node ∧ q.1.isBlack = false) := by
  cases hub : u.isBlack
  · -- Case 3: parent and uncle turn black, the grandparent red: `u.bh + 1` below it on both sides
    obtain ⟨ul, uk, uv, ur, rfl⟩ := red_of_not_black hub
    refine ⟨_, rfl, by simp, ?_⟩
    simp_all [paint]
  · cases d with
    | left =>
      -- Case 5: the parent comes up black over `a` and the red grandparent: `a.bh = b.bh = u.bh` on all four
      refine ⟨_, by simp only [atGparentL, isRedNode_eq, hub]; rfl, by simp, ?_⟩
      simp_all [RedChild]
    | right =>
      -- Case 4 then 5: the red child `node nl _ _ red nr` comes up black; `nl.bh = nr.bh = a.bh = u.bh`
      obtain ⟨nl, nk, nv, nr, rfl⟩ := red_of_not_black hd.2
      refine ⟨_, by simp only [atGparentL, isRedNode_eq, hub]; rfl, by simp, ?_⟩
      simp_all [RedChild]

theorem atGparentR_ok {a b u : RT κ ν} {k gk : κ} {v gv : ν} {d : Dir}
    (ha : a.Bal) (hb : b.Bal) (hab : a.bh = b.bh) (hd : RedChild d a b) (hu : u.Bal) (hbh : a.bh = u.bh) :
    ∃ q, atGparentR u gk gv (node a k v .red b) d = some q ∧
      q.1.toList = u.toList ++ (gk, gv) :: (node a k v .red b).toList ∧ q.1.bh = u.bh + 1 ∧ q.1.Bal ∧
      (q.2 = .done ∧ q.1.isBlack = true ∨ q.2 = .node ∧ q.1.isBlack = false) := by
  cases hub : u.isBlack
  · -- Case 3: parent and uncle turn black, the grandparent red: `u.bh + 1` below it on both sides
    obtain ⟨ul, uk, uv, ur, rfl⟩ := red_of_not_black hub
    refine ⟨_, rfl, by simp, ?_⟩
    simp_all [paint]
  · cases d with
    | right =>
      -- Case 5: the parent comes up black over the red grandparent and `b`: `a.bh = b.bh = u.bh` on all four
      refine ⟨_, by simp only [atGparentR, isRedNode_eq, hub]; rfl, by simp, ?_⟩
      simp_all [RedChild]
    | left =>
      -- Case 4 then 5: the red child `node nl _ _ red nr` comes up black; `nl.bh = nr.bh = b.bh = u.bh`
      obtain ⟨nl, nk, nv, nr, rfl⟩ := red_of_not_black hd.1
      refine ⟨_, by simp only [atGparentR, isRedNode_eq, hub]; rfl, by simp, ?_⟩
      simp_all [RedChild]

theorem upL_ok {l l' r : RT κ ν} {k : κ} {v : ν} {c : Color} {st : InsSt}
    (hb : (node l k v c r).Bal) (ho : InsOK l l' st) :
    ∃ q, upL l' st k v c r = some q ∧ q.1.toList = l'.toList ++ (k, v) :: r.toList ∧
      InsOK (node l k v c r) q.1 q.2 := by
  obtain ⟨hl, hr, he, hc⟩ := hb
  obtain ⟨hbh, ho⟩ := ho
  have hbh' : (node l' k v c r).bh = (node l k v c r).bh := congrArg (· + _) hbh
  cases st with
  | done => exact ⟨_, rfl, rfl, hbh', ⟨ho.1, hr, hbh ▸ he, fun h => ⟨ho.2 (hc h).1, (hc h).2⟩⟩, id⟩
  | node =>
    refine ⟨_, rfl, rfl, hbh', ?_⟩
    cases c with
    | red => exact ⟨rfl, l', k, v, r, rfl, ho.1, hr, hbh ▸ he, ho.2, (hc rfl).2⟩
    | black => exact ⟨⟨ho.1, hr, hbh ▸ he, nofun⟩, id⟩
  | child d =>
    obtain ⟨hlr, a, pk, pv, b, rfl, ha, hb, hab, hd⟩ := ho
    -- the red `l` has a black parent
    obtain rfl : c = .black := by
      cases c with
      | red => exact absurd (hc rfl).1 (by simp [hlr])
      | black => rfl
    obtain ⟨q, hq, h0, h1, h2, h3⟩ := atGparentL_ok (gk := k) (gv := v) ha hb hab hd hr (hbh.trans he)
    refine ⟨q, hq, h0, h1.trans (by rw [bh_black, he]), ?_⟩
    rcases h3 with ⟨e, h3⟩ | ⟨e, h3⟩ <;> rw [e]
    · exact ⟨h2, fun _ => h3⟩
    · exact ⟨h2, h3⟩

theorem upR_ok {l r r' : RT κ ν} {k : κ} {v : ν} {c : Color} {st : InsSt}
    (hb : (node l k v c r).Bal) (ho : InsOK r r' st) :
    ∃ q, upR l k v c r' st = some q ∧ q.1.toList = l.toList ++ (k, v) :: r'.toList ∧
      InsOK (node l k v c r) q.1 q.2 := by
  obtain ⟨hl, hr, he, hc⟩ := hb
  obtain ⟨hbh, ho⟩ := ho
  cases st with
  | done => exact ⟨_, rfl, rfl, rfl, ⟨hl, ho.1, hbh ▸ he, fun h => ⟨(hc h).1, ho.2 (hc h).2⟩⟩, id⟩
  | node =>
    refine ⟨_, rfl, rfl, rfl, ?_⟩
    cases c with
    | red => exact ⟨rfl, l, k, v, r', rfl, hl, ho.1, hbh ▸ he, (hc rfl).1, ho.2⟩
    | black => exact ⟨⟨hl, ho.1, hbh ▸ he, nofun⟩, id⟩
  | child d =>
    obtain ⟨hlr, a, pk, pv, b, rfl, ha, hb, hab, hd⟩ := ho
    obtain rfl : c = .black := by
      cases c with
      | red => exact absurd (hc rfl).2 (by simp [hlr])
      | black => rfl
    obtain ⟨q, hq, h0, h1, h2, h3⟩ := atGparentR_ok (gk := k) (gv := v) ha hb hab hd hl (hbh.trans he.symm)
    refine ⟨q, hq, h0, h1, ?_⟩
    rcases h3 with ⟨e, h3⟩ | ⟨e, h3⟩ <;> rw [e]
    · exact ⟨h2, fun _ => h3⟩
    · exact ⟨h2, h3⟩

theorem insAux_ok [TransCmp cmp] (t : RT κ ν) (x : κ) (y : ν) (hs : SM.Sorted cmp t.toList) (hb : t.Bal) :
    ∃ t' st, insAux cmp t x y =
        some (t', st, (SM.find cmp t.toList x).isNone, (SM.find cmp t.toList x).toList) ∧
      t'.toList = SM.insert cmp t.toList x y ∧ InsOK t t' st := by
  induction t with
  | nil => exact ⟨_, _, rfl, rfl, rfl, ⟨trivial, trivial, rfl, fun _ => ⟨rfl, rfl⟩⟩, rfl⟩
  | node l k v c r ihl ihr =>
    have hs' := SM.sorted_append_cons.mp hs
    rw [toList_node] at hs ⊢
    cases hc : cmp x k with
    | lt =>
      obtain ⟨l', st, hp, hl, ho⟩ := ihl hs'.1 hb.1
      obtain ⟨q, hq, hql, ho'⟩ := upL_ok hb ho
      exact ⟨q.1, q.2, by simp [insAux_node, hc, hp, hq, SM.find_mid_lt hs hc],
        by rw [hql, hl, SM.insert_mid_lt hc], ho'⟩
    | gt =>
      obtain ⟨r', st, hp, hr, ho⟩ := ihr hs'.2.1 hb.2.1
      obtain ⟨q, hq, hql, ho'⟩ := upR_ok hb ho
      exact ⟨q.1, q.2, by simp [insAux_node, hc, hp, hq, SM.find_mid_gt hs hc],
        by rw [hql, hr, SM.insert_mid_gt hs hc], ho'⟩
    | eq =>
      exact ⟨node l x y c r, .done, by simp [insAux_node, hc, SM.find_mid_eq hs hc],
        by rw [SM.insert_mid_eq hs hc]; rfl, rfl, hb, id⟩

theorem ins_ok [TransCmp cmp] (t : RT κ ν) (x : κ) (y : ν) (hi : t.Inv)
    (hs : SM.Sorted cmp t.toList) :
    ∃ t', ins cmp t x y =
        some (t', (SM.find cmp t.toList x).isNone, (SM.find cmp t.toList x).toList) ∧
      t'.toList = SM.insert cmp t.toList x y ∧ t'.Inv := by
  obtain ⟨t', st, h, e, -, ho⟩ := insAux_ok t x y hs hi.2
  simp only [ins, h]
  cases st with
  | done => exact ⟨_, rfl, e, ho.2 hi.1, ho.1⟩
  | node => exact ⟨_, rfl, by rw [toList_paint, e], isBlack_paint_black _, Bal_paint_black ho.1⟩
  | child d => exact absurd hi.1 (by simp [ho.1])


/-- the node `node _ k v c r` takes its left subtree back as `l'`, one black node short if `dfc` -/
def rebalL (l' : RT κ ν) (dfc : Bool) (k : κ) (v : ν) (c : Color) (r : RT κ ν) : Option (RT κ ν × Bool) :=
  if dfc then deficitLeft l' k v c r else some (node l' k v c r, false)

def rebalR (l : RT κ ν) (k : κ) (v : ν) (c : Color) (r' : RT κ ν) (dfc : Bool) : Option (RT κ ν × Bool) :=
  if dfc then deficitRight l k v c r' else some (node l k v c r', false)

theorem delMax_node {l : RT κ ν} {k : κ} {v : ν} {c : Color} {rl rr : RT κ ν} {rk : κ} {rv : ν} {rc : Color} :
    delMax l k v c (node rl rk rv rc rr) =
      (delMax rl rk rv rc rr).bind fun p => (rebalR l k v c p.1 p.2.1).map fun q => (q.1, q.2, p.2.2) := by
  rw [delMax]
  cases delMax rl rk rv rc rr with
  | none => rfl
  | some p => obtain ⟨r', dfc, p⟩ := p; cases dfc <;> rfl

theorem delAux_lt {l r : RT κ ν} {k x : κ} {v : ν} {c : Color} (hc : cmp x k = .lt) :
    delAux cmp (node l k v c r) x =
      (delAux cmp l x).bind fun p => (rebalL p.1 p.2.1 k v c r).map fun q => (q.1, q.2, p.2.2) := by
  simp only [delAux, hc]
  cases delAux cmp l x with
  | none => rfl
  | some p => obtain ⟨l', dfc, f, d⟩ := p; cases dfc <;> rfl

theorem delAux_gt {l r : RT κ ν} {k x : κ} {v : ν} {c : Color} (hc : cmp x k = .gt) :
    delAux cmp (node l k v c r) x =
      (delAux cmp r x).bind fun p => (rebalR l k v c p.1 p.2.1).map fun q => (q.1, q.2, p.2.2) := by
  simp only [delAux, hc]
  cases delAux cmp r x with
  | none => rfl
  | some p => obtain ⟨r', dfc, f, d⟩ := p; cases dfc <;> rfl

/-- the node found has two children: it takes the pair of its in-order predecessor, whose node is unlinked -/
theorem delAux_eq_node {ll lr r : RT κ ν} {k lk x : κ} {v lv : ν} {c lc : Color} (hc : cmp x k = .eq)
    (hr : r ≠ nil) :
    delAux cmp (node (node ll lk lv lc lr) k v c r) x =
      (delMax ll lk lv lc lr).bind fun p =>
        (rebalL p.1 p.2.1 p.2.2.1 p.2.2.2 c r).map fun q => (q.1, q.2, true, [(k, v)]) := by
  cases r with
  | nil => exact absurd rfl hr
  | node rl rk rv rc rr =>
    simp only [delAux, hc]
    cases delMax ll lk lv lc lr with
    | none => rfl
    | some p => obtain ⟨l', dfc, p⟩ := p; cases dfc <;> rfl

theorem delAux_eq_unlink {l r : RT κ ν} {k x : κ} {v : ν} {c : Color} (hc : cmp x k = .eq)
    (h : l = nil ∨ r = nil) :
    delAux cmp (node l k v c r) x = some ((unlink l c r).1, (unlink l c r).2, true, [(k, v)]) := by
  cases l with
  | nil => simp only [delAux, hc]
  | node ll lk lv lc lr =>
    obtain rfl : r = nil := h.resolve_left nofun
    simp only [delAux, hc]

theorem childless_or (l r : RT κ ν) :
    (l = nil ∨ r = nil) ∨ ∃ ll lk lv lc lr, l = node ll lk lv lc lr ∧ r ≠ nil := by
  cases l with
  | nil => exact .inl (.inl rfl)
  | node ll lk lv lc lr =>
    cases r with
    | nil => exact .inl (.inr rfl)
    | node rl rk rv rc rr => exact .inr ⟨_, _, _, _, _, rfl, nofun⟩

/-- what the removal functions promise about the subtree `t'` they hand upward in place of `t`: balanced, one black
    node short exactly when they say so, and black if `t` was -/
def DelOK (t t' : RT κ ν) (dfc : Bool) : Prop :=
  t'.Bal ∧ t'.bh + dfc.toNat = t.bh ∧ (t.isBlack = true → t'.isBlack = true)

/-- the same for the fix-up of a node of colour `pc` whose child `n` is one black node short of its sibling -/
def FixOK (n : RT κ ν) (pc : Color) (q : RT κ ν × Bool) : Prop :=
  q.1.Bal ∧ q.1.bh + q.2.toNat = n.bh + 1 + (if pc = .black then 1 else 0) ∧
    (pc = .red → q.2 = false) ∧ (pc = .black → q.1.isBlack = true)

/-- Cases 3–5, `node` on the left: `n` is one black node short of its black sibling `s` -/
theorem fixLeft345_ok {n s : RT κ ν} (pk : κ) (pv : ν) (pc : Color)
    (hn : n.Bal) (hs : s.Bal) (hbh : s.bh = n.bh + 1) (hsb : s.isBlack = true) :
    ∃ q, fixLeft345 n pk pv pc s = some q ∧ q.1.toList = n.toList ++ (pk, pv) :: s.toList ∧ FixOK n pc q := by
  cases s with
  | nil => cases hbh
  | node sl sk sv sc sr =>
    obtain rfl := black_of_isBlack hsb
    obtain ⟨hsl, hsr, he, -⟩ := hs
    have hbh : sl.bh = n.bh := Nat.succ.inj hbh
    cases hrb : sr.isBlack with
    | false =>
      -- Case 5: both halves get `n.bh + 1` (the red nephew is painted black), the root keeps `pc`
      refine ⟨_, by simp only [fixLeft345, hrb, Bool.and_false]; rfl, by simp, ?_⟩
      have := bh_paint_black_of_red hrb
      have := Bal_paint_black hsr
      cases pc <;> simp_all [FixOK, isBlack_paint_black]
    | true =>
      cases hlb : sl.isBlack with
      | false =>
        -- Case 4: the red nephew `node a _ _ red b` comes up with `pc`; both halves get `n.bh + 1`
        obtain ⟨a, ak, av, b, rfl⟩ := red_of_not_black hlb
        refine ⟨_, by simp only [fixLeft345, hrb, hlb, Bool.and_true]; rfl, by simp, ?_⟩
        cases pc <;> simp_all [FixOK]
      | true =>
        -- Case 3: the sibling turns red, the subtree has `n.bh + 1`: one short exactly when `pc` was black
        cases pc <;>
          exact ⟨_, by simp only [fixLeft345, hrb, hlb, Bool.and_true]; rfl, by simp, by simp_all [FixOK]⟩

theorem fixRight345_ok {n s : RT κ ν} (pk : κ) (pv : ν) (pc : Color)
    (hn : n.Bal) (hs : s.Bal) (hbh : s.bh = n.bh + 1) (hsb : s.isBlack = true) :
    ∃ q, fixRight345 s pk pv pc n = some q ∧ q.1.toList = s.toList ++ (pk, pv) :: n.toList ∧ FixOK n pc q := by
  cases s with
  | nil => cases hbh
  | node sl sk sv sc sr =>
    obtain rfl := black_of_isBlack hsb
    obtain ⟨hsl, hsr, he, -⟩ := hs
    have hbh : sl.bh = n.bh := Nat.succ.inj hbh
    cases hlb : sl.isBlack with
    | false =>
      -- Case 5: both halves get `n.bh + 1` (the red nephew is painted black), the root keeps `pc`
      refine ⟨_, by simp only [fixRight345, hlb, Bool.false_and]; rfl, by simp, ?_⟩
      have := bh_paint_black_of_red hlb
      have := Bal_paint_black hsl
      cases pc <;> simp_all [FixOK, isBlack_paint_black]
    | true =>
      cases hrb : sr.isBlack with
      | false =>
        -- Case 4: the red nephew `node a _ _ red b` comes up with `pc`; both halves get `n.bh + 1`
        obtain ⟨a, ak, av, b, rfl⟩ := red_of_not_black hrb
        refine ⟨_, by simp only [fixRight345, hrb, hlb, Bool.true_and]; rfl, by simp, ?_⟩
        cases pc <;> simp_all [FixOK]
      | true =>
        -- Case 3: the sibling turns red, the subtree has `n.bh + 1`: one short exactly when `pc` was black
        cases pc <;>
          exact ⟨_, by simp only [fixRight345, hrb, hlb, Bool.true_and]; rfl, by simp, by simp_all [FixOK]⟩

theorem deficitLeft_ok {n s : RT κ ν} (pk : κ) (pv : ν) (pc : Color)
    (hn : n.Bal) (hs : s.Bal) (hbh : s.bh = n.bh + 1) (hc : pc = .red → s.isBlack = true) :
    ∃ q, deficitLeft n pk pv pc s = some q ∧ q.1.toList = n.toList ++ (pk, pv) :: s.toList ∧ FixOK n pc q := by
  cases s with
  | nil => cases hbh
  | node sl sk sv sc sr =>
    cases sc with
    | black => exact fixLeft345_ok pk pv pc hn hs hbh rfl
    | red =>
      -- Case 2: the red sibling goes up, `p` turns red and meets the black nephew `sl`
      obtain rfl : pc = .black := by
        cases pc with
        | red => cases hc rfl
        | black => rfl
      obtain ⟨hsl, hsr, he, hlb, hrb⟩ := (Bal_red ..).1 hs
      obtain ⟨⟨p', dfc⟩, h, h0, h1, h2, h3, -⟩ := fixLeft345_ok pk pv .red hn hsl hbh hlb
      obtain rfl : dfc = false := h3 rfl
      refine ⟨_, by simp only [deficitLeft, h]; rfl, by simp [h0], ?_⟩
      simp_all [FixOK]

theorem deficitRight_ok {n s : RT κ ν} (pk : κ) (pv : ν) (pc : Color)
    (hn : n.Bal) (hs : s.Bal) (hbh : s.bh = n.bh + 1) (hc : pc = .red → s.isBlack = true) :
    ∃ q, deficitRight s pk pv pc n = some q ∧ q.1.toList = s.toList ++ (pk, pv) :: n.toList ∧ FixOK n pc q := by
  cases s with
  | nil => cases hbh
  | node sl sk sv sc sr =>
    cases sc with
    | black => exact fixRight345_ok pk pv pc hn hs hbh rfl
    | red =>
      obtain rfl : pc = .black := by
        cases pc with
        | red => cases hc rfl
        | black => rfl
      obtain ⟨hsl, hsr, he, hlb, hrb⟩ := (Bal_red ..).1 hs
      obtain ⟨⟨p', dfc⟩, h, h0, h1, h2, h3, -⟩ := fixRight345_ok pk pv .red hn hsr (he ▸ hbh) hrb
      obtain rfl : dfc = false := h3 rfl
      refine ⟨_, by simp only [deficitRight, h]; rfl, by simp [h0], ?_⟩
      simp_all [FixOK]

theorem rebalL_ok {l l' r : RT κ ν} {k : κ} {v : ν} {c : Color} {dfc : Bool} (k' : κ) (v' : ν)
    (hb : (node l k v c r).Bal) (ho : DelOK l l' dfc) :
    ∃ q, rebalL l' dfc k' v' c r = some q ∧ q.1.toList = l'.toList ++ (k', v') :: r.toList ∧
      DelOK (node l k v c r) q.1 q.2 := by
  obtain ⟨-, hr, he, hc⟩ := hb
  obtain ⟨h1, h2, h3⟩ := ho
  cases dfc with
  | false =>
    have h2 : l'.bh = l.bh := h2
    exact ⟨_, rfl, rfl, ⟨h1, hr, h2.trans he, fun h => ⟨h3 (hc h).1, (hc h).2⟩⟩,
      show (node l' k' v' c r).bh = (node l k v c r).bh from congrArg (· + _) h2, id⟩
  | true =>
    obtain ⟨q, hq, g0, g1, g2, -, g3⟩ := deficitLeft_ok k' v' c h1 hr (he ▸ h2.symm) (fun h => (hc h).2)
    exact ⟨q, hq, g0, g1, g2.trans (congrArg (· + _) h2), fun h => g3 (black_of_isBlack h)⟩

theorem rebalR_ok {l r r' : RT κ ν} {k : κ} {v : ν} {c : Color} {dfc : Bool}
    (hb : (node l k v c r).Bal) (ho : DelOK r r' dfc) :
    ∃ q, rebalR l k v c r' dfc = some q ∧ q.1.toList = l.toList ++ (k, v) :: r'.toList ∧
      DelOK (node l k v c r) q.1 q.2 := by
  obtain ⟨hl, -, he, hc⟩ := hb
  obtain ⟨h1, h2, h3⟩ := ho
  cases dfc with
  | false => exact ⟨_, rfl, rfl, ⟨hl, h1, he.trans h2.symm, fun h => ⟨(hc h).1, h3 (hc h).2⟩⟩, rfl, id⟩
  | true =>
    obtain ⟨q, hq, g0, g1, g2, -, g3⟩ := deficitRight_ok k v c h1 hl (he.trans h2.symm) (fun h => (hc h).1)
    exact ⟨q, hq, g0, g1, g2.trans (congrArg (· + _) (h2.trans he.symm)), fun h => g3 (black_of_isBlack h)⟩

theorem red_of_bh_zero {t : RT κ ν} (h : t.bh = 0) (hne : t ≠ nil) : t.isBlack = false := by
  cases t with
  | nil => exact absurd rfl hne
  | node l k v c r =>
    cases c with
    | red => rfl
    | black => cases h

/-- a node with at most one child: the child, if any, is a red leaf, and it is painted black in a black node's place -/
theorem unlink_ok {l r : RT κ ν} {k : κ} {v : ν} {c : Color} (hb : (node l k v c r).Bal)
    (h : l = nil ∨ r = nil) :
    (unlink l c r).1.toList = l.toList ++ r.toList ∧ DelOK (node l k v c r) (unlink l c r).1 (unlink l c r).2 := by
  cases l with
  | nil =>
    cases r with
    | nil => cases c <;> simp [unlink, DelOK]
    | node rl rk rv rc rr =>
      -- `r.bh = nil.bh = 0`, so `r` is red, `c` black, and the painted `r` has the black height `1` of the node
      obtain ⟨_, _, _, _, e⟩ := red_of_not_black (red_of_bh_zero hb.2.2.1.symm nofun)
      cases c <;> simp_all [unlink, paint, DelOK]
  | node ll lk lv lc lr =>
    obtain rfl : r = nil := h.resolve_left nofun
    obtain ⟨_, _, _, _, e⟩ := red_of_not_black (red_of_bh_zero hb.2.2.1 nofun)
    cases c <;> simp_all [unlink, paint, DelOK]

theorem delMax_ok (r : RT κ ν) : ∀ (l : RT κ ν) (k : κ) (v : ν) (c : Color), (node l k v c r).Bal →
    ∃ q, delMax l k v c r = some q ∧ q.1.toList ++ [q.2.2] = l.toList ++ (k, v) :: r.toList ∧
      DelOK (node l k v c r) q.1 q.2.1 := by
  induction r with
  | nil =>
    intro l k v c hb
    have ⟨e, ho⟩ := unlink_ok hb (.inr rfl)
    exact ⟨((unlink l c nil).1, (unlink l c nil).2, (k, v)), rfl, by simp [e], ho⟩
  | node rl rk rv rc rr _ ihr =>
    intro l k v c hb
    obtain ⟨p, hp, e, ho⟩ := ihr rl rk rv rc hb.2.1
    obtain ⟨q, hq, e', ho'⟩ := rebalR_ok hb ho
    exact ⟨(q.1, q.2, p.2.2), by simp only [delMax_node, hp, Option.bind_some, hq, Option.map_some],
      by simp [e', ← e], ho'⟩

theorem delAux_ok [TransCmp cmp] (t : RT κ ν) (x : κ) (hs : SM.Sorted cmp t.toList) (hb : t.Bal) :
    ∃ t' dfc, delAux cmp t x =
        some (t', dfc, (SM.find cmp t.toList x).isSome, (SM.find cmp t.toList x).toList) ∧
      t'.toList = SM.erase cmp t.toList x ∧ DelOK t t' dfc := by
  induction t with
  | nil => exact ⟨_, _, rfl, rfl, trivial, rfl, id⟩
  | node l k v c r ihl ihr =>
    have hs' := SM.sorted_append_cons.mp hs
    rw [toList_node] at hs ⊢
    cases hc : cmp x k with
    | lt =>
      obtain ⟨l', dfc, hp, hl, ho⟩ := ihl hs'.1 hb.1
      obtain ⟨q, hq, hql, ho'⟩ := rebalL_ok k v hb ho
      exact ⟨q.1, q.2, by simp [delAux_lt hc, hp, hq, SM.find_mid_lt hs hc],
        by rw [hql, hl, SM.erase_mid_lt hc], ho'⟩
    | gt =>
      obtain ⟨r', dfc, hp, hr, ho⟩ := ihr hs'.2.1 hb.2.1
      obtain ⟨q, hq, hql, ho'⟩ := rebalR_ok hb ho
      exact ⟨q.1, q.2, by simp [delAux_gt hc, hp, hq, SM.find_mid_gt hs hc],
        by rw [hql, hr, SM.erase_mid_gt hs hc], ho'⟩
    | eq =>
      rw [SM.find_mid_eq hs hc, SM.erase_mid_eq hs hc]
      rcases childless_or l r with hor | ⟨ll, lk, lv, lc, lr, rfl, hr⟩
      · have ⟨e, ho⟩ := unlink_ok hb hor
        exact ⟨_, _, delAux_eq_unlink hc hor, e, ho⟩
      · obtain ⟨p, hp, e, ho⟩ := delMax_ok lr ll lk lv lc hb.1
        obtain ⟨q, hq, hql, ho'⟩ := rebalL_ok p.2.2.1 p.2.2.2 hb ho
        exact ⟨q.1, q.2, by simp [delAux_eq_node hc hr, hp, hq], by simp [hql, ← e], ho'⟩

theorem del_ok [TransCmp cmp] (t : RT κ ν) (x : κ) (hi : t.Inv) (hs : SM.Sorted cmp t.toList) :
    ∃ t', del cmp t x =
        some (t', (SM.find cmp t.toList x).isSome, (SM.find cmp t.toList x).toList) ∧
      t'.toList = SM.erase cmp t.toList x ∧ t'.Inv := by
  obtain ⟨t', dfc, h, e, h1, -, h3⟩ := delAux_ok t x hs hi.2
  exact ⟨t', by simp only [del, h, Option.map_some], e, h3 hi.1, h1⟩

end RT

def rbV (cmp : κ → κ → Ordering) : Variant (RT κ ν) κ ν := ⟨RT.toBT, .nil, RT.ins cmp, RT.del cmp⟩

theorem rbStep_eq (s : RT κ ν × Int) (op : Op κ ν) : (rbV cmp).step cmp s op = rbStep cmp s op := by
  cases op <;> rfl

theorem rbRun_eq (s : RT κ ν × Int) (ops : List (Op κ ν)) : (rbV cmp).run cmp s ops = rbRun cmp s ops := by
  induction ops generalizing s with
  | nil => rfl
  | cons op ops ih =>
    simp only [Variant.run, rbStep_eq, rbRun]
    cases rbStep cmp s op with
    | none => rfl
    | some r => simp only [Option.bind_some, ih]; cases rbRun cmp r.1 ops <;> rfl

theorem rbV_refines [TransCmp cmp] : (rbV (ν := ν) cmp).Refines cmp RT.Inv :=
  ⟨⟨⟨rfl, trivial⟩, rfl⟩, fun t k v hi hs => RT.ins_ok t k v hi hs, fun t k hi hs => RT.del_ok t k hi hs⟩

theorem rbRun_refines [TransCmp cmp] (ops : List (Op κ ν)) (t : RT κ ν)
    (ho : t.toBT.Ordered cmp) (hi : t.Inv) :
    ∃ s, rbRun cmp (t, t.toList.length) ops = some (s, (specRun cmp t.toList ops).2) ∧
      s.1.toList = (specRun cmp t.toList ops).1 ∧ s.1.Inv :=
  rbRun_eq (cmp := cmp) .. ▸ Variant.run_refines rbV_refines ops (t, t.toList.length) ⟨hi, ho, rfl⟩

/-- a red-black tree with black height `bh` has at least `2^bh − 1` nodes -/
theorem RT.pow_bh_le_size (t : RT κ ν) (hb : t.Bal) : 2 ^ t.bh ≤ t.size + 1 := by
  induction t with
  | nil => exact Nat.le_refl 1
  | node l k v c r ihl ihr =>
    have hl := ihl hb.1
    have hr := ihr hb.2.1
    rw [← hb.2.2.1] at hr
    show 2 ^ (l.bh + _) ≤ l.size + 1 + r.size + 1
    cases c
    · show 2 ^ l.bh ≤ _; omega
    · show 2 ^ (l.bh + 1) ≤ _; omega

theorem RT.height_le_aux (t : RT κ ν) (hb : t.Bal) :
    t.height ≤ 2 * t.bh + (if t.isBlack = true then 0 else 1) := by
  induction t with
  | nil => exact Nat.le_refl 0
  | node l k v c r ihl ihr =>
    have hl := ihl hb.1
    have hr := ihr hb.2.1
    rw [← hb.2.2.1] at hr
    show max l.height r.height + 1 ≤ _
    cases c
    · obtain ⟨h1, h2⟩ := hb.2.2.2 rfl
      simp only [h1, h2, if_true] at hl hr
      simp only [RT.bh_red, RT.isBlack_red, Bool.false_eq_true, if_false]
      omega
    · simp only [RT.bh_black, RT.isBlack_black, if_true]
      split at hl <;> split at hr <;> omega

/-- … and height at most `2·bh`: at most one red node between two black ones (`height_le_aux`) -/
theorem RT.height_le_two_bh (t : RT κ ν) (hi : t.Inv) : t.height ≤ 2 * t.bh := by
  simpa only [hi.1, if_true, Nat.add_zero] using RT.height_le_aux t hi.2

end PV.Tree
