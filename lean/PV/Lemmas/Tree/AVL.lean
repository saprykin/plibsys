import PV.Lemmas.Tree.Variant
/-!
AVL: the retracing after insertion and removal keeps the in-order listing and the balance invariant, so the AVL tree
refines the sorted map and never dereferences NULL.

The arithmetic is in the three rotation lemmas (`rotR_ok`, `rotL_ok`, `dbl_ok`), each used by the insert and by
the removal retracing.  The recursions are read one level at a time: `growL` / `growR` and `shrinkL` / `shrinkR` are
what a node does when a subtree comes back, possibly one higher / one lower; `InsOK` / `DelOK` say what comes back.
At the end `fib_mono`, for the C13 bound.
-/
namespace PV.Tree
open Std

variable {κ ν : Type} {cmp : κ → κ → Ordering}

namespace AT

@[simp] theorem toList_nil : (nil : AT κ ν).toList = [] := rfl
@[simp] theorem toList_node (l : AT κ ν) (k : κ) (v : ν) (b : Int) (r : AT κ ν) :
    (node l k v b r).toList = l.toList ++ (k, v) :: r.toList := rfl
@[simp] theorem height_nil : (nil : AT κ ν).height = 0 := rfl
@[simp] theorem height_node (l : AT κ ν) (k : κ) (v : ν) (b : Int) (r : AT κ ν) :
    (node l k v b r).height = max l.height r.height + 1 := rfl
@[simp] theorem size_nil : (nil : AT κ ν).size = 0 := rfl
@[simp] theorem size_node (l : AT κ ν) (k : κ) (v : ν) (b : Int) (r : AT κ ν) :
    (node l k v b r).size = l.size + 1 + r.size := rfl
@[simp] theorem inv_nil : (nil : AT κ ν).Inv := trivial
@[simp] theorem bfOf_nil : (nil : AT κ ν).bfOf = 0 := rfl
@[simp] theorem bfOf_node (l : AT κ ν) (k : κ) (v : ν) (b : Int) (r : AT κ ν) :
    (node l k v b r).bfOf = b := rfl

theorem rotR_ok {cl cr pr : AT κ ν} {cb : Int} (ck : κ) (cv : ν) (pk : κ) (pv : ν)
    (hcl : cl.Inv) (hcr : cr.Inv) (hpr : pr.Inv) (hcb : cb = (cl.height : Int) - cr.height)
    (h0 : 0 ≤ cb) (h1 : cb ≤ 1) (hh : cl.height = pr.height + 1) :
    (rotR cl ck cv cb cr pk pv pr).Inv ∧
      (rotR cl ck cv cb cr pk pv pr).height = pr.height + 2 + (if cb = 0 then 1 else 0) := by
  have hm : max cr.height pr.height = cr.height := by omega
  refine ⟨⟨hcl, ⟨hcr, hpr, by omega, by omega, by omega⟩, ?_, by omega, by omega⟩, ?_⟩
  · show cb - 1 = (cl.height : Int) - ((max cr.height pr.height + 1 : Nat) : Int)
    rw [hm]; omega
  · show max cl.height (max cr.height pr.height + 1) + 1 = _
    rw [hm]; split <;> omega


theorem rotL_ok {pl cl cr : AT κ ν} {cb : Int} (pk : κ) (pv : ν) (ck : κ) (cv : ν)
    (hpl : pl.Inv) (hcl : cl.Inv) (hcr : cr.Inv) (hcb : cb = (cl.height : Int) - cr.height)
    (h0 : -1 ≤ cb) (h1 : cb ≤ 0) (hh : cr.height = pl.height + 1) :
    (rotL pl pk pv cl ck cv cb cr).Inv ∧
      (rotL pl pk pv cl ck cv cb cr).height = pl.height + 2 + (if cb = 0 then 1 else 0) := by
  have hm : max pl.height cl.height = cl.height := by omega
  refine ⟨⟨⟨hpl, hcl, by omega, by omega, by omega⟩, hcr, ?_, by omega, by omega⟩, ?_⟩
  · show cb + 1 = ((max pl.height cl.height + 1 : Nat) : Int) - (cr.height : Int)
    rw [hm]; omega
  · show max (max pl.height cl.height + 1) cr.height + 1 = _
    rw [hm]; split <;> omega

/-- both double rotations: the outer subtrees `a`, `d` are as high as the higher of the middle ones `ml`, `mr` -/
theorem dbl_ok {a ml mr d : AT κ ν} {mb : Int} (ak : κ) (av : ν) (mk : κ) (mv : ν) (dk : κ) (dv : ν)
    (ha : a.Inv) (hml : ml.Inv) (hmr : mr.Inv) (hd : d.Inv) (hmb : mb = (ml.height : Int) - mr.height)
    (h0 : -1 ≤ mb) (h1 : mb ≤ 1) (hah : a.height = max ml.height mr.height) (hdh : d.height = a.height) :
    (node (node a ak av (dblBf mb).1 ml) mk mv 0 (node mr dk dv (dblBf mb).2 d)).Inv ∧
      (node (node a ak av (dblBf mb).1 ml) mk mv 0 (node mr dk dv (dblBf mb).2 d)).height = a.height + 2 := by
  -- with the halves' balance factors right, both halves are as high as `a`
  have key : ∀ lb rb : Int, lb = (a.height : Int) - ml.height → rb = (mr.height : Int) - d.height →
      max a.height ml.height = a.height → max mr.height d.height = a.height →
      (-1 ≤ lb ∧ lb ≤ 1) ∧ -1 ≤ rb ∧ rb ≤ 1 →
      (node (node a ak av lb ml) mk mv 0 (node mr dk dv rb d)).Inv ∧
        (node (node a ak av lb ml) mk mv 0 (node mr dk dv rb d)).height = a.height + 2 := by
    intro lb rb hlb hrb hl hr hbd
    refine ⟨⟨⟨ha, hml, hlb, hbd.1⟩, ⟨hmr, hd, hrb, hbd.2⟩, ?_, by decide, by decide⟩, ?_⟩
    · show (0 : Int) = ((max a.height ml.height + 1 : Nat) : Int) - ((max mr.height d.height + 1 : Nat) : Int)
      rw [hl, hr, Int.sub_self]
    · show max (max a.height ml.height + 1) (max mr.height d.height + 1) + 1 = _
      rw [hl, hr, Nat.max_self]
  -- the three shapes of the middle node
  rcases (by omega : mb = 1 ∨ mb = 0 ∨ mb = -1) with rfl | rfl | rfl
  · exact key 0 (-1) (by omega) (by omega) (by omega) (by omega) (by decide)
  · exact key 0 0 (by omega) (by omega) (by omega) (by omega) (by decide)
  · exact key 1 0 (by omega) (by omega) (by omega) (by omega) (by decide)

/-- what the node `node _ k v b r` does when its left subtree comes back as `l'`, one higher if `g` -/
def growL (l' : AT κ ν) (g : Bool) (k : κ) (v : ν) (b : Int) (r : AT κ ν) : Option (AT κ ν × Bool) :=
  if g then grewLeft l' k v b r else some (node l' k v b r, false)

def growR (l : AT κ ν) (k : κ) (v : ν) (b : Int) (r' : AT κ ν) (g : Bool) : Option (AT κ ν × Bool) :=
  if g then grewRight l k v b r' else some (node l k v b r', false)

theorem ins_node {l r : AT κ ν} {k x : κ} {v y : ν} {b : Int} :
    ins cmp (node l k v b r) x y =
      match cmp x k with
      | .lt => (ins cmp l x y).bind fun p => (growL p.1 p.2.1 k v b r).map fun q => (q.1, q.2, p.2.2)
      | .gt => (ins cmp r x y).bind fun p => (growR l k v b p.1 p.2.1).map fun q => (q.1, q.2, p.2.2)
      | .eq => some (node l x y b r, false, false, [(k, v)]) := by
  rw [ins]
  cases cmp x k
  · cases ins cmp l x y with
    | none => rfl
    | some p => obtain ⟨l', g, a, d⟩ := p; cases g <;> rfl
  · rfl
  · cases ins cmp r x y with
    | none => rfl
    | some p => obtain ⟨r', g, a, d⟩ := p; cases g <;> rfl

/-- what `ins` promises about the subtree `t'` it hands upward in place of `t`: a grown subtree is a fresh leaf or has
    a non-zero balance factor -/
def InsOK (t t' : AT κ ν) (g : Bool) : Prop :=
  t'.Inv ∧ t'.height = t.height + g.toNat ∧ (g = true → t'.bfOf ≠ 0 ∨ t'.height ≤ 1)

theorem rotLR_eq {cl ml mr pr : AT κ ν} {ck mk pk : κ} {cv mv pv : ν} {mb : Int} :
    rotLR cl ck cv ml mk mv mb mr pk pv pr =
      node (node cl ck cv (dblBf mb).1 ml) mk mv 0 (node mr pk pv (dblBf mb).2 pr) := rfl

theorem rotRL_eq {pl ml mr cr : AT κ ν} {pk mk ck : κ} {pv mv cv : ν} {mb : Int} :
    rotRL pl pk pv ml mk mv mb mr ck cv cr =
      node (node pl pk pv (dblBf mb).1 ml) mk mv 0 (node mr ck cv (dblBf mb).2 cr) := rfl

theorem grewLeft_ok {c r : AT κ ν} {b : Int} {hl : Nat} (k : κ) (v : ν)
    (hc : c.height = hl + 1) (hb : b = (hl : Int) - (r.height : Int)) (hb1 : -1 ≤ b) (hb2 : b ≤ 1)
    (hic : c.Inv) (hir : r.Inv) (hnz : c.bfOf ≠ 0 ∨ c.height ≤ 1) :
    ∃ t' g, grewLeft c k v b r = some (t', g) ∧ t'.toList = c.toList ++ (k, v) :: r.toList ∧
      t'.Inv ∧ t'.height = max hl r.height + 1 + g.toNat ∧ (g = true → t'.bfOf ≠ 0 ∨ t'.height ≤ 1) := by
  obtain rfl | rfl | rfl : b = 1 ∨ b = -1 ∨ b = 0 := by omega
  · have hr : hl = r.height + 1 := by omega
    subst hr
    clear hb hb1 hb2
    cases c with
    | nil => cases hc
    | node cl ck cv cb cr =>
      obtain ⟨hicl, hicr, hcb, hcb1, hcb2⟩ := hic
      have hc : max cl.height cr.height = r.height + 1 := Nat.succ.inj hc
      by_cases hcb' : cb = -1
      · subst hcb'
        cases cr with
        | nil => exact absurd hcb (by simp only [height_nil]; omega)
        | node ml mk mv mb mr =>
          obtain ⟨himl, himr, hmb, hmb1, hmb2⟩ := hicr
          have hcr : (node ml mk mv mb mr).height = max ml.height mr.height + 1 := rfl
          have e1 : cl.height = max ml.height mr.height := by omega
          have e2 : r.height = cl.height := by omega
          have ⟨h1, h2⟩ := dbl_ok ck cv mk mv k v hicl himl himr hir hmb hmb1 hmb2 e1 e2
          refine ⟨rotLR cl ck cv ml mk mv mb mr k v r, false, rfl, ?_⟩
          rw [rotLR_eq]
          exact ⟨by simp, h1, by rw [h2, e2, Nat.max_eq_left (Nat.le_succ _)]; rfl, nofun⟩
      · have hcb0 : cb ≠ 0 := hnz.resolve_right (by simp only [height_node]; omega)
        have e1 : cl.height = r.height + 1 := by omega
        have ⟨h1, h2⟩ := rotR_ok ck cv k v hicl hicr hir hcb (by omega) hcb2 e1
        exact ⟨rotR cl ck cv cb cr k v r, false, by simp [grewLeft, hcb'], by simp [rotR], h1,
          by rw [h2, if_neg hcb0, Nat.max_eq_left (Nat.le_succ _)]; rfl, nofun⟩
  · exact ⟨node c k v 0 r, false, rfl, rfl, ⟨hic, hir, by omega, by decide, by decide⟩,
      by simp only [height_node, Bool.toNat_false]; omega, nofun⟩
  · exact ⟨node c k v 1 r, true, rfl, rfl, ⟨hic, hir, by omega, by decide, by decide⟩,
      by simp only [height_node, Bool.toNat_true]; omega, fun _ => .inl (by simp)⟩

theorem grewRight_ok {l c : AT κ ν} {b : Int} {hr : Nat} (k : κ) (v : ν)
    (hc : c.height = hr + 1) (hb : b = (l.height : Int) - (hr : Int)) (hb1 : -1 ≤ b) (hb2 : b ≤ 1)
    (hil : l.Inv) (hic : c.Inv) (hnz : c.bfOf ≠ 0 ∨ c.height ≤ 1) :
    ∃ t' g, grewRight l k v b c = some (t', g) ∧ t'.toList = l.toList ++ (k, v) :: c.toList ∧
      t'.Inv ∧ t'.height = max l.height hr + 1 + g.toNat ∧ (g = true → t'.bfOf ≠ 0 ∨ t'.height ≤ 1) := by
  obtain rfl | rfl | rfl : b = -1 ∨ b = 1 ∨ b = 0 := by omega
  · have hr' : hr = l.height + 1 := by omega
    subst hr'
    clear hb hb1 hb2
    cases c with
    | nil => cases hc
    | node cl ck cv cb cr =>
      obtain ⟨hicl, hicr, hcb, hcb1, hcb2⟩ := hic
      have hc : max cl.height cr.height = l.height + 1 := Nat.succ.inj hc
      by_cases hcb' : cb = 1
      · subst hcb'
        cases cl with
        | nil => exact absurd hcb (by simp only [height_nil]; omega)
        | node ml mk mv mb mr =>
          obtain ⟨himl, himr, hmb, hmb1, hmb2⟩ := hicl
          have hcl : (node ml mk mv mb mr).height = max ml.height mr.height + 1 := rfl
          have e1 : l.height = max ml.height mr.height := by omega
          have e2 : cr.height = l.height := by omega
          have ⟨h1, h2⟩ := dbl_ok k v mk mv ck cv hil himl himr hicr hmb hmb1 hmb2 e1 e2
          refine ⟨rotRL l k v ml mk mv mb mr ck cv cr, false, rfl, ?_⟩
          rw [rotRL_eq]
          exact ⟨by simp, h1, by rw [h2, Nat.max_eq_right (Nat.le_succ _)]; rfl, nofun⟩
      · have hcb0 : cb ≠ 0 := hnz.resolve_right (by simp only [height_node]; omega)
        have e1 : cr.height = l.height + 1 := by omega
        have ⟨h1, h2⟩ := rotL_ok k v ck cv hil hicl hicr hcb hcb1 (by omega) e1
        exact ⟨rotL l k v cl ck cv cb cr, false, by simp [grewRight, hcb'], by simp [rotL], h1,
          by rw [h2, if_neg hcb0, Nat.max_eq_right (Nat.le_succ _)]; rfl, nofun⟩
  · exact ⟨node l k v 0 c, false, rfl, rfl, ⟨hil, hic, by omega, by decide, by decide⟩,
      by simp only [height_node, Bool.toNat_false]; omega, nofun⟩
  · exact ⟨node l k v (-1) c, true, rfl, rfl, ⟨hil, hic, by omega, by decide, by decide⟩,
      by simp only [height_node, Bool.toNat_true]; omega, fun _ => .inl (by simp)⟩

theorem growL_ok {l l' r : AT κ ν} {k : κ} {v : ν} {b : Int} {g : Bool}
    (hi : (node l k v b r).Inv) (ho : InsOK l l' g) :
    ∃ t' g', growL l' g k v b r = some (t', g') ∧ t'.toList = l'.toList ++ (k, v) :: r.toList ∧
      InsOK (node l k v b r) t' g' := by
  obtain ⟨-, hir, hb, hb1, hb2⟩ := hi
  obtain ⟨h1, h2, h3⟩ := ho
  cases g with
  | false => exact ⟨_, false, rfl, rfl, ⟨h1, hir, h2 ▸ hb, hb1, hb2⟩, congrArg (max · _ + 1) h2, nofun⟩
  | true => exact grewLeft_ok k v h2 hb hb1 hb2 h1 hir (h3 rfl)

theorem growR_ok {l r r' : AT κ ν} {k : κ} {v : ν} {b : Int} {g : Bool}
    (hi : (node l k v b r).Inv) (ho : InsOK r r' g) :
    ∃ t' g', growR l k v b r' g = some (t', g') ∧ t'.toList = l.toList ++ (k, v) :: r'.toList ∧
      InsOK (node l k v b r) t' g' := by
  obtain ⟨hil, -, hb, hb1, hb2⟩ := hi
  obtain ⟨h1, h2, h3⟩ := ho
  cases g with
  | false => exact ⟨_, false, rfl, rfl, ⟨hil, h1, h2 ▸ hb, hb1, hb2⟩, congrArg (max _ · + 1) h2, nofun⟩
  | true => exact grewRight_ok k v h2 hb hb1 hb2 hil h1 (h3 rfl)

/-- `ins` never dereferences NULL, inserts into the in-order listing, keeps the invariant, and reports growth -/
theorem ins_ok [TransCmp cmp] (t : AT κ ν) (x : κ) (y : ν) (hs : SM.Sorted cmp t.toList) (hi : t.Inv) :
    ∃ t' g, t.ins cmp x y =
        some (t', g, (SM.find cmp t.toList x).isNone, (SM.find cmp t.toList x).toList) ∧
      t'.toList = SM.insert cmp t.toList x y ∧ InsOK t t' g := by
  induction t with
  | nil =>
    exact ⟨_, _, rfl, rfl, ⟨trivial, trivial, rfl, by decide, by decide⟩, rfl, fun _ => .inr (Nat.le_refl 1)⟩
  | node l k v b r ihl ihr =>
    have hs' := SM.sorted_append_cons.mp hs
    rw [toList_node] at hs ⊢
    cases hc : cmp x k with
    | lt =>
      obtain ⟨l', g, hp, hl, ho⟩ := ihl hs'.1 hi.1
      obtain ⟨t', g', hq, hql, ho'⟩ := growL_ok hi ho
      exact ⟨t', g', by simp [ins_node, hc, hp, hq, SM.find_mid_lt hs hc],
        by rw [hql, hl, SM.insert_mid_lt hc], ho'⟩
    | gt =>
      obtain ⟨r', g, hp, hr, ho⟩ := ihr hs'.2.1 hi.2.1
      obtain ⟨t', g', hq, hql, ho'⟩ := growR_ok hi ho
      exact ⟨t', g', by simp [ins_node, hc, hp, hq, SM.find_mid_gt hs hc],
        by rw [hql, hr, SM.insert_mid_gt hs hc], ho'⟩
    | eq =>
      exact ⟨node l x y b r, false, by simp [ins_node, hc, SM.find_mid_eq hs hc],
        by rw [SM.insert_mid_eq hs hc]; rfl, hi, rfl, nofun⟩


/-- what the node `node _ k v b r` does when its left subtree comes back as `l'`, one lower if `s` -/
def shrinkL (l' : AT κ ν) (s : Bool) (k : κ) (v : ν) (b : Int) (r : AT κ ν) : Option (AT κ ν × Bool) :=
  if s then shrunkLeft l' k v b r else some (node l' k v b r, false)

def shrinkR (l : AT κ ν) (k : κ) (v : ν) (b : Int) (r' : AT κ ν) (s : Bool) : Option (AT κ ν × Bool) :=
  if s then shrunkRight l k v b r' else some (node l k v b r', false)

theorem delMax_node {l : AT κ ν} {k : κ} {v : ν} {b : Int} {rl rr : AT κ ν} {rk : κ} {rv : ν} {rb : Int} :
    delMax l k v b (node rl rk rv rb rr) =
      (delMax rl rk rv rb rr).bind fun p => (shrinkR l k v b p.1 p.2.1).map fun q => (q.1, q.2, p.2.2) := by
  rw [delMax]
  cases delMax rl rk rv rb rr with
  | none => rfl
  | some p => obtain ⟨r', s, p⟩ := p; cases s <;> rfl

theorem del_lt {l r : AT κ ν} {k x : κ} {v : ν} {b : Int} (hc : cmp x k = .lt) :
    del cmp (node l k v b r) x =
      (del cmp l x).bind fun p => (shrinkL p.1 p.2.1 k v b r).map fun q => (q.1, q.2, p.2.2) := by
  simp only [del, hc]
  cases del cmp l x with
  | none => rfl
  | some p => obtain ⟨l', s, f, d⟩ := p; cases s <;> rfl

theorem del_gt {l r : AT κ ν} {k x : κ} {v : ν} {b : Int} (hc : cmp x k = .gt) :
    del cmp (node l k v b r) x =
      (del cmp r x).bind fun p => (shrinkR l k v b p.1 p.2.1).map fun q => (q.1, q.2, p.2.2) := by
  simp only [del, hc]
  cases del cmp r x with
  | none => rfl
  | some p => obtain ⟨r', s, f, d⟩ := p; cases s <;> rfl

/-- the node found has two children: it takes the pair of its in-order predecessor, whose node is unlinked -/
theorem del_eq_node {ll lr rl rr : AT κ ν} {k lk rk x : κ} {v lv rv : ν} {b lb rb : Int} (hc : cmp x k = .eq) :
    del cmp (node (node ll lk lv lb lr) k v b (node rl rk rv rb rr)) x =
      (delMax ll lk lv lb lr).bind fun p =>
        (shrinkL p.1 p.2.1 p.2.2.1 p.2.2.2 b (node rl rk rv rb rr)).map fun q => (q.1, q.2, true, [(k, v)]) := by
  simp only [del, hc]
  cases delMax ll lk lv lb lr with
  | none => rfl
  | some p => obtain ⟨l', s, p⟩ := p; cases s <;> rfl

def DelOK (t t' : AT κ ν) (s : Bool) : Prop := t'.Inv ∧ t'.height + s.toNat = t.height

theorem shrunkLeft_ok {l r : AT κ ν} {b : Int} {hl : Nat} (k : κ) (v : ν)
    (hh : l.height + 1 = hl) (hb : b = (hl : Int) - (r.height : Int))
    (hb1 : -1 ≤ b) (hb2 : b ≤ 1) (hil : l.Inv) (hir : r.Inv) :
    ∃ t' s, shrunkLeft l k v b r = some (t', s) ∧ t'.toList = l.toList ++ (k, v) :: r.toList ∧
      t'.Inv ∧ t'.height + s.toNat = max hl r.height + 1 := by
  subst hh
  obtain rfl | rfl | rfl : b = -1 ∨ b = 0 ∨ b = 1 := by omega
  · have hr : r.height = l.height + 2 := by omega
    clear hb hb1 hb2
    cases r with
    | nil => cases hr
    | node sl sk sv sb sr =>
      obtain ⟨hisl, hisr, hsb, hsb1, hsb2⟩ := hir
      have hr : max sl.height sr.height = l.height + 1 := Nat.succ.inj hr
      have hm : max (l.height + 1) (node sl sk sv sb sr).height = l.height + 2 := by
        rw [height_node, hr]; exact Nat.max_eq_right (Nat.le_succ _)
      rw [hm]
      by_cases hsb' : sb = 1
      · subst hsb'
        cases sl with
        | nil => exact absurd hsb (by simp only [height_nil]; omega)
        | node ml mk mv mb mr =>
          obtain ⟨himl, himr, hmb, hmb1, hmb2⟩ := hisl
          have hsl : (node ml mk mv mb mr).height = max ml.height mr.height + 1 := rfl
          have e1 : l.height = max ml.height mr.height := by omega
          have e2 : sr.height = l.height := by omega
          have ⟨h1, h2⟩ := dbl_ok k v mk mv sk sv hil himl himr hisr hmb hmb1 hmb2 e1 e2
          refine ⟨rotRL l k v ml mk mv mb mr sk sv sr, true, rfl, ?_⟩
          rw [rotRL_eq]
          exact ⟨by simp, h1, by rw [h2]; rfl⟩
      · have e1 : sr.height = l.height + 1 := by omega
        have ⟨h1, h2⟩ := rotL_ok k v sk sv hil hisl hisr hsb hsb1 (by omega) e1
        refine ⟨rotL l k v sl sk sv sb sr, decide (sb ≠ 0), by simp [shrunkLeft, hsb'], by simp [rotL], h1, ?_⟩
        rw [h2]
        by_cases h0 : sb = 0 <;> simp [h0]
  · exact ⟨node l k v (-1) r, false, rfl, rfl, ⟨hil, hir, by omega, by decide, by decide⟩,
      by simp only [height_node, Bool.toNat_false]; omega⟩
  · exact ⟨node l k v 0 r, true, rfl, rfl, ⟨hil, hir, by omega, by decide, by decide⟩,
      by simp only [height_node, Bool.toNat_true]; omega⟩

theorem shrunkRight_ok {l r : AT κ ν} {b : Int} {hr : Nat} (k : κ) (v : ν)
    (hh : r.height + 1 = hr) (hb : b = (l.height : Int) - (hr : Int))
    (hb1 : -1 ≤ b) (hb2 : b ≤ 1) (hil : l.Inv) (hir : r.Inv) :
    ∃ t' s, shrunkRight l k v b r = some (t', s) ∧ t'.toList = l.toList ++ (k, v) :: r.toList ∧
      t'.Inv ∧ t'.height + s.toNat = max l.height hr + 1 := by
  subst hh
  obtain rfl | rfl | rfl : b = 1 ∨ b = 0 ∨ b = -1 := by omega
  · have hl : l.height = r.height + 2 := by omega
    clear hb hb1 hb2
    cases l with
    | nil => cases hl
    | node sl sk sv sb sr =>
      obtain ⟨hisl, hisr, hsb, hsb1, hsb2⟩ := hil
      have hl : max sl.height sr.height = r.height + 1 := Nat.succ.inj hl
      have hm : max (node sl sk sv sb sr).height (r.height + 1) = r.height + 2 := by
        rw [height_node, hl]; exact Nat.max_eq_left (Nat.le_succ _)
      rw [hm]
      by_cases hsb' : sb = -1
      · subst hsb'
        cases sr with
        | nil => exact absurd hsb (by simp only [height_nil]; omega)
        | node ml mk mv mb mr =>
          obtain ⟨himl, himr, hmb, hmb1, hmb2⟩ := hisr
          have hsr : (node ml mk mv mb mr).height = max ml.height mr.height + 1 := rfl
          have e1 : sl.height = max ml.height mr.height := by omega
          have e2 : r.height = sl.height := by omega
          have ⟨h1, h2⟩ := dbl_ok sk sv mk mv k v hisl himl himr hir hmb hmb1 hmb2 e1 e2
          refine ⟨rotLR sl sk sv ml mk mv mb mr k v r, true, rfl, ?_⟩
          rw [rotLR_eq]
          exact ⟨by simp, h1, by rw [h2, e2]; rfl⟩
      · have e1 : sl.height = r.height + 1 := by omega
        have ⟨h1, h2⟩ := rotR_ok sk sv k v hisl hisr hir hsb (by omega) hsb2 e1
        refine ⟨rotR sl sk sv sb sr k v r, decide (sb ≠ 0), by simp [shrunkRight, hsb'], by simp [rotR], h1, ?_⟩
        rw [h2]
        by_cases h0 : sb = 0 <;> simp [h0]
  · exact ⟨node l k v 1 r, false, rfl, rfl, ⟨hil, hir, by omega, by decide, by decide⟩,
      by simp only [height_node, Bool.toNat_false]; omega⟩
  · exact ⟨node l k v 0 r, true, rfl, rfl, ⟨hil, hir, by omega, by decide, by decide⟩,
      by simp only [height_node, Bool.toNat_true]; omega⟩

theorem shrinkL_ok {l l' r : AT κ ν} {k : κ} {v : ν} {b : Int} {s : Bool} (k' : κ) (v' : ν)
    (hi : (node l k v b r).Inv) (ho : DelOK l l' s) :
    ∃ t' s', shrinkL l' s k' v' b r = some (t', s') ∧ t'.toList = l'.toList ++ (k', v') :: r.toList ∧
      DelOK (node l k v b r) t' s' := by
  obtain ⟨-, hir, hb, hb1, hb2⟩ := hi
  obtain ⟨h1, h2⟩ := ho
  cases s with
  | false =>
    have h2 : l'.height = l.height := h2
    exact ⟨_, false, rfl, rfl, ⟨h1, hir, h2 ▸ hb, hb1, hb2⟩, congrArg (max · _ + 1) h2⟩
  | true => exact shrunkLeft_ok k' v' h2 hb hb1 hb2 h1 hir

theorem shrinkR_ok {l r r' : AT κ ν} {k : κ} {v : ν} {b : Int} {s : Bool}
    (hi : (node l k v b r).Inv) (ho : DelOK r r' s) :
    ∃ t' s', shrinkR l k v b r' s = some (t', s') ∧ t'.toList = l.toList ++ (k, v) :: r'.toList ∧
      DelOK (node l k v b r) t' s' := by
  obtain ⟨hil, -, hb, hb1, hb2⟩ := hi
  obtain ⟨h1, h2⟩ := ho
  cases s with
  | false =>
    have h2 : r'.height = r.height := h2
    exact ⟨_, false, rfl, rfl, ⟨hil, h1, h2 ▸ hb, hb1, hb2⟩, congrArg (max _ · + 1) h2⟩
  | true => exact shrunkRight_ok k v h2 hb hb1 hb2 hil h1

theorem delMax_ok (r : AT κ ν) : ∀ (l : AT κ ν) (k : κ) (v : ν) (b : Int), (node l k v b r).Inv →
    ∃ t' s p, delMax l k v b r = some (t', s, p) ∧ t'.toList ++ [p] = l.toList ++ (k, v) :: r.toList ∧
      DelOK (node l k v b r) t' s := by
  induction r with
  | nil =>
    intro l k v b hi
    exact ⟨l, true, (k, v), rfl, rfl, hi.1,
      show l.height + 1 = max l.height 0 + 1 by rw [Nat.max_eq_left (Nat.zero_le _)]⟩
  | node rl rk rv rb rr _ ih =>
    intro l k v b hi
    obtain ⟨r', s, p, hp, e, ho⟩ := ih rl rk rv rb hi.2.1
    obtain ⟨t', s', hq, e', ho'⟩ := shrinkR_ok hi ho
    exact ⟨t', s', p, by simp only [delMax_node, hp, Option.bind_some, hq, Option.map_some],
      by simp [e', ← e], ho'⟩

/-- `del` never dereferences NULL, erases from the in-order listing, keeps the invariant, and reports shrinking -/
theorem del_ok [TransCmp cmp] (t : AT κ ν) (x : κ) (hs : SM.Sorted cmp t.toList) (hi : t.Inv) :
    ∃ t' s, t.del cmp x =
        some (t', s, (SM.find cmp t.toList x).isSome, (SM.find cmp t.toList x).toList) ∧
      t'.toList = SM.erase cmp t.toList x ∧ DelOK t t' s := by
  induction t with
  | nil => exact ⟨_, _, rfl, rfl, trivial, rfl⟩
  | node l k v b r ihl ihr =>
    have hs' := SM.sorted_append_cons.mp hs
    rw [toList_node] at hs ⊢
    cases hc : cmp x k with
    | lt =>
      obtain ⟨l', s, hp, hl, ho⟩ := ihl hs'.1 hi.1
      obtain ⟨t', s', hq, hql, ho'⟩ := shrinkL_ok k v hi ho
      exact ⟨t', s', by simp [del_lt hc, hp, hq, SM.find_mid_lt hs hc],
        by rw [hql, hl, SM.erase_mid_lt hc], ho'⟩
    | gt =>
      obtain ⟨r', s, hp, hr, ho⟩ := ihr hs'.2.1 hi.2.1
      obtain ⟨t', s', hq, hql, ho'⟩ := shrinkR_ok hi ho
      exact ⟨t', s', by simp [del_gt hc, hp, hq, SM.find_mid_gt hs hc],
        by rw [hql, hr, SM.erase_mid_gt hs hc], ho'⟩
    | eq =>
      rw [SM.find_mid_eq hs hc, SM.erase_mid_eq hs hc]
      have ⟨hil, hir, _⟩ := hi
      cases l with
      | nil =>
        exact ⟨r, true, by simp [del, hc], rfl, hir,
          show r.height + 1 = max 0 r.height + 1 by rw [Nat.max_eq_right (Nat.zero_le _)]⟩
      | node ll lk lv lb lr =>
        cases r with
        | nil =>
          exact ⟨_, true, by simp [del, hc], by simp, hil,
            show _ + 1 = max _ 0 + 1 by rw [Nat.max_eq_left (Nat.zero_le _)]; rfl⟩
        | node rl rk rv rb rr =>
          obtain ⟨l', s, p, hp, e, ho⟩ := delMax_ok lr ll lk lv lb hil
          obtain ⟨t', s', hq, hql, ho'⟩ := shrinkL_ok p.1 p.2 hi ho
          exact ⟨t', s', by simp [del_eq_node hc, hp, hq], by simp [hql, ← e], ho'⟩

end AT

/-- `ins` and `del` without the grew / shrank flag, which `ptree.c` does not see -/
def avlV (cmp : κ → κ → Ordering) : Variant (AT κ ν) κ ν where
  toBT := AT.toBT
  empty := .nil
  ins t k v := (t.ins cmp k v).map fun p => (p.1, p.2.2)
  del t k := (t.del cmp k).map fun p => (p.1, p.2.2)

theorem avlStep_eq (s : AT κ ν × Int) (op : Op κ ν) : (avlV cmp).step cmp s op = avlStep cmp s op := by
  cases op with
  | ins k v => exact Option.map_map ..
  | insf k v => exact congrArg (if (s.1.toBT.lookup cmp k).isSome then · else _) (Option.map_map ..)
  | rem k => exact Option.map_map ..
  | _ => rfl

theorem avlRun_eq (s : AT κ ν × Int) (ops : List (Op κ ν)) : (avlV cmp).run cmp s ops = avlRun cmp s ops := by
  induction ops generalizing s with
  | nil => rfl
  | cons op ops ih =>
    simp only [Variant.run, avlStep_eq, avlRun]
    cases avlStep cmp s op with
    | none => rfl
    | some r => simp only [Option.bind_some, ih]; cases avlRun cmp r.1 ops <;> rfl

theorem avlV_refines [TransCmp cmp] : (avlV (ν := ν) cmp).Refines cmp AT.Inv where
  empty := ⟨trivial, rfl⟩
  ins t k v hi hs :=
    have ⟨t', g, h, e, ho⟩ := AT.ins_ok t k v hs hi
    ⟨t', by simp only [avlV, h, Option.map_some]; rfl, e, ho.1⟩
  del t k hi hs :=
    have ⟨t', s, h, e, ho⟩ := AT.del_ok t k hs hi
    ⟨t', by simp only [avlV, h, Option.map_some]; rfl, e, ho.1⟩

theorem avlRun_refines [TransCmp cmp] (ops : List (Op κ ν)) (t : AT κ ν)
    (ho : t.toBT.Ordered cmp) (hi : t.Inv) :
    ∃ s, avlRun cmp (t, t.toList.length) ops = some (s, (specRun cmp t.toList ops).2) ∧
      s.1.toList = (specRun cmp t.toList ops).1 ∧ s.1.Inv :=
  avlRun_eq (cmp := cmp) .. ▸ Variant.run_refines avlV_refines ops (t, t.toList.length) ⟨hi, ho, rfl⟩

theorem fib_le_succ (n : Nat) : fib n ≤ fib (n + 1) := by
  induction n using fib.induct with
  | case1 => decide
  | case2 => decide
  | case3 n ih1 ih2 => simp only [fib] at *; omega

theorem fib_mono {m n : Nat} (h : m ≤ n) : fib m ≤ fib n := by
  induction h with
  | refl => exact Nat.le_refl _
  | step _ ih => exact Nat.le_trans ih (fib_le_succ _)

end PV.Tree
