import PV.Model.Tree.Morris
/-!
Lemmas for the heap-level model of `p_tree_foreach`: heap algebra, framing of `ReprP`, the inner
walk, the single-iteration rules, and the subtree traversal lemma `trav`.
-/
namespace PV.Tree.Morris
open PV.Tree

variable {κ ν : Type}

theorem Heap.get_set_ne (h : Heap κ ν) {a b : Nat} (n : Node κ ν) (hab : a ≠ b) :
    (h.set a n).get b = h.get b := by
  simp [Heap.get, Heap.set, List.getElem?_set_ne hab]

theorem Heap.get_set_eq (h : Heap κ ν) {a : Nat} {x : Node κ ν} (n : Node κ ν)
    (hx : h.get a = some x) : (h.set a n).get a = some n := by
  have hlt : a < h.cells.length := by
    by_cases hlt : a < h.cells.length
    · exact hlt
    · simp [Heap.get, List.getElem?_eq_none (Nat.le_of_not_lt hlt)] at hx
  simp [Heap.get, Heap.set, hlt]

theorem Heap.set_set (h : Heap κ ν) (a : Nat) (n n' : Node κ ν) :
    (h.set a n).set a n' = h.set a n' := by
  simp [Heap.set]

theorem Heap.set_get (h : Heap κ ν) {a : Nat} {n : Node κ ν} (hn : h.get a = some n) :
    h.set a n = h := by
  cases h with
  | mk cells =>
    simp only [Heap.get, Heap.set] at *
    congr 1
    apply List.ext_getElem?
    intro i
    by_cases hi : a = i
    · subst hi
      by_cases hlt : a < cells.length
      · simp [hlt] at hn ⊢
        exact hn.symm
      · simp [List.getElem?_eq_none (Nat.le_of_not_lt hlt)] at hn
    · simp [List.getElem?_set_ne hi]

/-- the callback offered a list of pairs in order -/
def visitL (j : Nat) (lg : Log κ ν) (xs : List (κ × ν)) : Log κ ν :=
  xs.foldl (fun lg p => callback j lg p.1 p.2) lg

@[simp] theorem visitL_nil (j : Nat) (lg : Log κ ν) : visitL j lg [] = lg := rfl

@[simp] theorem visitL_cons (j : Nat) (lg : Log κ ν) (k : κ) (v : ν) (xs : List (κ × ν)) :
    visitL j lg ((k, v) :: xs) = visitL j (callback j lg k v) xs := rfl

theorem visitL_append (j : Nat) (lg : Log κ ν) (xs ys : List (κ × ν)) :
    visitL j lg (xs ++ ys) = visitL j (visitL j lg xs) ys := by
  simp [visitL, List.foldl_append]

theorem visitL_stopped (j : Nat) (lg : Log κ ν) (hs : lg.needStop = true) (xs : List (κ × ν)) :
    visitL j lg xs = lg := by
  induction xs with
  | nil => rfl
  | cons x xs ih =>
    obtain ⟨k, v⟩ := x
    simp [callback, hs, ih]

theorem visitL_visited (j : Nat) (lg : Log κ ν) (xs : List (κ × ν))
    (hs : lg.needStop = false) (hj : j = 0 ∨ lg.calls < j) :
    (visitL j lg xs).visited =
      lg.visited ++ (if j = 0 then xs else xs.take (j - lg.calls)) ∧
    (visitL j lg xs).calls = (if j = 0 then lg.calls + xs.length else min j (lg.calls + xs.length)) := by
  induction xs generalizing lg with
  | nil => simp; omega
  | cons x xs ih =>
    obtain ⟨k, v⟩ := x
    rw [visitL_cons]
    by_cases hstop : lg.calls + 1 = j
    · have hcb : (callback j lg k v).needStop = true := by simp [callback, hs, hstop]
      rw [visitL_stopped j _ hcb]
      have hj0 : j ≠ 0 := by omega
      have h1 : j - lg.calls = 1 := by omega
      simp [callback, hs, hj0, h1]
      omega
    · have hcb : (callback j lg k v).needStop = false := by simp [callback, hs, hstop]
      have := ih (callback j lg k v) hcb (by simp [callback, hs]; omega)
      rw [this.1, this.2]
      by_cases hj0 : j = 0
      · simp [callback, hs, hj0]; omega
      · have h1 : j - lg.calls = (j - (lg.calls + 1)) + 1 := by omega
        simp [callback, hs, hj0, h1]
        omega

/-- started from the empty log the callback sees `foreachStop` -/
theorem visitL_init (j : Nat) (xs : List (κ × ν)) :
    (visitL j ⟨false, [], 0⟩ xs).visited = if j = 0 then xs else xs.take j := by
  have := (visitL_visited j (⟨false, [], 0⟩ : Log κ ν) xs rfl (by simp; omega)).1
  simpa using this

theorem PT.erase_size (t : PT κ ν) : t.erase.size = t.size := by
  induction t with
  | nil => rfl
  | node a l k v r ihl ihr => simp [PT.erase, BT.size, PT.size, ihl, ihr]

theorem PT.iters_le (t : PT κ ν) : t.iters ≤ 2 * t.size := by
  induction t with
  | nil => simp [PT.iters]
  | node a l k v r ihl ihr =>
    cases l with
    | nil => simp [PT.iters, PT.size]; omega
    | node b ll lk lv lr => simp only [PT.iters, PT.size] at *; omega

theorem PT.rmost_mem (a : Nat) (l : PT κ ν) (k : κ) (v : ν) (r : PT κ ν) :
    PT.rmost a r ∈ (PT.node a l k v r).addrs := by
  induction r generalizing a l k v with
  | nil => simp [PT.rmost, PT.addrs]
  | node b rl rk rv rr _ ih =>
    have := ih b rl rk rv
    simp only [PT.rmost, PT.addrs] at this ⊢
    simp only [List.mem_append, List.mem_cons] at this ⊢
    rcases this with h | h | h
    · exact Or.inr (Or.inr (Or.inl h))
    · exact Or.inr (Or.inr (Or.inr (Or.inl h)))
    · exact Or.inr (Or.inr (Or.inr (Or.inr h)))

theorem PT.nodup_node {a : Nat} {l r : PT κ ν} {k : κ} {v : ν} (h : (PT.node a l k v r).addrs.Nodup) :
    l.addrs.Nodup ∧ r.addrs.Nodup ∧ a ∉ l.addrs ∧ a ∉ r.addrs ∧ ∀ x ∈ l.addrs, x ∉ r.addrs :=
  have ⟨hl, har, hd⟩ := List.nodup_append.1 h
  have ⟨ha, hr⟩ := List.nodup_cons.1 har
  ⟨hl, hr, fun hx => hd a hx a List.mem_cons_self rfl, ha, fun x hx hx' => hd x hx x (List.mem_cons_of_mem _ hx') rfl⟩

theorem PT.length_addrs (t : PT κ ν) : t.addrs.length = t.size := by
  induction t with
  | nil => rfl
  | node a l k v r ihl ihr => simp only [PT.addrs, PT.size, List.length_append, List.length_cons, ihl, ihr]; omega

/-- `ReprP` only looks at the cells of the tree -/
theorem ReprP.congr {h h' : Heap κ ν} {p : Option Nat} {t : PT κ ν} {ret : Option Nat}
    (hr : ReprP h p t ret) (hag : ∀ x ∈ t.addrs, h'.get x = h.get x) : ReprP h' p t ret := by
  induction t generalizing p ret with
  | nil => exact hr
  | node a l k v r ihl ihr =>
    obtain ⟨hp, n, hn, hk, hv, hl, hrr⟩ := hr
    refine ⟨hp, n, ?_, hk, hv, ihl hl ?_, ihr hrr ?_⟩
    · rw [hag a (by simp [PT.addrs])]; exact hn
    · intro x hx; exact hag x (by simp [PT.addrs, hx])
    · intro x hx; exact hag x (by simp [PT.addrs, hx])

/-- the right-most node of a non-empty tree holds `ret` in its `right` field, and overwriting that
    field changes `ret` and nothing else -/
theorem ReprP.rmost {h : Heap κ ν} {a : Nat} {l : PT κ ν} {k : κ} {v : ν} {r : PT κ ν}
    {ret : Option Nat}
    (hr : ReprP h (some a) (.node a l k v r) ret) (hnd : (PT.node a l k v r).addrs.Nodup) :
    ∃ nq, h.get (PT.rmost a r) = some nq ∧ nq.right = ret ∧
      ∀ ret', ReprP (h.set (PT.rmost a r) { nq with right := ret' }) (some a) (.node a l k v r) ret' := by
  induction r generalizing a l k v with
  | nil =>
    obtain ⟨_, n, hn, hk, hv, hl, hrr⟩ := hr
    have hal := (PT.nodup_node hnd).2.2.1
    refine ⟨n, hn, hrr, fun ret' => ⟨rfl, { n with right := ret' }, Heap.get_set_eq _ _ hn, hk, hv, ?_, rfl⟩⟩
    exact hl.congr fun x hx => Heap.get_set_ne _ _ fun (hax : a = x) => hal (hax ▸ hx)
  | node b rl rk rv rr _ ih =>
    obtain ⟨_, n, hn, hk, hv, hl, hrr⟩ := hr
    have hrb : n.right = some b := hrr.1
    rw [hrb] at hrr
    obtain ⟨-, hndr, -, har, hlr⟩ := PT.nodup_node hnd
    obtain ⟨nq, hq, hqr, hset⟩ := ih hrr hndr
    have hmem := PT.rmost_mem b rl rk rv rr
    refine ⟨nq, hq, hqr, fun ret' => ⟨rfl, n, ?_, hk, hv, ?_, hrb ▸ hset ret'⟩⟩
    · exact (Heap.get_set_ne _ _ fun (hax : PT.rmost b rr = a) => har (hax ▸ hmem)).trans hn
    · exact hl.congr fun x hx => Heap.get_set_ne _ _ fun (hax : PT.rmost b rr = x) => hlr x hx (hax ▸ hmem)

theorem walk_rmost {h : Heap κ ν} {c b : Nat} {l : PT κ ν} {k : κ} {v : ν} {r : PT κ ν}
    {ret : Option Nat} (hr : ReprP h (some b) (.node b l k v r) ret)
    (hc : c ∉ r.addrs) (hret : ret = none ∨ ret = some c) (wf : Nat)
    (hwf : (PT.node b l k v r).size ≤ wf) :
    walk h c wf b = .done (PT.rmost b r) := by
  induction r generalizing b l k v wf with
  | nil =>
    obtain ⟨_, n, hn, _, _, _, hrr⟩ := hr
    simp only [ReprP] at hrr
    obtain ⟨wf, rfl⟩ : ∃ w, wf = w + 1 := ⟨wf - 1, by simp [PT.size] at hwf; omega⟩
    rcases hret with hret | hret <;> simp [walk, hn, hrr, hret, PT.rmost]
  | node b' rl rk rv rr _ ih =>
    obtain ⟨_, n, hn, _, _, _, hrr⟩ := hr
    have hrb : n.right = some b' := hrr.1
    rw [hrb] at hrr
    obtain ⟨wf, rfl⟩ : ∃ w, wf = w + 1 := ⟨wf - 1, by simp [PT.size] at hwf; omega⟩
    have hne : b' ≠ c := by
      intro hbc; apply hc; simp [PT.addrs, hbc]
    have := ih hrr (by intro hm; apply hc; simp [PT.addrs, hm]) wf
      (by simp only [PT.size] at hwf ⊢; omega)
    simp [walk, hn, hrb, hne, PT.rmost, this]

theorem loop_succ (j wf f : Nat) (s : St κ ν) :
    loop j wf (f + 1) s =
      match body j wf s with
      | .done (.next s') => loop j wf f s'
      | .done (.ret s') => .done s'
      | .fault => .fault
      | .timeout => .timeout := rfl

/-- node without left child: visit, go right -/
theorem body_noleft {j wf : Nat} {s : St κ ν} {a : Nat} {n : Node κ ν}
    (hc : s.cur = some a) (hn : s.heap.get a = some n) (hl : n.left = none) :
    body j wf s = .done (.next { s with log := callback j s.log n.key n.val, cur := n.right }) := by
  simp [body, hc, hn, hl]

/-- first arrival at a node with a left child: thread, go left -/
theorem body_thread {j wf : Nat} {s : St κ ν} {a b q : Nat} {n nq : Node κ ν}
    (hc : s.cur = some a) (hn : s.heap.get a = some n) (hl : n.left = some b)
    (hw : walk s.heap a wf b = .done q) (hq : s.heap.get q = some nq) (hqr : nq.right = none) :
    body j wf s = .done (.next { s with
      heap := s.heap.set q { nq with right := some a }, cur := some b,
      modCounter := s.modCounter + 1 }) := by
  simp [body, hc, hn, hl, hw, hq, hqr]

/-- second arrival: visit, go right, unthread, maybe return -/
theorem body_unthread {j wf : Nat} {s : St κ ν} {a b q x : Nat} {n nq : Node κ ν}
    (hc : s.cur = some a) (hn : s.heap.get a = some n) (hl : n.left = some b)
    (hw : walk s.heap a wf b = .done q) (hq : s.heap.get q = some nq) (hqr : nq.right = some x) :
    body j wf s =
      let s' : St κ ν :=
        { heap := s.heap.set q { nq with right := none }, cur := n.right,
          modCounter := s.modCounter - 1, log := callback j s.log n.key n.val }
      if (callback j s.log n.key n.val).needStop && s.modCounter - 1 == 0 then .done (.ret s')
      else .done (.next s') := by
  simp [body, hc, hn, hl, hw, hq, hqr]

theorem node_right_none_eq {n : Node κ ν} (hr : n.right = none) (x : Option Nat) :
    ({ ({ n with right := x } : Node κ ν) with right := none } : Node κ ν) = n := by
  cases n; simp_all

/-- Started at the root `p` of a subtree `s` whose right end holds `ret` (`NULL`, or a thread to an
    ancestor), with `m ≥ 0` threads outstanding, the loop either

    * after exactly `s.iters` iterations is at `cur_node = ret` with the *same heap*, the same
      `mod_counter`, and the callback has been offered the in-order pairs of `s`; or
    * executes `return` (only possible with `m = 0` and after the stop request), again with the same
      heap and the callback having been offered the pairs of `s` (those after the stop request
      are not passed on: `visitL` ignores them). -/
theorem trav (j wf : Nat) (s : PT κ ν) :
    ∀ (h : Heap κ ν) (p ret : Option Nat) (m : Int) (lg : Log κ ν),
      ReprP h p s ret → s.addrs.Nodup → s.size ≤ wf → 0 ≤ m →
      (∀ f, loop j wf (s.iters + f) ⟨h, p, m, lg⟩ =
            loop j wf f ⟨h, ret, m, visitL j lg s.erase.toList⟩) ∨
      (m = 0 ∧ (visitL j lg s.erase.toList).needStop = true ∧
        ∃ c, ∀ f, loop j wf (s.iters + f) ⟨h, p, m, lg⟩ =
            .done ⟨h, c, 0, visitL j lg s.erase.toList⟩) := by
  induction s with
  | nil =>
    intro h p ret m lg hr _ _ _
    simp only [ReprP] at hr
    subst hr
    left; intro f
    simp [PT.iters, PT.erase, BT.toList]
  | node a l k v r ihl ihr =>
    intro h p ret m lg hr hnd hwf hm
    obtain ⟨rfl, n, hn, rfl, rfl, hl, hrr⟩ := hr
    obtain ⟨hndl, hndr, hal, -, -⟩ := PT.nodup_node hnd
    have hwfr : r.size ≤ wf := by simp only [PT.size] at hwf; omega
    have hwfl : l.size ≤ wf := by simp only [PT.size] at hwf; omega
    simp only [PT.erase, BT.toList, visitL_append, visitL_cons]
    cases l with
    | nil =>
      have hleft : n.left = none := hl
      have step : ∀ f, loop j wf ((PT.node a .nil n.key n.val r).iters + f) ⟨h, some a, m, lg⟩ =
          loop j wf (r.iters + f) ⟨h, n.right, m, callback j lg n.key n.val⟩ := by
        intro f
        rw [show (PT.node a .nil n.key n.val r).iters + f = (r.iters + f) + 1 by
          simp only [PT.iters]; omega, loop_succ, body_noleft rfl hn hleft]
      simp only [PT.erase, BT.toList, visitL_nil]
      rcases ihr h n.right ret m (callback j lg n.key n.val) hrr hndr hwfr hm with
        h1 | ⟨h0, hs, c, h1⟩
      · left; intro f; rw [step, h1]
      · right; exact ⟨h0, hs, c, fun f => by rw [step, h1]⟩
    | node b ll lk lv lr =>
      have hleft : n.left = some b := hl.1
      rw [hleft] at hl
      -- the in-order predecessor `q` of `a`
      obtain ⟨nq, hq, hqr, hset⟩ := hl.rmost hndl
      have hqmem := PT.rmost_mem b ll lk lv lr
      have hqa : PT.rmost b lr ≠ a := fun hx => hal (hx ▸ hqmem)
      have halr : a ∉ lr.addrs := fun hx => hal (by simp [PT.addrs, hx])
      have hw1 : walk h a wf b = .done (PT.rmost b lr) :=
        walk_rmost hl halr (Or.inl rfl) wf hwfl
      -- heap with the thread `q->right = a`
      have hl1 := hset (some a)
      have hw2 : walk (h.set (PT.rmost b lr) { nq with right := some a }) a wf b
          = .done (PT.rmost b lr) :=
        walk_rmost hl1 halr (Or.inr rfl) wf hwfl
      have hn1 : (h.set (PT.rmost b lr) { nq with right := some a }).get a = some n := by
        rw [Heap.get_set_ne _ _ hqa]; exact hn
      have hq1 : (h.set (PT.rmost b lr) { nq with right := some a }).get (PT.rmost b lr)
          = some { nq with right := some a } := Heap.get_set_eq _ _ hq
      have hback : (h.set (PT.rmost b lr) { nq with right := some a }).set (PT.rmost b lr)
          { ({ nq with right := some a } : Node κ ν) with right := none } = h := by
        rw [Heap.set_set, node_right_none_eq hqr, Heap.set_get _ hq]
      have hm1 : (0 : Int) ≤ m + 1 := by omega
      -- iteration 1, then the left subtree
      rcases ihl _ (some b) (some a) (m + 1) lg hl1 hndl hwfl hm1 with h1 | ⟨h0, _⟩
      · have step : ∀ f, loop j wf ((PT.node a (.node b ll lk lv lr) n.key n.val r).iters + f)
              ⟨h, some a, m, lg⟩ =
            if (callback j (visitL j lg (PT.node b ll lk lv lr).erase.toList) n.key n.val).needStop
                && m == 0 then
              .done ⟨h, n.right, m, callback j (visitL j lg (PT.node b ll lk lv lr).erase.toList) n.key n.val⟩
            else loop j wf (r.iters + f)
              ⟨h, n.right, m, callback j (visitL j lg (PT.node b ll lk lv lr).erase.toList) n.key n.val⟩ := by
          intro f
          rw [show (PT.node a (.node b ll lk lv lr) n.key n.val r).iters + f =
              ((PT.node b ll lk lv lr).iters + ((r.iters + f) + 1)) + 1 by
            simp only [PT.iters]; omega]
          rw [loop_succ, body_thread rfl hn hleft hw1 hq hqr]
          simp only
          rw [h1, loop_succ, body_unthread rfl hn1 hleft hw2 hq1 rfl]
          simp only [hback, Int.add_sub_cancel]
          cases hc : ((callback j (visitL j lg (PT.node b ll lk lv lr).erase.toList)
            n.key n.val).needStop && m == 0) <;> simp
        by_cases hret : ((callback j (visitL j lg (PT.node b ll lk lv lr).erase.toList)
            n.key n.val).needStop && m == 0) = true
        · right
          simp only [Bool.and_eq_true, beq_iff_eq] at hret
          obtain ⟨hs, hm0⟩ := hret
          refine ⟨hm0, ?_, n.right, fun f => ?_⟩
          · rw [visitL_stopped j _ hs]; exact hs
          · rw [step, visitL_stopped j _ hs]; simp [hs, hm0]
        · rcases ihr h n.right ret m _ hrr hndr hwfr hm with h2 | ⟨h0, hs, c, h2⟩
          · left; intro f; rw [step, if_neg hret, h2]
          · right; exact ⟨h0, hs, c, fun f => by rw [step, if_neg hret, h2]⟩
      · omega

/- A run that ends in `done` or `fault` ends the same way with more fuel, because fuel is only looked at when it is
   exhausted: unfold one step, the two runs take the same branch, recurse.  This is what carries `done` at the fuel
   `2 * size + 1` back to every fuel (`foreach_no_fault`, `foreach_total`). -/
theorem walk_mono {h : Heap κ ν} {c wf wf' p : Nat} {r : Res Nat}
    (hw : walk h c wf p = r) (hr : r ≠ .timeout) (hle : wf ≤ wf') : walk h c wf' p = r := by
  induction wf generalizing wf' p with
  | zero => simp [walk] at hw; exact absurd hw.symm hr
  | succ wf ih =>
    obtain ⟨wf', rfl⟩ : ∃ w, wf' = w + 1 := ⟨wf' - 1, by omega⟩
    simp only [walk] at hw ⊢
    split
    · simp_all
    · rename_i pn hpn
      simp only [hpn] at hw
      split
      · simp_all
      · rename_i x hx
        simp only [hx] at hw
        split
        · simp_all
        · rename_i hne
          simp only [hne, if_false] at hw
          exact ih hw (by omega)

theorem body_mono {j wf wf' : Nat} {s : St κ ν} {r : Res (Ctl (St κ ν))}
    (hb : body j wf s = r) (hr : r ≠ .timeout) (hle : wf ≤ wf') : body j wf' s = r := by
  unfold body at hb ⊢
  split
  · simp_all
  · rename_i c hc
    simp only [hc] at hb
    split
    · simp_all
    · rename_i cn hcn
      simp only [hcn] at hb
      split
      · simp_all
      · rename_i l hl
        simp only [hl] at hb
        cases hw : walk s.heap c wf l with
        | timeout => simp only [hw] at hb; exact absurd hb.symm hr
        | fault => rw [walk_mono hw (by simp) hle]; simpa only [hw] using hb
        | done p => rw [walk_mono hw (by simp) hle]; simpa only [hw] using hb

theorem loop_mono {j wf wf' f f' : Nat} {s : St κ ν} {r : Res (St κ ν)}
    (hl : loop j wf f s = r) (hr : r ≠ .timeout) (hwf : wf ≤ wf') (hf : f ≤ f') :
    loop j wf' f' s = r := by
  induction f generalizing f' s with
  | zero => simp [loop] at hl; exact absurd hl.symm hr
  | succ f ih =>
    obtain ⟨f', rfl⟩ : ∃ w, f' = w + 1 := ⟨f' - 1, by omega⟩
    rw [loop_succ] at hl ⊢
    cases hb : body j wf s with
    | timeout => simp only [hb] at hl; exact absurd hl.symm hr
    | fault => rw [body_mono hb (by simp) hwf]; simpa only [hb] using hl
    | done x =>
      rw [body_mono hb (by simp) hwf]
      simp only [hb] at hl
      cases x with
      | next s' => exact ih hl (by omega)
      | ret s' => exact hl

theorem morrisRun_mono {h : Heap κ ν} {root : Option Nat} {j fuel fuel' : Nat} {r : Res (St κ ν)}
    (hr : morrisRun h root j fuel = r) (hne : r ≠ .timeout) (hle : fuel ≤ fuel') :
    morrisRun h root j fuel' = r := by
  cases root with
  | none => exact hr
  | some a => exact loop_mono hr hne hle hle

end PV.Tree.Morris
