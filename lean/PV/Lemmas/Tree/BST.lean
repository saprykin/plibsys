import PV.Lemmas.Tree.SortedMap
/-! Plain BST (and the shape-level functions shared by all variants) refine the sorted list. -/
namespace PV.Tree
open Std

variable {κ ν : Type} {cmp : κ → κ → Ordering}

/-- order of a node: both subtrees are ordered (the bound facts stay in `SM.sorted_append_cons`) -/
theorem BT.Ordered.node_left {l r : BT κ ν} {k : κ} {v : ν}
    (ho : (BT.node l k v r).Ordered cmp) : l.Ordered cmp :=
  (SM.sorted_append_cons.1 ho).1

theorem BT.Ordered.node_right {l r : BT κ ν} {k : κ} {v : ν}
    (ho : (BT.node l k v r).Ordered cmp) : r.Ordered cmp :=
  (SM.sorted_append_cons.1 ho).2.1

theorem BT.length_toList (t : BT κ ν) : t.toList.length = t.size := by
  induction t with
  | nil => rfl
  | node l k v r ihl ihr => simp only [BT.toList, BT.size, List.length_append, List.length_cons, ihl, ihr]; omega

/-- unlinking the right-most node keeps the in-order listing -/
theorem BT.delMax_toList (l : BT κ ν) (k : κ) (v : ν) (r : BT κ ν) :
    (BT.delMax l k v r).1.toList ++ [(BT.delMax l k v r).2] = (BT.node l k v r).toList := by
  induction r generalizing l k v with
  | nil => simp [BT.delMax, BT.toList]
  | node rl rk rv rr _ ih =>
    have := ih rl rk rv
    simp only [BT.delMax, BT.toList, List.append_assoc, List.cons_append] at this ⊢
    rw [this]

theorem BT.lookup_refines [TransCmp cmp] (t : BT κ ν) (ho : t.Ordered cmp) (k : κ) :
    t.lookup cmp k = SM.lookup cmp t.toList k := by
  induction t with
  | nil => simp [BT.lookup, BT.toList, SM.lookup, SM.find]
  | node l x v r ihl ihr =>
    have hs : SM.Sorted cmp (l.toList ++ (x, v) :: r.toList) := ho
    simp only [BT.lookup, BT.toList, SM.lookup]
    cases h : cmp k x with
    | lt => rw [SM.find_mid_lt hs h]; exact ihl ho.node_left
    | gt => rw [SM.find_mid_gt hs h]; exact ihr ho.node_right
    | eq => rw [SM.find_mid_eq hs h]; rfl

/-- the search loop finds a node exactly when the map has the key -/
theorem BT.lookup_isSome [TransCmp cmp] (t : BT κ ν) (ho : t.Ordered cmp) (k : κ) :
    (t.lookup cmp k).isSome = (SM.find cmp t.toList k).isSome := by
  rw [BT.lookup_refines t ho k, SM.lookup, Option.isSome_map]

theorem BT.ins_refines [TransCmp cmp] (t : BT κ ν) (ho : t.Ordered cmp) (k : κ) (v : ν) :
    (t.ins cmp k v).1.toList = SM.insert cmp t.toList k v ∧
    (t.ins cmp k v).2.1 = (SM.find cmp t.toList k).isNone ∧
    (t.ins cmp k v).2.2 = (SM.find cmp t.toList k).toList := by
  induction t with
  | nil => simp [BT.ins, BT.toList, SM.insert, SM.find]
  | node l x y r ihl ihr =>
    have hs : SM.Sorted cmp (l.toList ++ (x, y) :: r.toList) := ho
    simp only [BT.ins, BT.toList]
    cases h : cmp k x with
    | lt =>
      obtain ⟨h1, h2, h3⟩ := ihl ho.node_left
      simp only [SM.insert_mid_lt h, SM.find_mid_lt hs h, BT.toList, h1, h2, h3, and_self]
    | gt =>
      obtain ⟨h1, h2, h3⟩ := ihr ho.node_right
      simp only [SM.insert_mid_gt hs h, SM.find_mid_gt hs h, BT.toList, h1, h2, h3, and_self]
    | eq =>
      simp [SM.insert_mid_eq hs h, SM.find_mid_eq hs h, BT.toList]

theorem BT.del_refines [TransCmp cmp] (t : BT κ ν) (ho : t.Ordered cmp) (k : κ) :
    (t.del cmp k).1.toList = SM.erase cmp t.toList k ∧
    (t.del cmp k).2.1 = (SM.find cmp t.toList k).isSome ∧
    (t.del cmp k).2.2 = (SM.find cmp t.toList k).toList := by
  induction t with
  | nil => simp [BT.del, BT.toList, SM.erase, SM.find]
  | node l x y r ihl ihr =>
    have hs : SM.Sorted cmp (l.toList ++ (x, y) :: r.toList) := ho
    cases h : cmp k x with
    | lt =>
      obtain ⟨h1, h2, h3⟩ := ihl ho.node_left
      simp only [BT.del, h, SM.erase_mid_lt h, SM.find_mid_lt hs h, BT.toList, h1, h2, h3, and_self]
    | gt =>
      obtain ⟨h1, h2, h3⟩ := ihr ho.node_right
      simp only [BT.del, h, SM.erase_mid_gt hs h, SM.find_mid_gt hs h, BT.toList, h1, h2, h3, and_self]
    | eq =>
      simp only [BT.toList, SM.erase_mid_eq hs h, SM.find_mid_eq hs h]
      cases l with
      | nil => simp [BT.del, h, BT.toList]
      | node ll lk lv lr =>
        cases r with
        | nil => simp [BT.del, h, BT.toList]
        | node rl rk rv rr =>
          have := BT.delMax_toList ll lk lv lr
          simp only [BT.toList] at this
          simp [BT.del, h, BT.toList, ← this]

end PV.Tree
