import PV.Lemmas.Tree.BST
/-!
The part of `/repo/src/ptree.c` that is the same for the three variants: one public call, and a sequence of them, over
any tree type that has a shape, an empty tree, an insert and a remove.  `bstStep`, `avlStep`, `rbStep` are its
instances, so what is proved of `Variant.step` from the properties of insert and remove alone holds of all three.
-/
namespace PV.Tree
open Std

/-- a tree type as `ptree.c` uses it; `none` from `ins` / `del` = the C code would dereference NULL.
    They return the tree, the added / found flag and the destroyed pair. -/
structure Variant (τ κ ν : Type) where
  toBT : τ → BT κ ν
  empty : τ
  ins : τ → κ → ν → Option (τ × Bool × List (κ × ν))
  del : τ → κ → Option (τ × Bool × List (κ × ν))

variable {τ κ ν : Type} {cmp : κ → κ → Ordering}

namespace Variant

abbrev list (V : Variant τ κ ν) (t : τ) : List (κ × ν) := (V.toBT t).toList

def insStep (V : Variant τ κ ν) (s : τ × Int) (k : κ) (v : ν) : Option ((τ × Int) × Out κ ν) :=
  (V.ins s.1 k v).map fun (t', a, d) =>
    let n' := if a then s.2 + 1 else s.2
    ((t', n'), .ins n' d)

def step (V : Variant τ κ ν) (cmp : κ → κ → Ordering) (s : τ × Int) : Op κ ν → Option ((τ × Int) × Out κ ν)
  | .ins k v => V.insStep s k v
  | .insf k v => if ((V.toBT s.1).lookup cmp k).isSome then V.insStep s k v else some (s, .ins s.2 [])
  | .rem k =>
    (V.del s.1 k).map fun (t', f, d) =>
      let n' := if f then s.2 - 1 else s.2
      ((t', n'), .rem f n' d)
  | .get k => some (s, .got ((V.toBT s.1).lookup cmp k))
  | .each j => some (s, .visited ((V.toBT s.1).foreachStop j))
  | .clear => some ((V.empty, s.2 - (V.list s.1).length), .cleared (s.2 - (V.list s.1).length) (V.list s.1))
  | .count => some (s, .num s.2)

def run (V : Variant τ κ ν) (cmp : κ → κ → Ordering) (s : τ × Int) :
    List (Op κ ν) → Option ((τ × Int) × List (Out κ ν))
  | [] => some (s, [])
  | op :: ops => (V.step cmp s op).bind fun r => (V.run cmp r.1 ops).map fun r' => (r'.1, r.2 :: r'.2)

/-- insert and remove of `V` answer as the sorted map does and keep `Inv`, without fault, on every tree that satisfies
    `Inv` and is ordered -/
structure Refines (V : Variant τ κ ν) (cmp : κ → κ → Ordering) (Inv : τ → Prop) : Prop where
  empty : Inv V.empty ∧ V.list V.empty = []
  ins : ∀ t k v, Inv t → SM.Sorted cmp (V.list t) →
    ∃ t', V.ins t k v = some (t', (SM.find cmp (V.list t) k).isNone, (SM.find cmp (V.list t) k).toList) ∧
      V.list t' = SM.insert cmp (V.list t) k v ∧ Inv t'
  del : ∀ t k, Inv t → SM.Sorted cmp (V.list t) →
    ∃ t', V.del t k = some (t', (SM.find cmp (V.list t) k).isSome, (SM.find cmp (V.list t) k).toList) ∧
      V.list t' = SM.erase cmp (V.list t) k ∧ Inv t'

variable {V : Variant τ κ ν} {Inv : τ → Prop}

/-- the states `step` keeps within: invariant, order, and `nnodes` is the number of pairs -/
def Good (V : Variant τ κ ν) (cmp : κ → κ → Ordering) (Inv : τ → Prop) (s : τ × Int) : Prop :=
  Inv s.1 ∧ SM.Sorted cmp (V.list s.1) ∧ s.2 = (V.list s.1).length

theorem step_refines [TransCmp cmp] (R : V.Refines cmp Inv) (op : Op κ ν) (s : τ × Int) (hg : V.Good cmp Inv s) :
    ∃ s', V.step cmp s op = some (s', (specStep cmp (V.list s.1) op).2) ∧
      V.list s'.1 = (specStep cmp (V.list s.1) op).1 ∧ V.Good cmp Inv s' := by
  obtain ⟨hi, hs, hn⟩ := hg
  have hins : ∀ k v, ∃ s', V.insStep s k v = some (s', (specStep cmp (V.list s.1) (.ins k v)).2) ∧
      V.list s'.1 = (specStep cmp (V.list s.1) (.ins k v)).1 ∧ V.Good cmp Inv s' := by
    intro k v
    obtain ⟨t', h, e, hi'⟩ := R.ins s.1 k v hi hs
    have hlen : (if (SM.find cmp (V.list s.1) k).isNone = true then s.2 + 1 else s.2) =
        ((SM.insert cmp (V.list s.1) k v).length : Int) := by
      rw [SM.length_insert hs, hn]; split <;> rfl
    exact ⟨(t', ((SM.insert cmp (V.list s.1) k v).length : Int)),
      by simp only [insStep, h, Option.map_some, hlen, specStep], e, hi', e ▸ SM.sorted_insert hs k v, e ▸ rfl⟩
  cases op with
  | ins k v => exact hins k v
  | insf k v =>
    simp only [step, specStep, BT.lookup_isSome _ hs k]
    split
    · exact hins k v
    · exact ⟨s, by rw [hn], rfl, hi, hs, hn⟩
  | rem k =>
    obtain ⟨t', h, e, hi'⟩ := R.del s.1 k hi hs
    have hlen : (if (SM.find cmp (V.list s.1) k).isSome = true then s.2 - 1 else s.2) =
        ((SM.erase cmp (V.list s.1) k).length : Int) := by
      have := SM.length_erase hs k
      rw [hn]; split <;> simp_all <;> omega
    exact ⟨(t', ((SM.erase cmp (V.list s.1) k).length : Int)),
      by simp only [step, h, Option.map_some, hlen, specStep], e, hi', e ▸ SM.sorted_erase hs k, e ▸ rfl⟩
  | get k => exact ⟨s, by simp only [step, specStep, BT.lookup_refines _ hs k], rfl, hi, hs, hn⟩
  | each j => exact ⟨s, rfl, rfl, hi, hs, hn⟩
  | clear =>
    exact ⟨(V.empty, 0), by simp only [step, specStep, hn, Int.sub_self], R.empty.2, R.empty.1,
      R.empty.2 ▸ List.Pairwise.nil, by rw [R.empty.2]; rfl⟩
  | count => exact ⟨s, by simp only [step, specStep, hn], rfl, hi, hs, hn⟩

theorem run_refines [TransCmp cmp] (R : V.Refines cmp Inv) (ops : List (Op κ ν)) (s : τ × Int)
    (hg : V.Good cmp Inv s) :
    ∃ s', V.run cmp s ops = some (s', (specRun cmp (V.list s.1) ops).2) ∧
      V.list s'.1 = (specRun cmp (V.list s.1) ops).1 ∧ Inv s'.1 := by
  induction ops generalizing s with
  | nil => exact ⟨s, rfl, rfl, hg.1⟩
  | cons op ops ih =>
    obtain ⟨s', h, e, hg'⟩ := step_refines R op s hg
    obtain ⟨s'', h2, e2, hi⟩ := ih s' hg'
    exact ⟨s'', by simp only [run, h, Option.bind_some, h2, Option.map_some, specRun, e],
      by simp only [specRun, ← e, e2], hi⟩

end Variant

def bstV (cmp : κ → κ → Ordering) : Variant (BT κ ν) κ ν where
  toBT := id
  empty := .nil
  ins t k v := some (t.ins cmp k v)
  del t k := some (t.del cmp k)

theorem bstStep_eq (s : BT κ ν × Int) (op : Op κ ν) : (bstV cmp).step cmp s op = some (bstStep cmp s op) := by
  cases op with
  | insf k v => exact (apply_ite some _ _ _).symm
  | _ => rfl

theorem bstRun_eq (s : BT κ ν × Int) (ops : List (Op κ ν)) : (bstV cmp).run cmp s ops = some (bstRun cmp s ops) := by
  induction ops generalizing s with
  | nil => rfl
  | cons op ops ih => simp only [Variant.run, bstStep_eq, Option.bind_some, ih, Option.map_some]; rfl

theorem bstV_refines [TransCmp cmp] : (bstV (ν := ν) cmp).Refines cmp fun _ => True where
  empty := ⟨trivial, rfl⟩
  ins t k v _ hs :=
    have ⟨h1, h2, h3⟩ := BT.ins_refines t hs k v
    ⟨_, congrArg some (Prod.ext rfl (Prod.ext h2 h3)), h1, trivial⟩
  del t k _ hs :=
    have ⟨h1, h2, h3⟩ := BT.del_refines t hs k
    ⟨_, congrArg some (Prod.ext rfl (Prod.ext h2 h3)), h1, trivial⟩

theorem bstRun_refines [TransCmp cmp] (ops : List (Op κ ν)) (t : BT κ ν)
    (ho : t.Ordered cmp) :
    (bstRun cmp (t, t.toList.length) ops).2 = (specRun cmp t.toList ops).2 ∧
    (bstRun cmp (t, t.toList.length) ops).1.1.toList = (specRun cmp t.toList ops).1 := by
  obtain ⟨s, h, e, -⟩ := Variant.run_refines bstV_refines ops (t, t.toList.length) ⟨trivial, ho, rfl⟩
  rw [Option.some.inj ((bstRun_eq ..).symm.trans h)]
  exact ⟨rfl, e⟩

end PV.Tree
