import PV.Lemmas.Tree.AVL
import PV.Lemmas.Tree.RB
/-!
Naturality of the tree model in the key and value objects (C14, last clause: "the tree never frees or alters user keys
and values").

The model is parametric in the value type `ν` and, up to the comparator, in the key type `κ`.  `map h g` renames every
key object by `h` and every value object by `g` in trees, operations and outputs.  When `h` preserves the comparator
(`cmp' (h a) (h b) = cmp a b`), every operation of the spec and of the three variants commutes with the renaming: the
operations only move the objects around, they never look inside a value, never change one, never make one up, and they
learn about keys only what the comparator says.
-/
namespace PV.Tree

variable {κ κ' ν ν' : Type}

/-- rename the objects of a list of pairs -/
def mapPairs (h : κ → κ') (g : ν → ν') (l : List (κ × ν)) : List (κ' × ν') := l.map fun p => (h p.1, g p.2)

def BT.map (h : κ → κ') (g : ν → ν') : BT κ ν → BT κ' ν'
  | .nil => .nil
  | .node l k v r => .node (BT.map h g l) (h k) (g v) (BT.map h g r)

/-- shape and balance factors kept -/
def AT.map (h : κ → κ') (g : ν → ν') : AT κ ν → AT κ' ν'
  | .nil => .nil
  | .node l k v b r => .node (AT.map h g l) (h k) (g v) b (AT.map h g r)

/-- shape and colours kept -/
def RT.map (h : κ → κ') (g : ν → ν') : RT κ ν → RT κ' ν'
  | .nil => .nil
  | .node l k v c r => .node (RT.map h g l) (h k) (g v) c (RT.map h g r)

def Op.map (h : κ → κ') (g : ν → ν') : Op κ ν → Op κ' ν'
  | .ins k v => .ins (h k) (g v)
  | .insf k v => .insf (h k) (g v)
  | .rem k => .rem (h k)
  | .get k => .get (h k)
  | .each j => .each j
  | .clear => .clear
  | .count => .count

/-- counts, flags and the order of the logs kept; the objects renamed -/
def Out.map (h : κ → κ') (g : ν → ν') : Out κ ν → Out κ' ν'
  | .ins n d => .ins n (mapPairs h g d)
  | .rem f n d => .rem f n (mapPairs h g d)
  | .got v => .got (v.map g)
  | .visited ps => .visited (mapPairs h g ps)
  | .cleared n d => .cleared n (mapPairs h g d)
  | .num n => .num n

/-- key objects an operation passes to the tree -/
def Op.keys : Op κ ν → List κ
  | .ins k _ => [k]
  | .insf k _ => [k]
  | .rem k => [k]
  | .get k => [k]
  | _ => []

/-- value objects an operation passes to the tree -/
def Op.vals : Op κ ν → List ν
  | .ins _ v => [v]
  | .insf _ v => [v]
  | _ => []

/-- key objects a call shows to the user (visited, or handed to the key destroy notifier) -/
def Out.keys : Out κ ν → List κ
  | .ins _ d => d.map (·.1)
  | .rem _ _ d => d.map (·.1)
  | .visited ps => ps.map (·.1)
  | .cleared _ d => d.map (·.1)
  | _ => []

/-- value objects a call shows to the user (looked up, visited, or handed to the value destroy notifier) -/
def Out.vals : Out κ ν → List ν
  | .ins _ d => d.map (·.2)
  | .rem _ _ d => d.map (·.2)
  | .got v => v.toList
  | .visited ps => ps.map (·.2)
  | .cleared _ d => d.map (·.2)
  | .num _ => []

section
variable {cmp : κ → κ → Ordering} {cmp' : κ' → κ' → Ordering} {h : κ → κ'} {g : ν → ν'}

@[simp] theorem mapPairs_nil : mapPairs h g ([] : List (κ × ν)) = [] := rfl
@[simp] theorem mapPairs_cons (p : κ × ν) (l : List (κ × ν)) : mapPairs h g (p :: l) = (h p.1, g p.2) :: mapPairs h g l := rfl
@[simp] theorem mapPairs_append (a b : List (κ × ν)) : mapPairs h g (a ++ b) = mapPairs h g a ++ mapPairs h g b := by
  simp [mapPairs]
@[simp] theorem mapPairs_length (l : List (κ × ν)) : (mapPairs h g l).length = l.length := by simp [mapPairs]
theorem mapPairs_take (l : List (κ × ν)) (j : Nat) : mapPairs h g (l.take j) = (mapPairs h g l).take j := by
  simp [mapPairs, List.map_take]
theorem mapPairs_optionToList (o : Option (κ × ν)) :
    mapPairs h g o.toList = (o.map fun p => (h p.1, g p.2)).toList := by cases o <;> rfl

theorem Out.keys_map (o : Out κ ν) : (o.map h g).keys = o.keys.map h := by
  cases o <;> simp [Out.map, Out.keys, mapPairs, Function.comp_def]
theorem Out.vals_map (o : Out κ ν) : (o.map h g).vals = o.vals.map g := by
  cases o with
  | got v => cases v <;> simp [Out.map, Out.vals]
  | _ => simp [Out.map, Out.vals, mapPairs, Function.comp_def]

theorem _root_.PV.SM.insert_map (hc : ∀ a b, cmp' (h a) (h b) = cmp a b) (l : List (κ × ν)) (k : κ) (v : ν) :
    SM.insert cmp' (mapPairs h g l) (h k) (g v) = mapPairs h g (SM.insert cmp l k v) := by
  induction l with
  | nil => rfl
  | cons p r ih =>
    simp only [mapPairs_cons, SM.insert, hc]
    cases cmp k p.1 <;> simp [ih]

theorem _root_.PV.SM.erase_map (hc : ∀ a b, cmp' (h a) (h b) = cmp a b) (l : List (κ × ν)) (k : κ) :
    SM.erase cmp' (mapPairs h g l) (h k) = mapPairs h g (SM.erase cmp l k) := by
  induction l with
  | nil => rfl
  | cons p r ih =>
    simp only [mapPairs_cons, SM.erase, hc]
    cases cmp k p.1 <;> simp [ih]

theorem _root_.PV.SM.find_map (hc : ∀ a b, cmp' (h a) (h b) = cmp a b) (l : List (κ × ν)) (k : κ) :
    SM.find cmp' (mapPairs h g l) (h k) = (SM.find cmp l k).map fun p => (h p.1, g p.2) := by
  induction l with
  | nil => rfl
  | cons p r ih =>
    simp only [SM.find] at ih ⊢
    simp only [mapPairs_cons, List.find?_cons, hc]
    cases cmp k p.1 <;> simp [ih]

theorem _root_.PV.SM.lookup_map (hc : ∀ a b, cmp' (h a) (h b) = cmp a b) (l : List (κ × ν)) (k : κ) :
    SM.lookup cmp' (mapPairs h g l) (h k) = (SM.lookup cmp l k).map g := by
  simp only [SM.lookup, SM.find_map hc]
  cases SM.find cmp l k <;> rfl

theorem specStep_map (hc : ∀ a b, cmp' (h a) (h b) = cmp a b) (l : List (κ × ν)) (op : Op κ ν) :
    specStep cmp' (mapPairs h g l) (op.map h g) =
      (mapPairs h g (specStep cmp l op).1, (specStep cmp l op).2.map h g) := by
  cases op with
  | ins k v =>
    simp only [Op.map, specStep, Out.map, SM.insert_map hc, SM.find_map hc, mapPairs_length, mapPairs_optionToList]
  | insf k v =>
    simp only [Op.map, specStep, SM.insert_map hc, SM.find_map hc, mapPairs_length, Option.isSome_map]
    split <;> simp only [Out.map, mapPairs_optionToList, mapPairs_nil]
  | rem k =>
    simp only [Op.map, specStep, Out.map, SM.erase_map hc, SM.find_map hc, mapPairs_length, mapPairs_optionToList,
      Option.isSome_map]
  | get k => simp only [Op.map, specStep, Out.map, SM.lookup_map hc]
  | each j =>
    simp only [Op.map, specStep, Out.map]
    split <;> simp only [mapPairs_take]
  | clear => simp only [Op.map, specStep, Out.map, mapPairs_nil]
  | count => simp only [Op.map, specStep, Out.map, mapPairs_length]

theorem specRun_map (hc : ∀ a b, cmp' (h a) (h b) = cmp a b) (l : List (κ × ν)) (ops : List (Op κ ν)) :
    specRun cmp' (mapPairs h g l) (ops.map (Op.map h g)) =
      (mapPairs h g (specRun cmp l ops).1, (specRun cmp l ops).2.map (Out.map h g)) := by
  induction ops generalizing l with
  | nil => rfl
  | cons op ops ih =>
    simp only [List.map_cons, specRun, specStep_map hc, ih]

theorem BT.toList_map (t : BT κ ν) : (t.map h g).toList = mapPairs h g t.toList := by
  induction t with
  | nil => rfl
  | node l k v r ihl ihr => simp [BT.map, BT.toList, ihl, ihr]

theorem BT.lookup_map (hc : ∀ a b, cmp' (h a) (h b) = cmp a b)
    (t : BT κ ν) (x : κ) : (t.map h g).lookup cmp' (h x) = (t.lookup cmp x).map g := by
  induction t with
  | nil => rfl
  | node l k v r ihl ihr =>
    simp only [BT.map, BT.lookup, hc]
    cases cmp x k <;> simp [ihl, ihr]

/-- what insert and remove return, renamed by `m` on trees -/
def mapRes {τ τ' : Type} (m : τ → τ') (h : κ → κ') (g : ν → ν') (p : τ × Bool × List (κ × ν)) :
    τ' × Bool × List (κ' × ν') :=
  (m p.1, p.2.1, mapPairs h g p.2.2)

/-- `m` renames the objects in the trees of `V` and gives trees of `V'`; shape, insert and remove commute with it -/
structure Variant.Hom {τ τ' : Type} (V : Variant τ κ ν) (V' : Variant τ' κ' ν') (h : κ → κ') (g : ν → ν')
    (m : τ → τ') : Prop where
  toBT : ∀ t, V'.toBT (m t) = (V.toBT t).map h g
  empty : m V.empty = V'.empty
  ins : ∀ t k v, V'.ins (m t) (h k) (g v) = (V.ins t k v).map (mapRes m h g)
  del : ∀ t k, V'.del (m t) (h k) = (V.del t k).map (mapRes m h g)

section variant
variable {τ τ' : Type} {V : Variant τ κ ν} {V' : Variant τ' κ' ν'} {m : τ → τ'}

theorem Variant.step_map (hc : ∀ a b, cmp' (h a) (h b) = cmp a b) (H : V.Hom V' h g m) (s : τ × Int) (op : Op κ ν) :
    V'.step cmp' (m s.1, s.2) (op.map h g) =
      (V.step cmp s op).map fun r => ((m r.1.1, r.1.2), r.2.map h g) := by
  have hins : ∀ k v, V'.insStep (m s.1, s.2) (h k) (g v) =
      (V.insStep s k v).map fun r => ((m r.1.1, r.1.2), r.2.map h g) := by
    intro k v
    simp only [Variant.insStep, H.ins]
    cases V.ins s.1 k v <;> rfl
  cases op with
  | ins k v => exact hins k v
  | insf k v =>
    simp only [Op.map, Variant.step, H.toBT, BT.lookup_map hc, Option.isSome_map, hins]
    split <;> rfl
  | rem k =>
    simp only [Op.map, Variant.step, H.del]
    cases V.del s.1 k <;> rfl
  | get k => simp only [Op.map, Variant.step, H.toBT, BT.lookup_map hc, Option.map_some, Out.map]
  | each j =>
    simp only [Op.map, Variant.step, H.toBT, BT.foreachStop, BT.toList_map, Option.map_some, Out.map]
    split <;> simp only [mapPairs_take]
  | clear =>
    simp only [Op.map, Variant.step, Variant.list, H.toBT, BT.toList_map, mapPairs_length, H.empty, Option.map_some,
      Out.map]
  | count => rfl

theorem Variant.run_map (hc : ∀ a b, cmp' (h a) (h b) = cmp a b)
    (H : V.Hom V' h g m) (s : τ × Int) (ops : List (Op κ ν)) :
    V'.run cmp' (m s.1, s.2) (ops.map (Op.map h g)) =
      (V.run cmp s ops).map fun r => ((m r.1.1, r.1.2), r.2.map (Out.map h g)) := by
  induction ops generalizing s with
  | nil => rfl
  | cons op ops ih =>
    simp only [List.map_cons, Variant.run, Variant.step_map hc H]
    cases V.step cmp s op with
    | none => rfl
    | some r => simp only [Option.map_some, Option.bind_some, ih]; cases V.run cmp r.1 ops <;> rfl

end variant

theorem BT.ins_map (hc : ∀ a b, cmp' (h a) (h b) = cmp a b) (t : BT κ ν) (x : κ) (y : ν) :
    (t.map h g).ins cmp' (h x) (g y) = mapRes (BT.map h g) h g (t.ins cmp x y) := by
  induction t with
  | nil => rfl
  | node l k v r ihl ihr =>
    simp only [BT.map, BT.ins, hc]
    cases cmp x k <;> simp [ihl, ihr, BT.map, mapRes]

theorem BT.delMax_map (l : BT κ ν) (k : κ) (v : ν) (r : BT κ ν) :
    BT.delMax (l.map h g) (h k) (g v) (r.map h g) =
      ((BT.delMax l k v r).1.map h g, (h (BT.delMax l k v r).2.1, g (BT.delMax l k v r).2.2)) := by
  induction r generalizing l k v with
  | nil => rfl
  | node rl rk rv rr _ ihr => simp [BT.map, BT.delMax, ihr]

theorem BT.del_map (hc : ∀ a b, cmp' (h a) (h b) = cmp a b) (t : BT κ ν) (x : κ) :
    (t.map h g).del cmp' (h x) = mapRes (BT.map h g) h g (t.del cmp x) := by
  induction t with
  | nil => rfl
  | node l k v r ihl ihr =>
    simp only [BT.map, BT.del, hc]
    cases cmp x k with
    | lt => simp [ihl, BT.map, mapRes]
    | gt => simp [ihr, BT.map, mapRes]
    | eq =>
      cases l with
      | nil => simp [BT.map, mapRes]
      | node ll lk lv lr =>
        cases r with
        | nil => simp [BT.map, mapRes]
        | node rl rk rv rr => simp [BT.map, BT.delMax_map, mapRes]

theorem bstV_hom (hc : ∀ a b, cmp' (h a) (h b) = cmp a b) : (bstV cmp).Hom (bstV cmp') h g (BT.map h g) where
  toBT _ := rfl
  empty := rfl
  ins t k v := congrArg some (BT.ins_map hc t k v)
  del t k := congrArg some (BT.del_map hc t k)

section avl

theorem AT.toBT_map (t : AT κ ν) : (t.map h g).toBT = t.toBT.map h g := by
  induction t with
  | nil => rfl
  | node l k v b r ihl ihr => simp [AT.map, AT.toBT, BT.map, ihl, ihr]

variable {l l' r r' : AT κ ν} {k : κ} {v : ν} {b : Int}

theorem AT.grewLeft_map {c : AT κ ν} :
    AT.grewLeft (c.map h g) (h k) (g v) b (r.map h g) = (AT.grewLeft c k v b r).map fun p => (p.1.map h g, p.2) := by
  fun_cases AT.grewLeft c k v b r <;> simp [AT.grewLeft, AT.map, AT.rotLR_eq, AT.rotR, *]

theorem AT.grewRight_map {c : AT κ ν} :
    AT.grewRight (l.map h g) (h k) (g v) b (c.map h g) = (AT.grewRight l k v b c).map fun p => (p.1.map h g, p.2) := by
  fun_cases AT.grewRight l k v b c <;> simp [AT.grewRight, AT.map, AT.rotRL_eq, AT.rotL, *]

theorem AT.shrunkLeft_map :
    AT.shrunkLeft (l.map h g) (h k) (g v) b (r.map h g) = (AT.shrunkLeft l k v b r).map fun p => (p.1.map h g, p.2) := by
  fun_cases AT.shrunkLeft l k v b r <;> simp [AT.shrunkLeft, AT.map, AT.rotRL_eq, AT.rotL, *]

theorem AT.shrunkRight_map :
    AT.shrunkRight (l.map h g) (h k) (g v) b (r.map h g) = (AT.shrunkRight l k v b r).map fun p => (p.1.map h g, p.2) := by
  fun_cases AT.shrunkRight l k v b r <;> simp [AT.shrunkRight, AT.map, AT.rotLR_eq, AT.rotR, *]

theorem AT.growL_map {gr : Bool} :
    AT.growL (l'.map h g) gr (h k) (g v) b (r.map h g) = (AT.growL l' gr k v b r).map fun p => (p.1.map h g, p.2) := by
  cases gr
  · rfl
  · exact AT.grewLeft_map ..

theorem AT.growR_map {gr : Bool} :
    AT.growR (l.map h g) (h k) (g v) b (r'.map h g) gr = (AT.growR l k v b r' gr).map fun p => (p.1.map h g, p.2) := by
  cases gr
  · rfl
  · exact AT.grewRight_map ..

theorem AT.shrinkL_map {s : Bool} :
    AT.shrinkL (l'.map h g) s (h k) (g v) b (r.map h g) = (AT.shrinkL l' s k v b r).map fun p => (p.1.map h g, p.2) := by
  cases s
  · rfl
  · exact AT.shrunkLeft_map ..

theorem AT.shrinkR_map {s : Bool} :
    AT.shrinkR (l.map h g) (h k) (g v) b (r'.map h g) s = (AT.shrinkR l k v b r' s).map fun p => (p.1.map h g, p.2) := by
  cases s
  · rfl
  · exact AT.shrunkRight_map ..

theorem AT.delMax_map :
    AT.delMax (l.map h g) (h k) (g v) b (r.map h g) =
      (AT.delMax l k v b r).map fun p => (p.1.map h g, p.2.1, (h p.2.2.1, g p.2.2.2)) := by
  induction r generalizing l k v b with
  | nil => rfl
  | node rl rk rv rb rr _ ihr =>
    simp only [AT.map, AT.delMax_node, ihr, Option.bind_map, Option.map_bind, Option.map_map, Function.comp_def,
      AT.shrinkR_map]

end avl

/-- what `AT.ins` / `AT.del` return, renamed -/
def AT.mapRes (h : κ → κ') (g : ν → ν') (p : AT κ ν × Bool × Bool × List (κ × ν)) : AT κ' ν' × Bool × Bool × List (κ' × ν') :=
  (p.1.map h g, p.2.1, p.2.2.1, mapPairs h g p.2.2.2)

theorem AT.ins_map (hc : ∀ a b, cmp' (h a) (h b) = cmp a b) (t : AT κ ν) (x : κ) (y : ν) :
    (t.map h g).ins cmp' (h x) (g y) = (t.ins cmp x y).map (AT.mapRes h g) := by
  induction t with
  | nil => rfl
  | node l k v b r ihl ihr =>
    simp only [AT.map, AT.ins_node, hc]
    cases cmp x k with
    | lt => simp only [ihl, Option.bind_map, Option.map_bind, Option.map_map, Function.comp_def, AT.growL_map, AT.mapRes]
    | gt => simp only [ihr, Option.bind_map, Option.map_bind, Option.map_map, Function.comp_def, AT.growR_map, AT.mapRes]
    | eq => rfl

theorem AT.del_map (hc : ∀ a b, cmp' (h a) (h b) = cmp a b) (t : AT κ ν) (x : κ) :
    (t.map h g).del cmp' (h x) = (t.del cmp x).map (AT.mapRes h g) := by
  induction t with
  | nil => rfl
  | node l k v b r ihl ihr =>
    cases hx : cmp x k with
    | lt =>
      simp only [AT.map, AT.del_lt hx, AT.del_lt (hc x k ▸ hx), ihl, Option.bind_map, Option.map_bind, Option.map_map,
        Function.comp_def, AT.shrinkL_map, AT.mapRes]
    | gt =>
      simp only [AT.map, AT.del_gt hx, AT.del_gt (hc x k ▸ hx), ihr, Option.bind_map, Option.map_bind, Option.map_map,
        Function.comp_def, AT.shrinkR_map, AT.mapRes]
    | eq =>
      cases l with
      | nil => simp [AT.map, AT.del, hc, hx, AT.mapRes]
      | node ll lk lv lb lr =>
        cases r with
        | nil => simp [AT.map, AT.del, hc, hx, AT.mapRes]
        | node rl rk rv rb rr =>
          have e := fun l' s k v => AT.shrinkL_map (h := h) (g := g) (l' := l') (s := s) (k := k) (v := v) (b := b)
            (r := .node rl rk rv rb rr)
          simp only [AT.map] at e
          simp only [AT.map, AT.del_eq_node hx, AT.del_eq_node (hc x k ▸ hx), AT.delMax_map, Option.bind_map,
            Option.map_bind, Option.map_map, Function.comp_def, e, AT.mapRes, mapPairs_cons, mapPairs_nil]

theorem avlV_hom (hc : ∀ a b, cmp' (h a) (h b) = cmp a b) : (avlV cmp).Hom (avlV cmp') h g (AT.map h g) where
  toBT := AT.toBT_map
  empty := rfl
  ins t k v := by simp only [avlV, AT.ins_map hc, Option.map_map]; rfl
  del t k := by simp only [avlV, AT.del_map hc, Option.map_map]; rfl

section rb

theorem RT.toBT_map (t : RT κ ν) : (t.map h g).toBT = t.toBT.map h g := by
  induction t with
  | nil => rfl
  | node l k v c r ihl ihr => simp [RT.map, RT.toBT, BT.map, ihl, ihr]

@[simp] theorem RT.isBlack_map (t : RT κ ν) : (t.map h g).isBlack = t.isBlack := by cases t <;> rfl
@[simp] theorem RT.isRedNode_map (t : RT κ ν) : (t.map h g).isRedNode = t.isRedNode := by cases t <;> rfl
@[simp] theorem RT.paint_map (c : Color) (t : RT κ ν) : RT.paint c (t.map h g) = (RT.paint c t).map h g := by cases t <;> rfl

variable {l l' r r' : RT κ ν} {k : κ} {v : ν} {c : Color}

theorem RT.atGparentL_map {p u : RT κ ν} {gk : κ} {gv : ν} {d : RT.Dir} :
    RT.atGparentL (p.map h g) (h gk) (g gv) (u.map h g) d =
      (RT.atGparentL p gk gv u d).map fun q => (q.1.map h g, q.2) := by
  fun_cases RT.atGparentL p gk gv u d <;> simp [RT.atGparentL, RT.map, *]

theorem RT.atGparentR_map {p u : RT κ ν} {gk : κ} {gv : ν} {d : RT.Dir} :
    RT.atGparentR (u.map h g) (h gk) (g gv) (p.map h g) d =
      (RT.atGparentR u gk gv p d).map fun q => (q.1.map h g, q.2) := by
  fun_cases RT.atGparentR u gk gv p d <;> simp [RT.atGparentR, RT.map, *]

theorem RT.upL_map {st : RT.InsSt} :
    RT.upL (l'.map h g) st (h k) (g v) c (r.map h g) = (RT.upL l' st k v c r).map fun q => (q.1.map h g, q.2) := by
  cases st
  case child d => exact RT.atGparentL_map ..
  all_goals cases c <;> rfl

theorem RT.upR_map {st : RT.InsSt} :
    RT.upR (l.map h g) (h k) (g v) c (r'.map h g) st = (RT.upR l k v c r' st).map fun q => (q.1.map h g, q.2) := by
  cases st
  case child d => exact RT.atGparentR_map ..
  all_goals cases c <;> rfl

theorem RT.fixLeft345_map {n s : RT κ ν} {pk : κ} {pv : ν} {pc : Color} :
    RT.fixLeft345 (n.map h g) (h pk) (g pv) pc (s.map h g) =
      (RT.fixLeft345 n pk pv pc s).map fun q => (q.1.map h g, q.2) := by
  cases s with
  | nil => rfl
  | node sl sk sv sc sr =>
    cases sl <;> simp only [RT.fixLeft345, RT.map, RT.isBlack_map, RT.paint_map, apply_ite (Option.map _),
      Option.map_some, Option.map_none] <;> rfl

theorem RT.fixRight345_map {n s : RT κ ν} {pk : κ} {pv : ν} {pc : Color} :
    RT.fixRight345 (s.map h g) (h pk) (g pv) pc (n.map h g) =
      (RT.fixRight345 s pk pv pc n).map fun q => (q.1.map h g, q.2) := by
  cases s with
  | nil => rfl
  | node sl sk sv sc sr =>
    cases sr <;> simp only [RT.fixRight345, RT.map, RT.isBlack_map, RT.paint_map, apply_ite (Option.map _),
      Option.map_some, Option.map_none] <;> rfl

theorem RT.deficitLeft_map {n s : RT κ ν} {pk : κ} {pv : ν} {pc : Color} :
    RT.deficitLeft (n.map h g) (h pk) (g pv) pc (s.map h g) =
      (RT.deficitLeft n pk pv pc s).map fun q => (q.1.map h g, q.2) := by
  cases s with
  | nil => rfl
  | node sl sk sv sc sr =>
    have e := RT.fixLeft345_map (h := h) (g := g) (n := n) (pk := pk) (pv := pv) (pc := pc) (s := .node sl sk sv sc sr)
    simp only [RT.map] at e
    simp only [RT.deficitLeft, RT.map, RT.fixLeft345_map, e]
    split
    · cases RT.fixLeft345 n pk pv .red sl <;> rfl
    · rfl

theorem RT.deficitRight_map {n s : RT κ ν} {pk : κ} {pv : ν} {pc : Color} :
    RT.deficitRight (s.map h g) (h pk) (g pv) pc (n.map h g) =
      (RT.deficitRight s pk pv pc n).map fun q => (q.1.map h g, q.2) := by
  cases s with
  | nil => rfl
  | node sl sk sv sc sr =>
    have e := RT.fixRight345_map (h := h) (g := g) (n := n) (pk := pk) (pv := pv) (pc := pc) (s := .node sl sk sv sc sr)
    simp only [RT.map] at e
    simp only [RT.deficitRight, RT.map, RT.fixRight345_map, e]
    split
    · cases RT.fixRight345 sr pk pv .red n <;> rfl
    · rfl

theorem RT.rebalL_map {dfc : Bool} :
    RT.rebalL (l'.map h g) dfc (h k) (g v) c (r.map h g) =
      (RT.rebalL l' dfc k v c r).map fun q => (q.1.map h g, q.2) := by
  cases dfc
  · rfl
  · exact RT.deficitLeft_map ..

theorem RT.rebalR_map {dfc : Bool} :
    RT.rebalR (l.map h g) (h k) (g v) c (r'.map h g) dfc =
      (RT.rebalR l k v c r' dfc).map fun q => (q.1.map h g, q.2) := by
  cases dfc
  · rfl
  · exact RT.deficitRight_map ..

theorem RT.unlink_map :
    RT.unlink (l.map h g) c (r.map h g) = ((RT.unlink l c r).1.map h g, (RT.unlink l c r).2) := by
  cases l <;> cases r <;> cases c <;> rfl

theorem RT.delMax_map :
    RT.delMax (l.map h g) (h k) (g v) c (r.map h g) =
      (RT.delMax l k v c r).map fun p => (p.1.map h g, p.2.1, (h p.2.2.1, g p.2.2.2)) := by
  induction r generalizing l k v c with
  | nil =>
    have e := RT.unlink_map (h := h) (g := g) (l := l) (c := c) (r := .nil)
    simp only [RT.map] at e
    simp only [RT.map, RT.delMax, e, Option.map_some]
  | node rl rk rv rc rr _ ihr =>
    simp only [RT.map, RT.delMax_node, ihr, Option.bind_map, Option.map_bind, Option.map_map, Function.comp_def,
      RT.rebalR_map]

end rb

/-- what `RT.insAux` / `RT.delAux` return, renamed -/
def RT.mapAuxRes {σ : Type} (h : κ → κ') (g : ν → ν') (p : RT κ ν × σ × Bool × List (κ × ν)) :
    RT κ' ν' × σ × Bool × List (κ' × ν') :=
  (p.1.map h g, p.2.1, p.2.2.1, mapPairs h g p.2.2.2)

theorem RT.insAux_map (hc : ∀ a b, cmp' (h a) (h b) = cmp a b) (t : RT κ ν) (x : κ) (y : ν) :
    (t.map h g).insAux cmp' (h x) (g y) = (t.insAux cmp x y).map (RT.mapAuxRes h g) := by
  induction t with
  | nil => rfl
  | node l k v c r ihl ihr =>
    simp only [RT.map, RT.insAux_node, hc]
    cases cmp x k with
    | lt => simp only [ihl, Option.bind_map, Option.map_bind, Option.map_map, Function.comp_def, RT.upL_map, RT.mapAuxRes]
    | gt => simp only [ihr, Option.bind_map, Option.map_bind, Option.map_map, Function.comp_def, RT.upR_map, RT.mapAuxRes]
    | eq => rfl

theorem RT.delAux_map (hc : ∀ a b, cmp' (h a) (h b) = cmp a b) (t : RT κ ν) (x : κ) :
    (t.map h g).delAux cmp' (h x) = (t.delAux cmp x).map (RT.mapAuxRes h g) := by
  induction t with
  | nil => rfl
  | node l k v c r ihl ihr =>
    cases hx : cmp x k with
    | lt =>
      simp only [RT.map, RT.delAux_lt hx, RT.delAux_lt (hc x k ▸ hx), ihl, Option.bind_map, Option.map_bind,
        Option.map_map, Function.comp_def, RT.rebalL_map, RT.mapAuxRes]
    | gt =>
      simp only [RT.map, RT.delAux_gt hx, RT.delAux_gt (hc x k ▸ hx), ihr, Option.bind_map, Option.map_bind,
        Option.map_map, Function.comp_def, RT.rebalR_map, RT.mapAuxRes]
    | eq =>
      have hx' := hc x k ▸ hx
      rcases RT.childless_or l r with hor | ⟨ll, lk, lv, lc, lr, rfl, hr⟩
      · have hor' : l.map h g = .nil ∨ r.map h g = .nil := hor.imp (congrArg (RT.map h g)) (congrArg (RT.map h g))
        rw [RT.map, RT.delAux_eq_unlink hx hor, RT.delAux_eq_unlink hx' hor', RT.unlink_map]
        rfl
      · have hr' : r.map h g ≠ .nil := by
          cases r with
          | nil => exact absurd rfl hr
          | node => nofun
        simp only [RT.map, RT.delAux_eq_node hx hr, RT.delAux_eq_node hx' hr', RT.delMax_map, Option.bind_map,
          Option.map_bind, Option.map_map, Function.comp_def, RT.rebalL_map, RT.mapAuxRes, mapPairs_cons, mapPairs_nil]

theorem rbV_hom (hc : ∀ a b, cmp' (h a) (h b) = cmp a b) : (rbV cmp).Hom (rbV cmp') h g (RT.map h g) where
  toBT := RT.toBT_map
  empty := rfl
  ins t k v := by
    simp only [rbV, RT.ins, RT.insAux_map hc]
    cases RT.insAux cmp t k v with
    | none => rfl
    | some p => obtain ⟨t', st, a, d⟩ := p; cases st <;> simp [RT.mapAuxRes, mapRes]
  del t k := by
    simp only [rbV, RT.del, RT.delAux_map hc, Option.map_map]; rfl

end

/-- key objects passed to the calls of a history -/
def passedKeys (ops : List (Op κ ν)) : List κ := ops.flatMap Op.keys
/-- value objects passed to the calls of a history (to `p_tree_insert`: no other call takes a value) -/
def passedVals (ops : List (Op κ ν)) : List ν := ops.flatMap Op.vals

/-- every key / value object among `stored` and in `outs` has the property `P` / `Q` -/
def AllObjects (P : κ → Prop) (Q : ν → Prop) (stored : List (κ × ν)) (outs : List (Out κ ν)) : Prop :=
  (∀ p ∈ stored, P p.1 ∧ Q p.2) ∧ ∀ o ∈ outs, (∀ k ∈ o.keys, P k) ∧ ∀ v ∈ o.vals, Q v

/-- an operation whose objects satisfy `P` / `Q`, as an operation on the subtypes -/
def liftOp (P : κ → Prop) (Q : ν → Prop) : (op : Op κ ν) → (∀ k ∈ op.keys, P k) → (∀ v ∈ op.vals, Q v) →
    Op {k // P k} {v // Q v}
  | .ins k v, hk, hv => .ins ⟨k, hk k (by simp [Op.keys])⟩ ⟨v, hv v (by simp [Op.vals])⟩
  | .insf k v, hk, hv => .insf ⟨k, hk k (by simp [Op.keys])⟩ ⟨v, hv v (by simp [Op.vals])⟩
  | .rem k, hk, _ => .rem ⟨k, hk k (by simp [Op.keys])⟩
  | .get k, hk, _ => .get ⟨k, hk k (by simp [Op.keys])⟩
  | .each j, _, _ => .each j
  | .clear, _, _ => .clear
  | .count, _, _ => .count

theorem liftOp_map (P : κ → Prop) (Q : ν → Prop) (op : Op κ ν) (hk : ∀ k ∈ op.keys, P k) (hv : ∀ v ∈ op.vals, Q v) :
    (liftOp P Q op hk hv).map Subtype.val Subtype.val = op := by
  cases op <;> rfl

def liftOps (P : κ → Prop) (Q : ν → Prop) : (ops : List (Op κ ν)) →
    (∀ op ∈ ops, (∀ k ∈ op.keys, P k) ∧ ∀ v ∈ op.vals, Q v) → List (Op {k // P k} {v // Q v})
  | [], _ => []
  | op :: ops, H =>
    liftOp P Q op (H op List.mem_cons_self).1 (H op List.mem_cons_self).2 ::
      liftOps P Q ops (fun o ho => H o (List.mem_cons_of_mem _ ho))

theorem liftOps_map (P : κ → Prop) (Q : ν → Prop) (ops : List (Op κ ν))
    (H : ∀ op ∈ ops, (∀ k ∈ op.keys, P k) ∧ ∀ v ∈ op.vals, Q v) :
    (liftOps P Q ops H).map (Op.map Subtype.val Subtype.val) = ops := by
  induction ops with
  | nil => rfl
  | cons op ops ih => simp only [liftOps, List.map_cons, liftOp_map, ih]

theorem allObjects_val {P : κ → Prop} {Q : ν → Prop} (l : List ({k // P k} × {v // Q v}))
    (os : List (Out {k // P k} {v // Q v})) :
    AllObjects P Q (mapPairs Subtype.val Subtype.val l) (os.map (Out.map Subtype.val Subtype.val)) := by
  refine ⟨fun p hp => ?_, fun o ho => ?_⟩
  · obtain ⟨q, _, rfl⟩ := List.mem_map.1 hp
    exact ⟨q.1.2, q.2.2⟩
  · obtain ⟨o₀, _, rfl⟩ := List.mem_map.1 ho
    rw [Out.keys_map, Out.vals_map]
    refine ⟨fun k hk => ?_, fun v hv => ?_⟩
    · obtain ⟨k₀, _, rfl⟩ := List.mem_map.1 hk; exact k₀.2
    · obtain ⟨v₀, _, rfl⟩ := List.mem_map.1 hv; exact v₀.2

variable {cmp : κ → κ → Ordering}

/-- any property of all key objects and any property of all value objects passed by the caller holds of every object
    stored in the tree and of every object a call shows (looked up, visited, handed to a destroy notifier) -/
theorem specRun_allObjects (P : κ → Prop) (Q : ν → Prop) (ops : List (Op κ ν))
    (H : ∀ op ∈ ops, (∀ k ∈ op.keys, P k) ∧ ∀ v ∈ op.vals, Q v) :
    AllObjects P Q (specRun cmp [] ops).1 (specRun cmp [] ops).2 := by
  have key := specRun_map (cmp := fun a b : {k // P k} => cmp a.1 b.1) (cmp' := cmp) (h := Subtype.val)
    (g := (Subtype.val : {v // Q v} → ν)) (fun _ _ => rfl) [] (liftOps P Q ops H)
  rw [liftOps_map, mapPairs_nil] at key
  rw [key]
  exact allObjects_val _ _

/-- the same for every completed run of a tree type whose renaming from the subtypes commutes with its operations -/
theorem Variant.run_allObjects {τ τ₀ : Type} {P : κ → Prop} {Q : ν → Prop} {V : Variant τ κ ν}
    {V₀ : Variant τ₀ {k // P k} {v // Q v}} {m : τ₀ → τ} (H : V₀.Hom V Subtype.val Subtype.val m)
    (ops : List (Op κ ν)) (Hops : ∀ op ∈ ops, (∀ k ∈ op.keys, P k) ∧ ∀ v ∈ op.vals, Q v) (s : τ × Int)
    (outs : List (Out κ ν)) (hr : V.run cmp (V.empty, 0) ops = some (s, outs)) :
    AllObjects P Q (V.list s.1) outs := by
  have key := Variant.run_map (cmp := fun a b : {k // P k} => cmp a.1 b.1) (cmp' := cmp) (fun _ _ => rfl) H
    (V₀.empty, 0) (liftOps P Q ops Hops)
  rw [liftOps_map, H.empty, hr] at key
  cases hm : V₀.run (fun a b => cmp a.1 b.1) (V₀.empty, 0) (liftOps P Q ops Hops) with
  | none => rw [hm] at key; cases key
  | some r₀ =>
    rw [hm] at key
    cases key
    rw [Variant.list, H.toBT, BT.toList_map]
    exact allObjects_val _ _

/-- the hypothesis of the two theorems above for "is one of the objects the caller passed" -/
theorem passed_self (ops : List (Op κ ν)) :
    ∀ op ∈ ops, (∀ k ∈ op.keys, k ∈ passedKeys ops) ∧ ∀ v ∈ op.vals, v ∈ passedVals ops :=
  fun op ho => ⟨fun _ hk => List.mem_flatMap.2 ⟨op, ho, hk⟩, fun _ hv => List.mem_flatMap.2 ⟨op, ho, hv⟩⟩

end PV.Tree
