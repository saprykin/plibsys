import PV.Model.Tree.MorrisClear
import PV.Lemmas.Tree.Morris
/-!
The heap-level model of `p_tree_clear`: `free`, `PT.graft` (a node moved below the right end of its left subtree), the
inner walk, the two kinds of iteration, the whole loop (`clear_trav`), and that more fuel never changes a finished run.
-/
namespace PV.Tree.Morris
open PV.Tree

variable {κ ν : Type}

theorem Heap.get_free_ne (h : Heap κ ν) {a b : Nat} (hab : a ≠ b) :
    (h.free a).get b = h.get b := by
  simp [Heap.get, Heap.free, List.getElem?_set_ne hab]

theorem Heap.get_free_eq (h : Heap κ ν) (a : Nat) : (h.free a).get a = none := by
  by_cases hlt : a < h.cells.length
  · simp [Heap.get, Heap.free, hlt]
  · have : (h.cells.set a none)[a]? = none :=
      List.getElem?_eq_none (by simpa using Nat.le_of_not_lt hlt)
    simp [Heap.get, Heap.free, this]

theorem PT.addrs_graft (t x : PT κ ν) : (t.graft x).addrs = t.addrs ++ x.addrs := by
  induction t with
  | nil => simp [PT.graft, PT.addrs]
  | node a l k v r _ ihr => simp [PT.graft, PT.addrs, ihr]

theorem PT.toList_graft (t x : PT κ ν) :
    (t.graft x).erase.toList = t.erase.toList ++ x.erase.toList := by
  induction t with
  | nil => simp [PT.graft, PT.erase, BT.toList]
  | node a l k v r _ ihr => simp [PT.graft, PT.erase, BT.toList, ihr]

theorem PT.size_graft (t x : PT κ ν) : (t.graft x).size = t.size + x.size := by
  induction t with
  | nil => simp [PT.graft, PT.size]
  | node a l k v r _ ihr => simp [PT.graft, PT.size, ihr]; omega

theorem PT.iters_node (a : Nat) (l : PT κ ν) (k : κ) (v : ν) (r : PT κ ν) :
    (PT.node a l k v r).iters = (PT.node a l k v .nil).iters + r.iters := by
  cases l <;> simp [PT.iters] <;> omega

theorem PT.iters_graft (t x : PT κ ν) : (t.graft x).iters = t.iters + x.iters := by
  induction t with
  | nil => simp [PT.graft, PT.iters]
  | node a l k v r _ ihr =>
    rw [PT.graft, PT.iters_node, ihr, PT.iters_node a l k v r]; omega

theorem ReprP.graft {h : Heap κ ν} {p px ret : Option Nat} {t x : PT κ ν}
    (ht : ReprP h p t px) (hx : ReprP h px x ret) : ReprP h p (t.graft x) ret := by
  induction t generalizing p with
  | nil => simp only [ReprP] at ht; subst ht; exact hx
  | node a l k v r _ ihr =>
    obtain ⟨hp, n, hn, hk, hv, hl, hr⟩ := ht
    exact ⟨hp, n, hn, hk, hv, hl, ihr hr⟩

theorem walkR_rmost {h : Heap κ ν} {b : Nat} {l : PT κ ν} {k : κ} {v : ν} {r : PT κ ν}
    (hr : ReprP h (some b) (.node b l k v r) none) (wf : Nat)
    (hwf : (PT.node b l k v r).size ≤ wf) :
    walkR h wf b = .done (PT.rmost b r) := by
  induction r generalizing b l k v wf with
  | nil =>
    obtain ⟨_, n, hn, _, _, _, hrr⟩ := hr
    simp only [ReprP] at hrr
    obtain ⟨wf, rfl⟩ : ∃ w, wf = w + 1 := ⟨wf - 1, by simp [PT.size] at hwf; omega⟩
    simp [walkR, hn, hrr, PT.rmost]
  | node b' rl rk rv rr _ ih =>
    obtain ⟨_, n, hn, _, _, _, hrr⟩ := hr
    have hrb : n.right = some b' := hrr.1
    rw [hrb] at hrr
    obtain ⟨wf, rfl⟩ : ∃ w, wf = w + 1 := ⟨wf - 1, by simp [PT.size] at hwf; omega⟩
    have := ih hrr wf (by simp only [PT.size] at hwf ⊢; omega)
    simp [walkR, hn, hrb, PT.rmost, this]

theorem clearLoop_succ (wf f : Nat) (s : CSt κ ν) :
    clearLoop wf (f + 1) s =
      match clearBody wf s with
      | .done (.next s') => clearLoop wf f s'
      | .done (.ret s') => .done s'
      | .fault => .fault
      | .timeout => .timeout := rfl

theorem clearBody_free {wf : Nat} {s : CSt κ ν} {a : Nat} {n : Node κ ν}
    (hc : s.cur = some a) (hn : s.heap.get a = some n) (hl : n.left = none) :
    clearBody wf s = .done (.next
      { heap := s.heap.free a, cur := n.right, destroyed := s.destroyed ++ [(n.key, n.val)],
        freed := s.freed ++ [a], nnodes := s.nnodes - 1 }) := by
  simp [clearBody, hc, hn, hl]

theorem clearBody_rot {wf : Nat} {s : CSt κ ν} {a b q : Nat} {n nq : Node κ ν}
    (hc : s.cur = some a) (hn : s.heap.get a = some n) (hl : n.left = some b)
    (hw : walkR s.heap wf b = .done q) (hq : s.heap.get q = some nq) (hqa : q ≠ a) :
    clearBody wf s = .done (.next { s with
      heap := (s.heap.set q { nq with right := some a }).set a { n with left := none },
      cur := some b }) := by
  have : (s.heap.set q { nq with right := some a }).get a = some n := by
    rw [Heap.get_set_ne _ _ hqa]; exact hn
  simp [clearBody, hc, hn, hl, hw, hq, this]

/-- After the rotation at `node a l k v r` the loop continues on `l.graft (node a nil k v r)`, which is not a subtree of
    where it was, so the induction is on the number of iterations: `PT.iters` is kept by `graft` (`PT.iters_graft`). -/
theorem clear_trav (wf n : Nat) :
    ∀ (s : PT κ ν) (h : Heap κ ν) (p : Option Nat) (d : List (κ × ν)) (fr : List Nat) (nn : Int),
      s.iters = n → ReprP h p s none → s.addrs.Nodup → s.size ≤ wf →
      ∃ h', (∀ f, clearLoop wf (n + f) ⟨h, p, d, fr, nn⟩ =
               clearLoop wf f ⟨h', none, d ++ s.erase.toList, fr ++ s.addrs, nn - s.size⟩) ∧
            ∀ x, h'.get x = if x ∈ s.addrs then none else h.get x := by
  induction n with
  | zero =>
    intro s h p d fr nn hit hr _ _
    cases s with
    | nil =>
      simp only [ReprP] at hr; subst hr
      exact ⟨h, fun f => by simp [PT.erase, BT.toList, PT.addrs, PT.size], fun x => by simp [PT.addrs]⟩
    | node a l k v r => cases l <;> simp [PT.iters] at hit
  | succ n ih =>
    intro s h p d fr nn hit hr hnd hwf
    cases s with
    | nil => simp [PT.iters] at hit
    | node a l k v r =>
      obtain ⟨rfl, nd, hn, rfl, rfl, hl, hrr⟩ := hr
      obtain ⟨hndl, hndr, hal, har, hlr⟩ := PT.nodup_node hnd
      cases l with
      | nil =>
        have hleft : nd.left = none := hl
        have hitr : r.iters = n := by simp only [PT.iters] at hit; omega
        have hr1 : ReprP (h.free a) nd.right r none :=
          hrr.congr fun x hx => Heap.get_free_ne _ (fun hax => har (hax ▸ hx))
        obtain ⟨h', hrun, hheap⟩ := ih r (h.free a) nd.right (d ++ [(nd.key, nd.val)]) (fr ++ [a])
          (nn - 1) hitr hr1 hndr (by simp only [PT.size] at hwf; omega)
        refine ⟨h', fun f => ?_, fun x => ?_⟩
        · rw [show n + 1 + f = (n + f) + 1 by omega, clearLoop_succ, clearBody_free rfl hn hleft]
          simp only
          rw [hrun]
          simp only [PT.erase, BT.toList, PT.addrs, PT.size, List.nil_append, List.append_assoc,
            List.singleton_append]
          congr 2
          omega
        · rw [hheap x]
          by_cases hxa : x = a
          · subst hxa; simp [PT.addrs, Heap.get_free_eq]
          · simp [PT.addrs, hxa, Heap.get_free_ne _ (Ne.symm hxa)]
      | node b ll lk lv lr =>
        have hleft : nd.left = some b := hl.1
        rw [hleft] at hl
        obtain ⟨nq, hq, hqr, hset⟩ := hl.rmost hndl
        have hqmem := PT.rmost_mem b ll lk lv lr
        have hqa : PT.rmost b lr ≠ a := fun hx => hal (hx ▸ hqmem)
        have hqr' : PT.rmost b lr ∉ r.addrs := hlr _ hqmem
        have hw : walkR h wf b = .done (PT.rmost b lr) :=
          walkR_rmost hl wf (by simp only [PT.size] at hwf ⊢; omega)
        -- the heap after the rotation
        let h2 := (h.set (PT.rmost b lr) { nq with right := some a }).set a { nd with left := none }
        have hget2 : ∀ x, x ≠ PT.rmost b lr → x ≠ a → h2.get x = h.get x := by
          intro x hxq hxa
          simp only [h2]
          rw [Heap.get_set_ne _ _ (Ne.symm hxa), Heap.get_set_ne _ _ (Ne.symm hxq)]
        have hn1 : (h.set (PT.rmost b lr) { nq with right := some a }).get a = some nd := by
          rw [Heap.get_set_ne _ _ hqa]; exact hn
        have hl2 : ReprP h2 (some b) (PT.node b ll lk lv lr) (some a) :=
          (hset (some a)).congr fun x hx =>
            Heap.get_set_ne _ _ (fun hax => hal (hax ▸ hx))
        have ha2 : ReprP h2 (some a) (PT.node a .nil nd.key nd.val r) none := by
          refine ⟨rfl, { nd with left := none }, Heap.get_set_eq _ _ hn1, rfl, rfl, ?_, ?_⟩
          · simp [ReprP]
          · exact hrr.congr fun x hx =>
              hget2 x (fun hxq => hqr' (hxq ▸ hx)) (fun hxa => har (hxa ▸ hx))
        have hs2 := hl2.graft ha2
        have hadd : ((PT.node b ll lk lv lr).graft (PT.node a .nil nd.key nd.val r)).addrs =
            (PT.node a (PT.node b ll lk lv lr) nd.key nd.val r).addrs := by
          rw [PT.addrs_graft]; simp [PT.addrs]
        have hlist : ((PT.node b ll lk lv lr).graft (PT.node a .nil nd.key nd.val r)).erase.toList =
            (PT.node a (PT.node b ll lk lv lr) nd.key nd.val r).erase.toList := by
          rw [PT.toList_graft]; simp [PT.erase, BT.toList]
        have hsize : ((PT.node b ll lk lv lr).graft (PT.node a .nil nd.key nd.val r)).size =
            (PT.node a (PT.node b ll lk lv lr) nd.key nd.val r).size := by
          rw [PT.size_graft]; simp only [PT.size]; omega
        have hit2 : ((PT.node b ll lk lv lr).graft (PT.node a .nil nd.key nd.val r)).iters = n := by
          rw [PT.iters_graft]; simp only [PT.iters] at hit ⊢; omega
        obtain ⟨h', hrun, hheap⟩ := ih _ h2 (some b) d fr nn hit2 hs2 (hadd ▸ hnd) (hsize ▸ hwf)
        refine ⟨h', fun f => ?_, fun x => ?_⟩
        · rw [show n + 1 + f = (n + f) + 1 by omega, clearLoop_succ,
            clearBody_rot rfl hn hleft hw hq hqa]
          simp only
          rw [hrun, hadd, hlist, hsize]
        · rw [hheap x, hadd]
          by_cases hx : x ∈ (PT.node a (PT.node b ll lk lv lr) nd.key nd.val r).addrs
          · simp [hx]
          · simp only [hx, if_false]
            apply hget2
            · intro hxq; apply hx; rw [hxq]
              rw [PT.addrs]; exact List.mem_append_left _ hqmem
            · intro hxa; apply hx; simp [PT.addrs, hxa]

/- As for `p_tree_foreach`: a finished run of the clear loop does not change with more fuel, which gives
   `clear_no_fault` for every fuel from the run with `2 * size + 1`. -/
theorem walkR_mono {h : Heap κ ν} {wf wf' p : Nat} {r : Res Nat}
    (hw : walkR h wf p = r) (hr : r ≠ .timeout) (hle : wf ≤ wf') : walkR h wf' p = r := by
  induction wf generalizing wf' p with
  | zero => simp [walkR] at hw; exact absurd hw.symm hr
  | succ wf ih =>
    obtain ⟨wf', rfl⟩ : ∃ w, wf' = w + 1 := ⟨wf' - 1, by omega⟩
    simp only [walkR] at hw ⊢
    split
    · simp_all
    · rename_i pn hpn
      simp only [hpn] at hw
      split
      · simp_all
      · rename_i x hx
        simp only [hx] at hw
        exact ih hw (by omega)

theorem clearBody_mono {wf wf' : Nat} {s : CSt κ ν} {r : Res (Ctl (CSt κ ν))}
    (hb : clearBody wf s = r) (hr : r ≠ .timeout) (hle : wf ≤ wf') : clearBody wf' s = r := by
  unfold clearBody at hb ⊢
  split
  · simp_all
  · rename_i c hc
    simp only [hc] at hb
    split
    · simp_all
    · rename_i cn hcn
      simp only [hcn] at hb
      split
      · simp_all
      · rename_i l hl
        simp only [hl] at hb
        cases hw : walkR s.heap wf l with
        | timeout => simp only [hw] at hb; exact absurd hb.symm hr
        | fault => rw [walkR_mono hw (by simp) hle]; simpa only [hw] using hb
        | done p => rw [walkR_mono hw (by simp) hle]; simpa only [hw] using hb

theorem clearLoop_mono {wf wf' f f' : Nat} {s : CSt κ ν} {r : Res (CSt κ ν)}
    (hl : clearLoop wf f s = r) (hr : r ≠ .timeout) (hwf : wf ≤ wf') (hf : f ≤ f') :
    clearLoop wf' f' s = r := by
  induction f generalizing f' s with
  | zero => simp [clearLoop] at hl; exact absurd hl.symm hr
  | succ f ih =>
    obtain ⟨f', rfl⟩ : ∃ w, f' = w + 1 := ⟨f' - 1, by omega⟩
    rw [clearLoop_succ] at hl ⊢
    cases hb : clearBody wf s with
    | timeout => simp only [hb] at hl; exact absurd hl.symm hr
    | fault => rw [clearBody_mono hb (by simp) hwf]; simpa only [hb] using hl
    | done x =>
      rw [clearBody_mono hb (by simp) hwf]
      simp only [hb] at hl
      cases x with
      | next s' => exact ih hl (by omega)
      | ret s' => exact hl

end PV.Tree.Morris
