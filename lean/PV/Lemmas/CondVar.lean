import PV.Model.CondVar
/-! C03: sums and counts over the thread table, inversion of the monitor operations, and the
    transition function `exec` of the bounded-buffer client as a relation `Step`. -/
namespace PV.CondVar

def sumOver {α : Type} (f : α → Nat) (l : List α) : Nat := (l.map f).sum

@[simp] theorem sumOver_nil {α : Type} (f : α → Nat) : sumOver f [] = 0 := rfl
@[simp] theorem sumOver_cons {α : Type} (f : α → Nat) (a : α) (l : List α) :
    sumOver f (a :: l) = f a + sumOver f l := by simp [sumOver]
@[simp] theorem sumOver_append {α : Type} (f : α → Nat) (l₁ l₂ : List α) :
    sumOver f (l₁ ++ l₂) = sumOver f l₁ + sumOver f l₂ := by simp [sumOver, List.sum_append]

theorem sumOver_set {α : Type} {f : α → Nat} {l : List α} {i : Nat} {a : α} (b : α)
    (h : l[i]? = some a) : sumOver f (l.set i b) + f a = sumOver f l + f b := by
  induction l generalizing i with
  | nil => simp at h
  | cons x t ih =>
    cases i with
    | zero =>
      obtain rfl : x = a := by simpa using h
      simp only [List.set_cons_zero, sumOver_cons]; omega
    | succ k =>
      have := ih (i := k) (by simpa using h)
      simp only [List.set_cons_succ, sumOver_cons]; omega

theorem sumOver_set_same {α : Type} {f : α → Nat} {l : List α} {i : Nat} {a b : α} (h : l[i]? = some a)
    (hf : f b = f a) : sumOver f (l.set i b) = sumOver f l := by
  have := sumOver_set (f := f) b h
  omega

theorem sumOver_pos {α : Type} {f : α → Nat} {l : List α} (h : 0 < sumOver f l) :
    ∃ x, x ∈ l ∧ 0 < f x := by
  obtain ⟨_, hm, hp⟩ := List.sum_pos_iff_exists_pos_nat.mp h
  obtain ⟨x, hx, rfl⟩ := List.mem_map.mp hm
  exact ⟨x, hx, hp⟩

theorem sumOver_eq_zero {α : Type} {f : α → Nat} {l : List α} (h : ∀ x, x ∈ l → f x = 0) :
    sumOver f l = 0 :=
  List.sum_eq_zero_iff_forall_eq_nat.mpr fun _ hm => by
    obtain ⟨x, hx, rfl⟩ := List.mem_map.mp hm
    exact h x hx

theorem le_sumOver_of_mem {α : Type} {f : α → Nat} {l : List α} {x : α} (h : x ∈ l) : f x ≤ sumOver f l := by
  induction l with
  | nil => simp at h
  | cons y t ih =>
    simp at h ⊢
    rcases h with rfl | h
    · omega
    · have := ih h; omega

def cnt {α : Type} (p : α → Bool) (l : List α) : Nat := sumOver (fun t => if p t then 1 else 0) l

theorem cnt_set {α : Type} {p : α → Bool} {l : List α} {i : Nat} {a : α} (b : α) (h : l[i]? = some a) :
    cnt p (l.set i b) + (if p a then 1 else 0) = cnt p l + (if p b then 1 else 0) :=
  sumOver_set (f := fun t => if p t then 1 else 0) b h

theorem cnt_eq_countP {α : Type} (p : α → Bool) (l : List α) : cnt p l = l.countP p := by
  induction l with
  | nil => rfl
  | cons x t ih =>
    rw [cnt, sumOver_cons, ← cnt, ih, List.countP_cons, Nat.add_comm]

theorem cnt_le_length {α : Type} (p : α → Bool) (l : List α) : cnt p l ≤ l.length :=
  cnt_eq_countP p l ▸ List.countP_le_length

theorem cnt_eq_zero {α : Type} {p : α → Bool} {l : List α} (h : ∀ x, x ∈ l → p x = false) : cnt p l = 0 :=
  (cnt_eq_countP p l).trans (List.countP_eq_zero.mpr fun x hx => by simp [h x hx])

theorem cnt_eq_length_filter_range {α : Type} (p : α → Bool) (l : List α) :
    cnt p l = ((List.range l.length).filter fun j => l[j]?.any p).length := by
  induction l with
  | nil => rfl
  | cons x t ih =>
    rw [List.length_cons, List.range_succ_eq_map, List.filter_cons, List.filter_map, cnt, sumOver_cons, ← cnt, ih]
    simp only [List.getElem?_cons_zero, Option.any_some, Function.comp_def, List.getElem?_cons_succ]
    cases p x <;> simp [Nat.add_comm]

theorem cnt_eq_length_of_nodup {α : Type} {p : α → Bool} {l : List α} {is : List Nat} (hn : is.Nodup)
    (hm : ∀ j, j ∈ is ↔ ∃ t, l[j]? = some t ∧ p t = true) : cnt p l = is.length := by
  rw [cnt_eq_length_filter_range]
  refine ((List.perm_ext_iff_of_nodup hn (List.nodup_range.filter _)).mpr fun j => ?_).length_eq.symm
  rw [hm, List.mem_filter, List.mem_range]
  cases h : l[j]? with
  | none => simp
  | some t => simp [(List.getElem?_eq_some_iff.mp h).1]

theorem get_set {α : Type} {l : List α} {i : Nat} {a : α} (b : α) (j : Nat) (h : l[i]? = some a) :
    (l.set i b)[j]? = if j = i then some b else l[j]? := by
  have hi : i < l.length := (List.getElem?_eq_some_iff.mp h).1
  rw [List.getElem?_set]
  by_cases hj : j = i
  · subst hj; simp [hi]
  · simp [hj, Ne.symm hj]

theorem length_erase_add_one {α : Type} [BEq α] [LawfulBEq α] {a : α} {l : List α} (h : a ∈ l) :
    (l.erase a).length + 1 = l.length := by
  have := List.length_erase_of_mem h
  have := List.length_pos_of_mem h
  omega

theorem upd_same (f : CvId → List Tid) (c : CvId) (v : List Tid) : upd f c v c = v := by simp [upd]
theorem upd_other (f : CvId → List Tid) {c x : CvId} (v : List Tid) (h : x ≠ c) : upd f c v x = f x := by
  simp [upd, h]

theorem mon_wait_some {m m' : Mon} {t : Tid} {cv : CvId} : m.wait t cv = some m' ↔
    m.owner = some t ∧ { owner := none, wset := upd m.wset cv (m.wset cv ++ [t]), woken := m.woken } = m' := by
  simp [Mon.wait]

theorem mon_lock_some {m m' : Mon} {t : Tid} :
    m.lock t = some m' ↔ m.owner = none ∧ { m with owner := some t } = m' := by
  simp [Mon.lock]

theorem mon_unlock_some {m m' : Mon} {t : Tid} :
    m.unlock t = some m' ↔ m.owner = some t ∧ { m with owner := none } = m' := by
  simp [Mon.unlock]

theorem mon_signal_some {m m' : Mon} {cv : CvId} {w : Option Tid} : m.signal cv w = some m' ↔
    (w = none ∧ m.wset cv = [] ∧ m = m') ∨ (∃ x, w = some x ∧ x ∈ m.wset cv ∧ m.wake cv x = m') := by
  cases w <;> simp [Mon.signal]

theorem mon_spurious_some {m m' : Mon} {cv : CvId} {w : Tid} :
    m.spurious cv w = some m' ↔ w ∈ m.wset cv ∧ m.wake cv w = m' := by
  simp [Mon.spurious]

theorem mon_reacquire_some {m m' : Mon} {cv : CvId} {t : Tid} :
    m.reacquire cv t = some m' ↔ t ∈ m.woken cv ∧ m.owner = none ∧ m.reacquired cv t = m' := by
  simp [Mon.reacquire, and_assoc]

theorem mem_wset_wake {m : Mon} {c cv : CvId} {x t : Tid} (ht : t ∈ m.wset cv) (h : c = cv → x ≠ t) :
    t ∈ (m.wake c x).wset cv := by
  simp only [Mon.wake, upd]
  split
  · next hc => subst hc; exact (List.mem_erase_of_ne (Ne.symm (h rfl))).mpr ht
  · exact ht

theorem mon_step_keeps_waiter {m m' : Mon} {l : MLabel} {t : Tid} {cv : CvId}
    (h : m.step l = some m') (ht : t ∈ m.wset cv) (hl : l.wakes t cv = false) : t ∈ m'.wset cv := by
  cases l with
  | lock u => obtain ⟨_, rfl⟩ := mon_lock_some.mp h; exact ht
  | unlock u => obtain ⟨_, rfl⟩ := mon_unlock_some.mp h; exact ht
  | wait u c =>
    obtain ⟨_, rfl⟩ := mon_wait_some.mp h
    simp only [upd]
    split
    · next hc => subst hc; exact List.mem_append_left _ ht
    · exact ht
  | signal u c w =>
    rcases mon_signal_some.mp h with ⟨_, _, rfl⟩ | ⟨x, rfl, _, rfl⟩
    · exact ht
    · exact mem_wset_wake ht (by simpa [MLabel.wakes] using hl)
  | broadcast u c =>
    cases h
    have hc : cv ≠ c := by simpa [MLabel.wakes, eq_comm] using hl
    simpa [Mon.broadcast, upd, hc] using ht
  | spurious c w =>
    obtain ⟨_, rfl⟩ := mon_spurious_some.mp h
    exact mem_wset_wake ht (by simpa [MLabel.wakes] using hl)
  | reacquire c u => obtain ⟨_, _, rfl⟩ := mon_reacquire_some.mp h; exact ht

theorem mon_run_keeps_waiter {ls : List MLabel} {m m' : Mon} {t : Tid} {cv : CvId}
    (h : m.run ls = some m') (ht : t ∈ m.wset cv) (hl : ∀ l, l ∈ ls → l.wakes t cv = false) :
    t ∈ m'.wset cv := by
  induction ls generalizing m with
  | nil => cases h; exact ht
  | cons l ls ih =>
    simp only [Mon.run] at h
    split at h
    · contradiction
    · next m1 hs =>
      exact ih h (mon_step_keeps_waiter hs ht (hl l (by simp))) (fun l' hl' => hl l' (by simp [hl']))

abbrev PCState.move (s : PCState) (i : Tid) (th : Thr) (pc : PC) (m : Mon) : PCState :=
  { s with mon := m, thr := s.thr.set i { th with pc := pc } }

/-- `exec`, one constructor for each way a step can succeed -/
inductive Step (cfg : Cfg) (s : PCState) : Label → PCState → Prop
  | lock {i th} : s.thr[i]? = some th → th.pc = .start → 0 < th.rem → s.mon.owner = none →
      Step cfg s (.lock i) (s.move i th .check { owner := some i, wset := s.mon.wset, woken := s.mon.woken })
  | wait {i th} : s.thr[i]? = some th → th.pc = .check → blocked cfg th.role s.buf = true →
      s.mon.owner = some i →
      Step cfg s (.check i) (s.move i th .inwait
        { owner := none, wset := upd s.mon.wset th.role.waitCv (s.mon.wset th.role.waitCv ++ [i]),
          woken := s.mon.woken })
  | act {i th} : s.thr[i]? = some th → th.pc = .check → blocked cfg th.role s.buf = false →
      Step cfg s (.check i) (act cfg s i th)
  | broadcast {i th} : s.thr[i]? = some th → th.pc = .sig → cfg.bcast = true →
      Step cfg s (.signal i none) (s.move i th .unl (s.mon.broadcast th.role.sigCv))
  | signalNone {i th} : s.thr[i]? = some th → th.pc = .sig → cfg.bcast = false →
      s.mon.wset th.role.sigCv = [] → Step cfg s (.signal i none) (s.move i th .unl s.mon)
  | signal {i th x} : s.thr[i]? = some th → th.pc = .sig → cfg.bcast = false →
      x ∈ s.mon.wset th.role.sigCv →
      Step cfg s (.signal i (some x)) (s.move i th .unl (s.mon.wake th.role.sigCv x))
  | unlock {i th} : s.thr[i]? = some th → th.pc = .unl → s.mon.owner = some i →
      Step cfg s (.unlock i) (s.move i th .start { owner := none, wset := s.mon.wset, woken := s.mon.woken })
  | reacquire {i th} : s.thr[i]? = some th → th.pc = .inwait → i ∈ s.mon.woken th.role.waitCv →
      s.mon.owner = none → cfg.recheck = true →
      Step cfg s (.reacquire i) (s.move i th .check (s.mon.reacquired th.role.waitCv i))
  | reacquireAct {i th} : s.thr[i]? = some th → th.pc = .inwait → i ∈ s.mon.woken th.role.waitCv →
      s.mon.owner = none → cfg.recheck = false →
      Step cfg s (.reacquire i) (act cfg { s with mon := s.mon.reacquired th.role.waitCv i } i th)
  | spurious {i th} : s.thr[i]? = some th → th.pc = .inwait → i ∈ s.mon.wset th.role.waitCv →
      Step cfg s (.spurious i) { s with mon := s.mon.wake th.role.waitCv i }

theorem Step.of_exec {cfg : Cfg} {s s' : PCState} {l : Label} (h : exec cfg s l = some s') :
    Step cfg s l s' := by
  cases l with
  | lock i =>
    simp only [exec, execLock] at h
    split at h
    · contradiction
    · next th hth =>
      split at h
      · next hc =>
        split at h
        · contradiction
        · next m hm =>
          obtain ⟨ho, rfl⟩ := mon_lock_some.mp hm
          cases h
          exact .lock hth hc.1 hc.2 ho
      · contradiction
  | check i =>
    simp only [exec, execCheck] at h
    split at h
    · contradiction
    · next th hth =>
      split at h
      · next hc =>
        split at h
        · next hb =>
          split at h
          · contradiction
          · next m hm =>
            obtain ⟨ho, rfl⟩ := mon_wait_some.mp hm
            cases h
            exact .wait hth hc hb ho
        · next hb =>
          cases h
          exact .act hth hc (by simpa using hb)
      · contradiction
  | signal i w =>
    simp only [exec, execSignal] at h
    split at h
    · contradiction
    · next th hth =>
      split at h
      · next hc =>
        split at h
        · next hb =>
          split at h
          · next hw => subst hw; cases h; exact .broadcast hth hc hb
          · contradiction
        · next hb =>
          have hb : cfg.bcast = false := by simpa using hb
          split at h
          · contradiction
          · next m hm =>
            cases h
            rcases mon_signal_some.mp hm with ⟨rfl, he, rfl⟩ | ⟨x, rfl, hx, rfl⟩
            · exact .signalNone hth hc hb he
            · exact .signal hth hc hb hx
      · contradiction
  | unlock i =>
    simp only [exec, execUnlock] at h
    split at h
    · contradiction
    · next th hth =>
      split at h
      · next hc =>
        split at h
        · contradiction
        · next m hm =>
          obtain ⟨ho, rfl⟩ := mon_unlock_some.mp hm
          cases h
          exact .unlock hth hc ho
      · contradiction
  | reacquire i =>
    simp only [exec, execReacquire] at h
    split at h
    · contradiction
    · next th hth =>
      split at h
      · next hc =>
        split at h
        · contradiction
        · next m hm =>
          obtain ⟨hw, ho, rfl⟩ := mon_reacquire_some.mp hm
          split at h
          · next hr => cases h; exact .reacquire hth hc hw ho hr
          · next hr => cases h; exact .reacquireAct hth hc hw ho (by simpa using hr)
      · contradiction
  | spurious i =>
    simp only [exec, execSpurious] at h
    split at h
    · contradiction
    · next th hth =>
      split at h
      · next hc =>
        split at h
        · contradiction
        · next m hm =>
          obtain ⟨hw, rfl⟩ := mon_spurious_some.mp hm
          cases h
          exact .spurious hth hc hw
      · contradiction

theorem Step.exec {cfg : Cfg} {s s' : PCState} {l : Label} (h : Step cfg s l s') :
    exec cfg s l = some s' := by
  cases h <;>
    simp [PV.CondVar.exec, execLock, execCheck, execSignal, execUnlock, execReacquire, execSpurious,
      Mon.lock, Mon.wait, Mon.signal, Mon.unlock, Mon.reacquire, Mon.spurious, *]

end PV.CondVar
