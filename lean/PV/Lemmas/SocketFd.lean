import PV.Lemmas.SocketGetters
/-!
# Descriptor-level lemmas of the socket family (property C10)

* `cloexec_new`, `cloexec_accept`: close-on-exec on every descriptor that is kept, given the kernel
  contract `fcntlFdOk` (with `example`s of what the code does when `F_GETFD` / `F_SETFD` fails).
* `fd_closed_once` (+ `_balanced`, `_all_freed`, `_run`): descriptor balance along any sequence of API calls
  from the empty world.  Kernel contract, as predicates on the trace: `FreshFrom []` (numbers handed out by
  `socket()` / `accept()` are not open at that moment) and `ClosesSucceed` (every `close()` returns 0).
  Caller discipline `WCall.Disciplined`: new objects go to empty slots; `WCall.newFromFd` (adoption of a
  caller-owned descriptor) is excluded from the sequences.
  Per-call effects on `fdTable`: `new_fdTable`, `accept_fdTable`, `close_fdTable`, `free_fdTable`,
  `callM_fdn` + `callM_good` (all other calls), `wstep_fdTable` (one world step).
* `close_spec`, `free_spec`: what these two do, as `ResAll` facts.
-/
namespace PV.Socket
open PV.Generated.Socket

theorem bind_pure_ok {α β} {m : M α} {k : α → M β} {f : α → β} (hk : ∀ a, k a = pure (f a)) {st st' : St} {b : β}
    {evs : List Ev} (h : (m >>= k) st = .ok b st' evs) : ∃ a, m st = .ok a st' evs ∧ b = f a := by
  rw [M.bind_apply] at h
  unfold M.bind at h
  cases hm : m st with
  | stop w => simp [hm] at h
  | ok a st1 evs1 =>
    simp only [hm, hk] at h
    injection h with h1 h2 h3
    exact ⟨a, by rw [← h2, ← h3, List.append_nil], h1.symm⟩

theorem cloexecAfter_cons (fd : Int) (ev : Ev) (rest : List Ev) (b : Bool) :
    cloexecAfter fd (ev :: rest) b = cloexecAfter fd rest (cloexecAfter fd [ev] b) := rfl

theorem cloexecAfter_append (fd : Int) (a b : List Ev) (init : Bool) :
    cloexecAfter fd (a ++ b) init = cloexecAfter fd b (cloexecAfter fd a init) := by
  induction a generalizing init with
  | nil => rfl
  | cons ev a ih =>
    rw [List.cons_append, cloexecAfter_cons, ih, cloexecAfter_cons fd ev a]

theorem fcntlFdOk_append (fd : Int) (a b : List Ev) :
    fcntlFdOk fd (a ++ b) = (fcntlFdOk fd a && fcntlFdOk fd b) := by
  unfold fcntlFdOk; rw [List.all_append]

/-- the event leaves the close-on-exec flag of descriptor `fd` as it is -/
def CxKeep (fd : Int) (ev : Ev) : Prop := ∀ b, cloexecAfter fd [ev] b = b

theorem cloexecAfter_keep (fd : Int) (tr : List Ev) (h : ∀ ev ∈ tr, CxKeep fd ev) (b : Bool) :
    cloexecAfter fd tr b = b := by
  induction tr generalizing b with
  | nil => rfl
  | cons ev tr ih =>
    rw [cloexecAfter_cons, h ev (by simp) b]
    exact ih (fun ev' h' => h ev' (by simp [h'])) b

/-- a native call other than `socket`, `accept`, `fcntl` does not touch the flag -/
theorem cxKeep_other (fd : Int) (ev : Ev) (h : ev.call.sys ∉ [.socket, .accept, .fcntl]) : CxKeep fd ev := by
  intro b
  obtain ⟨c, r⟩ := ev
  cases c <;> first | rfl | simp [Issued.sys] at h

/-- `fcntl` with a command other than `F_GETFD` / `F_SETFD` (here: `F_GETFL`, `F_SETFL`) does not touch the flag -/
theorem cxKeep_fcntl (fd f cmd arg : Int) (r : Res) (h1 : cmd ≠ F_GETFD) (h2 : cmd ≠ F_SETFD) :
    CxKeep fd ⟨.fcntl f cmd arg, r⟩ := by
  intro b
  cases hr : r.ret <;> simp [cloexecAfter, hr, h1, h2]

/-- a failed `accept` / `socket` does not touch the flag of any descriptor -/
theorem cxKeep_failed (fd : Int) (c : Issued) (r : Res) (h : r.failed = true) : CxKeep fd ⟨c, r⟩ := by
  intro b
  cases hr : r.ret with
  | ok v => simp [Res.failed, hr] at h
  | err x => cases c <;> simp [cloexecAfter, hr]

theorem or_one_and_one (v : Nat) : (v ||| 1) &&& 1 = 1 := by
  rw [Nat.and_one_is_mod]
  have h := Nat.or_mod_two_pow (a := v) (b := 1) (n := 1)
  simp only [Nat.pow_one] at h
  rw [h]
  rcases Nat.mod_two_eq_zero_or_one v with h | h <;> rw [h] <;> decide

theorem setFdBlocking_cx (fd fd' : Int) (b : Bool) : TrAll (CxKeep fd) (setFdBlocking fd' b) := by
  unfold setFdBlocking
  tr_all (exact cxKeep_fcntl _ _ _ _ _ (by decide) (by decide))

theorem newFromFd_cx (fd fd' : Int) : TrAll (CxKeep fd) (newFromFd fd') := by
  unfold newFromFd
  tr_all (skip)
  · exact (setDetails_only _).trAll _ (cxKeep_other fd)
  · exact setFdBlocking_cx _ _ _

theorem close_cx (fd : Int) (s : Sock) : TrAll (CxKeep fd) (close s) :=
  (close_only s).trAll _ (cxKeep_other fd)

/-- **the `F_GETFD` / `F_SETFD` block**: if its `fcntl`s on `fd` do not fail, the flag of `fd` is set
    afterwards, whatever it was before -/
theorem fdCloexecBlock_sets (fd : Int) :
    ResAll (fun _ evs => fcntlFdOk fd evs = true → ∀ b, cloexecAfter fd evs b = true)
      (fdCloexecBlock true fd F_GETFD FD_CLOEXEC FD_CLOEXEC F_SETFD) := by
  unfold fdCloexecBlock
  simp only [if_true]
  refine ResAll.bind_sys _ _ fun r => ?_
  split
  · rename_i hr
    exact ResAll.pure _ fun hk => by simp [fcntlFdOk, Res.failed, hr] at hk
  rename_i v hr
  refine ResAll.ite (fun hz => ResAll.bind_sys _ _ fun r2 => ResAll.pure _ fun hk b => ?_) fun hz => ResAll.pure _ fun _ b => ?_
  · cases hr2 : r2.ret with
    | err x => simp [fcntlFdOk, Res.failed, hr2] at hk
    | ok v2 =>
      have : FD_CLOEXEC.toNat = 1 := by decide
      simp [cloexecAfter, hr2, this]
  · simp [cloexecAfter, hr]
    exact ⟨by decide, hz⟩

/-- `p_socket_close`: nothing on a closed socket; otherwise exactly `close (fd)`, and the object is marked
    closed (fd := −1) iff that call returned 0 -/
theorem close_spec (s : Sock) : ResAll (fun (x : Sock × Option PErr × Bool) evs =>
    (s.closed = true ∧ evs = [] ∧ x = (s, none, true)) ∨
    (s.closed = false ∧ ∃ rc, evs = [⟨.close s.fd, rc⟩] ∧
      ((rc.ret = .ok 0 ∧ x = ({ s with connected := false, closed := true, listening := false, fd := -1 }, none, true)) ∨
       (rc.ret ≠ .ok 0 ∧ ∃ e, x = (s, some e, false))))) (close s) := by
  unfold close
  refine ResAll.ite (fun hc => ResAll.pure _ (.inl ⟨hc, rfl, rfl⟩)) fun hc => ResAll.bind_sys _ _ fun rc => ?_
  have hc : s.closed = false := by simpa using hc
  exact ResAll.ite (fun h0 => ResAll.pure _ (.inr ⟨hc, rc, rfl, .inl ⟨h0, rfl⟩⟩)) fun h0 =>
    ResAll.bind_errnoErr _ _ _ fun e _ => ResAll.pure _ (.inr ⟨hc, rc, rfl, .inr ⟨h0, e, rfl⟩⟩)

/-- `p_socket_free`: `close (fd)` once if the object is not marked closed, nothing otherwise -/
theorem free_spec (s : Sock) : ResAll (fun _ evs =>
    (s.closed = true ∧ evs = []) ∨ (s.closed = false ∧ ∃ rc, evs = [⟨.close s.fd, rc⟩])) (free s) :=
  ResAll.bind (close_spec s) fun _ => ResAll.pure _ fun _ h => by
    rcases h with ⟨hc, rfl, _⟩ | ⟨hc, rc, rfl, _⟩
    · exact .inl ⟨hc, rfl⟩
    · exact .inr ⟨hc, rc, rfl⟩

theorem cloexec_sets_then_keeps (fd : Int) (a b c : List Ev)
    (hb : fcntlFdOk fd b = true → ∀ x, cloexecAfter fd b x = true) (hc : ∀ ev ∈ c, CxKeep fd ev)
    (hk : fcntlFdOk fd (a ++ (b ++ c)) = true) (x : Bool) : cloexecAfter fd (a ++ (b ++ c)) x = true := by
  rw [fcntlFdOk_append, fcntlFdOk_append] at hk
  simp only [Bool.and_eq_true] at hk
  rw [cloexecAfter_append, cloexecAfter_append, hb hk.2.1]
  exact cloexecAfter_keep _ _ hc _

/-- **cloexec (`p_socket_new`)**: the descriptor of every socket object `p_socket_new` returns has
    close-on-exec set when the call returns — given the kernel contract `fcntlFdOk` (the
    `fcntl (F_GETFD / F_SETFD)` calls on that descriptor do not fail).  `SOCK_CLOEXEC` is in the type given
    to `socket()`; whatever `F_GETFD` then reports, the flag is set afterwards: if it reports "not set",
    the `F_SETFD` that follows sets it; `F_GETFL` / `F_SETFL` do not touch it.  (T6: the block of `p_socket_new` /
    `p_socket_accept` is present and is `F_GETFD`, `& FD_CLOEXEC`, `| FD_CLOEXEC`, `F_SETFD`.) -/
theorem cloexec_new (f t p : Int) : ResAll (fun (x : Option Sock × Option PErr) evs =>
    ∀ s, x.1 = some s → fcntlFdOk s.fd evs = true → cloexecAfter s.fd evs false = true) (new f t p) := by
  unfold new
  refine ResAll.ite (fun _ => ResAll.pure _ (by simp)) fun _ => ?_
  dsimp only
  split
  · exact ResAll.pure _ (by simp)
  refine ResAll.bind_sys _ _ fun r => ?_
  split
  · exact ResAll.bind_errnoErr _ _ _ fun _ _ => ResAll.pure _ (by simp)
  rename_i v _
  refine ResAll.bind (fdCloexecBlock_sets v) fun _ => ResAll.bind (ResAll.of_trAll (setFdBlocking_cx v v false)) fun x => ?_
  split
  · exact ResAll.bind_any fun _ => ResAll.pure _ (by simp)
  · refine ResAll.pure _ fun eF hF eB hB s hs => ?_
    obtain rfl := Option.some.inj hs
    exact fun hk => cloexec_sets_then_keeps _ [_] eB _ hB (by simpa using hF) hk _

/-- **cloexec (`p_socket_accept`)**: the descriptor of every socket object `p_socket_accept` returns has
    close-on-exec set when the call returns, given `fcntlFdOk` for that descriptor.  (`accept()` yields a
    descriptor without the flag; `F_GETFD` reports it, `F_SETFD (flags | FD_CLOEXEC)` sets it; nothing
    `p_socket_new_from_fd` does afterwards touches it.) -/
theorem cloexec_accept (s : Sock) : ResAll (fun (o : Outcome) evs =>
    ∀ ns, o.sock = some ns → fcntlFdOk ns.fd evs = true → cloexecAfter ns.fd evs false = true) (accept s) := by
  unfold accept
  split
  · exact ResAll.pure _ (by simp [failOut])
  refine ResAll.bind_any fun x => ?_
  split
  · exact ResAll.pure _ fun _ => by simp [failOut]
  rename_i r
  refine ResAll.bind (fdCloexecBlock_sets (retVal r)) fun _ =>
    ResAll.bind ((ResAll.of_trAll (newFromFd_cx (retVal r) (retVal r))).and (newFromFd_res (retVal r))) fun x => ?_
  obtain ⟨_ | n, e⟩ := x
  · exact ResAll.bind_any fun _ => ResAll.pure _ (by simp)
  · refine ResAll.pure _ fun eN ⟨hN, hn⟩ eB hB eL ns hs => ?_
    obtain rfl := Option.some.inj hs
    rw [show ({ n with protocol := s.protocol } : Sock).fd = retVal r from (hn.2 n rfl).2.1]
    exact fun hk => cloexec_sets_then_keeps _ eL eB _ hB (by simpa using hN) hk _

/-! ### outside the contract: what the code does when `fcntl` on the fresh descriptor fails

`p_socket_accept` only logs a warning when `fcntl (F_GETFD)` / `fcntl (F_SETFD)` fails and goes on: the
socket object **is returned, without close-on-exec**. -/

def demoListener : Sock :=
  { family := AF_INET, protocol := 6, type := 1, fd := 5, listen_backlog := 5, blocking := true, listening := true }

/-- the native answers `p_socket_new_from_fd` needs to succeed on an AF_INET stream socket -/
def newFromFdAnswers : Script :=
  [{ sys := .getsockopt, ret := .ok 0, val := 1, len := 4 },       -- SO_TYPE = SOCK_STREAM
   { sys := .getsockname, ret := .ok 0, sa := [2, 0, 0, 80] },      -- AF_INET
   { sys := .getpeername, ret := .ok 0 },
   { sys := .getsockopt, ret := .ok 0, val := 0, len := 4 },        -- SO_KEEPALIVE
   { sys := .fcntl, ret := .ok 2 },                                  -- F_GETFL
   { sys := .fcntl, ret := .ok 0 }]                                  -- F_SETFL

/-- `accept()` → 7, `F_GETFD` → 0, **`F_SETFD` fails** (EBADF): object for fd 7 returned, flag not set -/
example :
    (call demoListener .accept
      ([{ sys := .poll, ret := .ok 1 }, { sys := .accept, ret := .ok 7 },
        { sys := .fcntl, ret := .ok 0 }, { sys := .fcntl, ret := .err EBADF }] ++ newFromFdAnswers)).toOption.map
      (fun r => (r.out.ret, r.out.sock.map (·.fd), fcntlFdOk 7 r.tr, cloexecAfter 7 r.tr false)) =
    some (1, some 7, false, false) := by decide

/-- `accept()` → 7, **`F_GETFD` fails**: no `F_SETFD` is attempted, object for fd 7 returned, flag not set -/
example :
    (call demoListener .accept
      ([{ sys := .poll, ret := .ok 1 }, { sys := .accept, ret := .ok 7 },
        { sys := .fcntl, ret := .err EBADF }] ++ newFromFdAnswers)).toOption.map
      (fun r => (r.out.ret, r.out.sock.map (·.fd), fcntlFdOk 7 r.tr, cloexecAfter 7 r.tr false,
                 r.tr.map (·.call) |>.filter (fun c => c.sys == .fcntl))) =
    some (1, some 7, false, false, [.fcntl 7 F_GETFD 0, .fcntl 7 F_GETFL 0, .fcntl 7 F_SETFL 2050]) := by decide

/-- inside the contract (same script, `F_SETFD` succeeds): flag set — instance of `cloexec_accept` -/
example :
    (call demoListener .accept
      ([{ sys := .poll, ret := .ok 1 }, { sys := .accept, ret := .ok 7 },
        { sys := .fcntl, ret := .ok 0 }, { sys := .fcntl, ret := .ok 0 }] ++ newFromFdAnswers)).toOption.map
      (fun r => (r.out.ret, r.out.sock.map (·.fd), fcntlFdOk 7 r.tr, cloexecAfter 7 r.tr false)) =
    some (1, some 7, true, true) := by decide

/-- the same for `p_socket_new`: `socket()` → 7 with SOCK_CLOEXEC, but `F_GETFD` answers "not set" and
    `F_SETFD` fails: object returned, flag (as the kernel reported it) not set -/
example :
    (runM (new AF_INET P_SOCKET_TYPE_STREAM P_SOCKET_PROTOCOL_TCP)
      [{ sys := .socket, ret := .ok 7 }, { sys := .fcntl, ret := .ok 0 }, { sys := .fcntl, ret := .err EBADF },
       { sys := .fcntl, ret := .ok 2 }, { sys := .fcntl, ret := .ok 0 }] 0).toOption.map
      (fun x => (x.1.1.map (·.fd), fcntlFdOk 7 x.2.2, cloexecAfter 7 x.2.2 false)) =
    some (some 7, false, false) := by decide

theorem fdTable_append (a b : List Ev) (t : List Int) :
    fdTable (a ++ b) t = (fdTable a t).bind (fdTable b) := by
  induction a generalizing t with
  | nil => rfl
  | cons ev a ih =>
    simp only [List.cons_append, fdTable]
    split
    · split
      · rfl
      · exact ih _
    · split
      · rfl
      · exact ih _
    · split
      · exact ih _
      · rfl
    · exact ih _

/-- the event neither opens nor closes a descriptor -/
def FdNeutral (ev : Ev) : Prop := ∀ rest t, fdTable (ev :: rest) t = fdTable rest t

theorem fdTable_neutral (a : List Ev) (h : ∀ ev ∈ a, FdNeutral ev) (b : List Ev) (t : List Int) :
    fdTable (a ++ b) t = fdTable b t := by
  induction a with
  | nil => rfl
  | cons ev a ih =>
    rw [List.cons_append, h ev (by simp)]
    exact ih (fun ev' h' => h ev' (by simp [h']))

theorem fdTable_of_neutral (a : List Ev) (h : ∀ ev ∈ a, FdNeutral ev) (t : List Int) :
    fdTable a t = some t := by
  have := fdTable_neutral a h [] t
  simpa [fdTable] using this

theorem fdNeutral_other (ev : Ev) (h : ev.call.sys ∉ [.socket, .accept, .close]) : FdNeutral ev := by
  intro rest t
  obtain ⟨c, r⟩ := ev
  cases c <;> first | rfl | simp [Issued.sys] at h

/-- a failed `socket()` / `accept()` opens nothing -/
theorem fdNeutral_failed (c : Issued) (r : Res) (hc : c.sys ≠ .close) (h : r.failed = true) : FdNeutral ⟨c, r⟩ := by
  intro rest t
  cases hr : r.ret with
  | ok v => simp [Res.failed, hr] at h
  | err x => cases c <;> simp [Issued.sys] at hc <;> simp [fdTable, hr]

/-- the descriptor number an event hands out: a successful `socket()` or `accept()` -/
def Ev.obtains (ev : Ev) : Option Int :=
  match ev.call, ev.res.ret with
  | .socket .., .ok v => some (Int.ofNat v)
  | .accept _, .ok v => some (Int.ofNat v)
  | _, _ => none

theorem fdTable_obtain (ev : Ev) (v : Int) (h : ev.obtains = some v) (rest : List Ev) (t : List Int) (hv : v ∉ t) :
    fdTable (ev :: rest) t = fdTable rest (v :: t) := by
  obtain ⟨c, r⟩ := ev
  unfold Ev.obtains at h
  cases hr : r.ret with
  | err x => cases c <;> simp [hr] at h
  | ok n =>
    cases c <;> simp [hr] at h <;> (subst h; simp [fdTable, hr, hv])

theorem fdTable_close (fd : Int) (rc : Res) (rest : List Ev) (t : List Int) (h : fd ∈ t) :
    fdTable (⟨.close fd, rc⟩ :: rest) t = fdTable rest (t.erase fd) := by
  simp [fdTable, h]

/-- **kernel contract (fresh numbers)**: starting from the table `T`, whenever `socket()` / `accept()`
    hands out a number and the table just before that call is defined, the number is not in it
    (the kernel never returns a descriptor number that is still open) -/
def FreshFrom (T : List Int) (tr : List Ev) : Prop :=
  ∀ pre ev post v T1, tr = pre ++ ev :: post → ev.obtains = some v → fdTable pre T = some T1 → v ∉ T1

/-- **kernel contract (close works)**: every `close()` of the trace returns 0 -/
def ClosesSucceed (tr : List Ev) : Prop := ∀ ev ∈ tr, ev.call.sys = .close → ev.res.ret = .ok 0

theorem FreshFrom.left {T : List Int} {a b : List Ev} (h : FreshFrom T (a ++ b)) : FreshFrom T a := by
  intro pre ev post v T1 ha hv ht
  exact h pre ev (post ++ b) v T1 (by rw [ha]; simp) hv ht

theorem FreshFrom.right {T T' : List Int} {a b : List Ev} (h : FreshFrom T (a ++ b)) (ha : fdTable a T = some T') :
    FreshFrom T' b := by
  intro pre ev post v T1 hb hv ht
  refine h (a ++ pre) ev post v T1 (by rw [hb]; simp) hv ?_
  rw [fdTable_append, ha]; exact ht

theorem ClosesSucceed.left {a b : List Ev} (h : ClosesSucceed (a ++ b)) : ClosesSucceed a :=
  fun ev hev => h ev (by simp [hev])
theorem ClosesSucceed.right {a b : List Ev} (h : ClosesSucceed (a ++ b)) : ClosesSucceed b :=
  fun ev hev => h ev (by simp [hev])

theorem fdTable_obtained {pre b c tail : List Ev} {ev : Ev} {v : Int} {T : List Int} (hpre : ∀ e ∈ pre, FdNeutral e)
    (hob : ev.obtains = some v) (hb : ∀ e ∈ b, FdNeutral e) (hc : ∀ e ∈ c, FdNeutral e)
    (hfr : FreshFrom T (pre ++ ev :: (b ++ (c ++ tail)))) :
    v ∉ T ∧ fdTable (pre ++ ev :: (b ++ (c ++ tail))) T = fdTable tail (v :: T) := by
  have hv : v ∉ T := hfr pre ev _ v T rfl hob (fdTable_of_neutral _ hpre T)
  exact ⟨hv, by rw [fdTable_neutral _ hpre, fdTable_obtain _ _ hob _ _ hv, fdTable_neutral _ hb, fdTable_neutral _ hc]⟩

theorem fdTable_close_obtained (v : Int) (rc : Res) (T : List Int) : fdTable [⟨.close v, rc⟩] (v :: T) = some T := by
  simp [fdTable]

/-- **`p_socket_new`**: success adds exactly the new object's descriptor (a fresh number, object open);
    on every failure path the table is unchanged — including the path where `pp_socket_set_fd_blocking`
    fails after `socket()` succeeded: `p_socket_free` closes that descriptor -/
theorem new_fdTable (f t p : Int) : ResAll (fun (x : Option Sock × Option PErr) evs => ∀ T, FreshFrom T evs →
    match x.1 with
    | some s => s.closed = false ∧ s.fd ∉ T ∧ fdTable evs T = some (s.fd :: T)
    | none => fdTable evs T = some T) (new f t p) := by
  unfold new
  refine ResAll.ite (fun _ => ResAll.pure _ fun _ _ => rfl) fun _ => ?_
  dsimp only
  split
  · exact ResAll.pure _ fun _ _ => rfl
  refine ResAll.bind_sys _ _ fun r => ?_
  split
  · rename_i hr
    exact ResAll.bind_errnoErr _ _ _ fun _ _ => ResAll.pure _ fun T _ =>
      fdTable_of_neutral [_] (by simpa using fdNeutral_failed _ r (by simp [Issued.sys]) (by simp [Res.failed, hr])) T
  rename_i v hr
  have hob : ∀ nt, (⟨.socket f nt p, r⟩ : Ev).obtains = some (Int.ofNat v) := fun nt => by simp [Ev.obtains, hr]
  refine ResAll.bind (ResAll.of_trAll ((cloexecBlock_only ..).trAll _ fdNeutral_other)) fun _ =>
    ResAll.bind (ResAll.of_trAll ((setFdBlocking_only ..).trAll _ fdNeutral_other)) fun x => ?_
  split
  · refine ResAll.bind (free_spec _) fun _ => ResAll.pure _ fun eC hC eF hF eB hB T hfr => ?_
    obtain ⟨hc, _⟩ | ⟨_, rc, rfl⟩ := hC
    · cases hc
    · obtain ⟨_, h⟩ := fdTable_obtained (pre := []) (fun _ h => nomatch h) (hob _) hB hF hfr
      exact h.trans (fdTable_close_obtained _ rc T)
  · refine ResAll.pure _ fun eF hF eB hB T hfr => ?_
    obtain ⟨hv, h⟩ := fdTable_obtained (pre := []) (fun _ h => nomatch h) (hob _) hB hF hfr
    exact ⟨rfl, hv, h⟩

/-- **`p_socket_accept`**: success adds exactly the new object's descriptor; failure leaves
    the table unchanged — including the path where `p_socket_new_from_fd` fails on the accepted descriptor:
    `p_socket_accept` closes it itself -/
theorem accept_fdTable (s : Sock) : ResAll (fun (o : Outcome) evs => ∀ T, FreshFrom T evs →
    match o.sock with
    | some ns => ns.closed = false ∧ ns.fd ∉ T ∧ fdTable evs T = some (ns.fd :: T)
    | none => fdTable evs T = some T) (accept s) := by
  have hpc : (acceptCfg s).poll ≠ (acceptCfg s).call := by simp [acceptCfg, loopCfg, pollCall]
  -- in the loop only a successful `accept()` touches the table
  have hloop : ∀ ev : Ev, ev.call = (acceptCfg s).poll ∨ (ev.call = (acceptCfg s).call ∧ ev.res.failed = true) → FdNeutral ev := by
    rintro ⟨c, x⟩ (h | ⟨h, hx⟩) <;> (simp only at h; subst h)
    · exact fdNeutral_other _ (by simp [acceptCfg, loopCfg, pollCall, Issued.sys])
    · exact fdNeutral_failed _ _ (by simp [acceptCfg, loopCfg, Issued.sys]) hx
  unfold accept
  split
  · exact ResAll.pure _ fun _ _ => rfl
  simp only [← show acceptCfg s = loopCfg .. from rfl]
  refine ResAll.bind (ResAll.liftLoop _) fun x => ?_
  obtain pe | r := x
  · refine ResAll.pure _ fun eL hL T _ => ?_
    obtain ⟨sc, e, rfl, hf⟩ := hL
    exact fdTable_of_neutral _ (by simpa using fun ev hev => hloop ev (ioLoop_failed (acceptCfg s) _ _ _ _ hf ev hev)) T
  -- the loop's trace: neutral entries, then the `accept()` that handed out `retVal r`
  have hdone : ∀ sc e, (ioLoop (acceptCfg s) (startPhase (acceptCfg s)) sc e).fin = .done r →
      ∃ pre, (ioLoop (acceptCfg s) (startPhase (acceptCfg s)) sc e).evs = pre ++ [⟨.accept s.fd, r⟩] ∧
        (∀ ev ∈ pre, FdNeutral ev) ∧ (⟨.accept s.fd, r⟩ : Ev).obtains = some (retVal r) := by
    intro sc e hf
    obtain ⟨pre, hevs, hpre, hrf, _, _⟩ := ioLoop_done _ hpc _ _ _ _ hf
    refine ⟨pre, hevs, fun ev hev => hloop ev ?_, ?_⟩
    · exact (ioLoop_calls _ _ _ _ ev (by rw [hevs]; simp [hev])).imp_right fun h => ⟨h, hpre ev hev h⟩
    · cases hret : r.ret with
      | err x => simp [Res.failed, hret] at hrf
      | ok v => simp [Ev.obtains, retVal, hret]
  refine ResAll.bind (ResAll.of_trAll ((cloexecBlock_only ..).trAll _ fdNeutral_other)) fun _ =>
    ResAll.bind ((ResAll.of_trAll ((newFromFd_only _).trAll _ fdNeutral_other)).and (newFromFd_res _)) fun x => ?_
  obtain ⟨_ | n, e⟩ := x
  · refine ResAll.bind_sys _ _ fun rc => ResAll.pure _ fun eN ⟨hN, _⟩ eB hB eL ⟨sc, e0, h, hf⟩ T hfr => ?_
    obtain ⟨pre, hevs, hpre, hob⟩ := hdone sc e0 hf
    rw [h, hevs, List.append_assoc, List.singleton_append] at hfr ⊢
    obtain ⟨_, h⟩ := fdTable_obtained hpre hob hB hN hfr
    exact h.trans (fdTable_close_obtained _ rc T)
  · refine ResAll.pure _ fun eN ⟨hN, hn⟩ eB hB eL ⟨sc, e0, h, hf⟩ T hfr => ?_
    obtain ⟨pre, hevs, hpre, hob⟩ := hdone sc e0 hf
    obtain ⟨-, hfd, hcl, -⟩ := hn.2 n rfl
    rw [h, hevs, List.append_assoc, List.singleton_append] at hfr ⊢
    obtain ⟨hv, h⟩ := fdTable_obtained hpre hob hB hN hfr
    exact ⟨hcl, hfd ▸ hv, hfd ▸ h⟩

theorem fdNeutral_loop (s : Sock) (cond : Int) (call : Issued) (msg : String) (hc : call.sys ∉ [.socket, .accept, .close]) :
    TrAll FdNeutral (runLoop (loopCfg s cond call msg)) :=
  (runLoop_calls s cond call msg).mono fun ev h => fdNeutral_other _ <| by
    rcases h with h | h
    · rw [h]; simp [pollCall, Issued.sys]
    · rw [h]; exact hc

theorem fdNeutral_ioWait (s : Sock) (cond : Int) : TrAll FdNeutral (ioWait s cond) :=
  (ioWait_calls s cond).mono fun ev h => fdNeutral_other _ (by rw [h]; simp [pollCall, Issued.sys])

/-- every call except `accept` and `close` issues no `socket()`, no `accept()`, no `close()` -/
theorem callM_fdn (s : Sock) (c : Call) (h1 : c ≠ .accept) (h2 : c ≠ .close) : TrAll FdNeutral (callM s c) := by
  cases c <;> simp only [callM]
  case accept => exact absurd rfl h1
  case close => exact absurd rfl h2
  case bind a r => unfold bind; tr_all (exact fdNeutral_other _ (by simp [Issued.sys]))
  case listen => unfold listen; tr_all (exact fdNeutral_other _ (by simp [Issued.sys]))
  case shutdown => unfold shutdown; tr_all (exact fdNeutral_other _ (by simp [Issued.sys]))
  case setBufferSize => unfold setBufferSize; tr_all (exact fdNeutral_other _ (by simp [Issued.sys]))
  case setKeepalive => unfold setKeepalive; tr_all (exact fdNeutral_other _ (by simp [Issued.sys]))
  case setBlocking => exact TrAll.pure _
  case setBacklog => exact TrAll.pure _
  case setTimeout => exact TrAll.pure _
  case getLocal => unfold getAddress; tr_all (exact fdNeutral_other _ (by simp [Issued.sys]))
  case getRemote => unfold getAddress; tr_all (exact fdNeutral_other _ (by simp [Issued.sys]))
  case checkConnectResult => exact (checkConnectResult_only s).trAll _ fdNeutral_other
  case ioWait cnd => tr_all (skip); exact fdNeutral_ioWait _ _
  case receive bn n => unfold receive; tr_all (skip); exact fdNeutral_loop _ _ _ _ (by simp [recvCall, Issued.sys])
  case receiveFrom w bn n =>
    unfold receiveFrom; tr_all (exact fdNeutral_other _ (by simp [Issued.sys]))
    exact fdNeutral_loop _ _ _ _ (by simp [recvfromCall, Issued.sys])
  case send b n => unfold send; tr_all (skip); exact fdNeutral_loop _ _ _ _ (by simp [sendCall, Issued.sys])
  case sendTo a b n => unfold sendTo; tr_all (skip); exact fdNeutral_loop _ _ _ _ (by simp [sendtoCall, Issued.sys])
  case connect a =>
    unfold connect; tr_all (skip)
    · exact TrAll.liftLoop _ fun sc e ev hev => fdNeutral_other _ (by rw [connLoop_calls _ sc e ev hev]; simp [Issued.sys])
    · exact fdNeutral_ioWait _ _
    · exact (checkConnectResult_only s).trAll _ fdNeutral_other

/-- the descriptor an object holds (none once it is marked closed) -/
def openFdOf (s : Sock) : List Int := if s.closed then [] else [s.fd]

/-- the descriptors held by the live, not-closed objects of a world -/
def World.openFds (w : World) : List Int := w.flatMap (fun p => openFdOf p.2)

def World.keys (w : World) : List Nat := w.map (·.1)

theorem World.openFds_cons (k : Nat) (s : Sock) (w : World) :
    World.openFds ((k, s) :: w) = openFdOf s ++ World.openFds w := by
  simp [World.openFds]

theorem World.openFds_set (w : World) (slot : Nat) (s : Sock) :
    (w.set slot s).openFds = openFdOf s ++ (w.del slot).openFds := World.openFds_cons _ _ _

theorem World.del_of_get_none {w : World} {slot : Nat} (h : w.get slot = none) : w.del slot = w := by
  unfold World.get at h
  unfold World.del
  rw [List.filter_eq_self]
  intro a ha
  simp only [Option.map_eq_none_iff, List.find?_eq_none] at h
  simpa using h a ha

theorem World.get_del_self (w : World) (slot : Nat) : (w.del slot).get slot = none := by
  simp [World.get_del]

theorem World.get_set_ne {w : World} {a b : Nat} (s : Sock) (hab : a ≠ b) (h : w.get a = none) :
    (w.set b s).get a = none := by
  simp [World.get_set, hab, h]

theorem World.keys_del_nodup {w : World} (slot : Nat) (h : w.keys.Nodup) : (w.del slot).keys.Nodup := by
  unfold World.keys World.del
  exact List.Nodup.sublist (List.Sublist.map _ (List.filter_sublist)) h

theorem World.not_mem_keys_del (w : World) (slot : Nat) : slot ∉ (w.del slot).keys := by
  unfold World.keys World.del
  intro h
  obtain ⟨x, hx, hx1⟩ := List.mem_map.1 h
  have := (List.mem_filter.1 hx).2
  simp at this
  exact this hx1

theorem World.keys_set_nodup {w : World} (slot : Nat) (s : Sock) (h : w.keys.Nodup) : (w.set slot s).keys.Nodup := by
  unfold World.set
  show ((slot, s).1 :: (w.del slot).keys).Nodup
  exact List.nodup_cons.2 ⟨World.not_mem_keys_del w slot, World.keys_del_nodup slot h⟩

/-- with distinct keys, a world is its entry at `slot` plus the rest -/
theorem World.perm_of_get {w : World} (hk : w.keys.Nodup) {slot : Nat} {s : Sock} (h : w.get slot = some s) :
    List.Perm w ((slot, s) :: w.del slot) := by
  induction w with
  | nil => simp [World.get] at h
  | cons x w ih =>
    obtain ⟨k, y⟩ := x
    have hk' : (k :: World.keys w).Nodup := hk
    obtain ⟨hkn, hkw⟩ := List.nodup_cons.1 hk'
    by_cases hks : k = slot
    · subst hks
      have hy : y = s := by simpa [World.get] using h
      subst hy
      have hdel : World.del ((k, y) :: w) k = w := by
        unfold World.del
        rw [List.filter_cons]
        simp only [ne_eq, not_true_eq_false, decide_false, Bool.false_eq_true, if_false]
        rw [List.filter_eq_self]
        intro a ha
        have : a.1 ≠ k := fun h => hkn (h ▸ List.mem_map.2 ⟨a, ha, rfl⟩)
        simpa using this
      rw [hdel]
    · have hget : World.get w slot = some s := by
        unfold World.get at h ⊢
        rw [List.find?_cons] at h
        have : decide ((k, y).1 = slot) = false := by simpa using hks
        rw [this] at h
        exact h
      have hdel : World.del ((k, y) :: w) slot = (k, y) :: World.del w slot := by
        unfold World.del
        rw [List.filter_cons]
        have : decide ((k, y).1 ≠ slot) = true := by simpa using hks
        rw [this]; rfl
      rw [hdel]
      exact ((ih hkw hget).cons (k, y)).trans (List.Perm.swap _ _ _)

theorem World.openFds_of_get {w : World} (hk : w.keys.Nodup) {slot : Nat} {s : Sock} (h : w.get slot = some s) :
    List.Perm w.openFds (openFdOf s ++ (w.del slot).openFds) := by
  have := (World.perm_of_get hk h).flatMap_right (fun p => openFdOf p.2)
  rw [← World.openFds_cons slot s]
  exact this

/-- the kernel's table `T` is, up to order, the list of descriptors held by the live not-closed objects,
    without repetition; slots are distinct -/
structure FdInv (w : World) (T : List Int) : Prop where
  keys : w.keys.Nodup
  perm : List.Perm T w.openFds
  nodup : T.Nodup

theorem openFdOf_open {s : Sock} (h : s.closed = false) : openFdOf s = [s.fd] := by simp [openFdOf, h]
theorem openFdOf_closed {s : Sock} (h : s.closed = true) : openFdOf s = [] := by simp [openFdOf, h]
theorem openFdOf_congr {s s' : Sock} (h1 : s'.fd = s.fd) (h2 : s'.closed = s.closed) : openFdOf s' = openFdOf s := by
  simp [openFdOf, h1, h2]

theorem FdInv.empty : FdInv [] [] := ⟨List.nodup_nil, List.Perm.refl _, List.nodup_nil⟩

theorem FdInv.add {w : World} {T : List Int} (h : FdInv w T) {slot : Nat} {s : Sock} (hg : w.get slot = none)
    (hc : s.closed = false) (hn : s.fd ∉ T) : FdInv (w.set slot s) (s.fd :: T) := by
  refine ⟨World.keys_set_nodup _ _ h.keys, ?_, List.nodup_cons.2 ⟨hn, h.nodup⟩⟩
  rw [World.openFds_set, World.del_of_get_none hg, openFdOf_open hc]
  exact h.perm.cons _

theorem FdInv.replace {w : World} {T : List Int} (h : FdInv w T) {slot : Nat} {s s' : Sock} (hg : w.get slot = some s)
    (h1 : s'.fd = s.fd) (h2 : s'.closed = s.closed) : FdInv (w.set slot s') T := by
  refine ⟨World.keys_set_nodup _ _ h.keys, ?_, h.nodup⟩
  rw [World.openFds_set, openFdOf_congr h1 h2]
  exact h.perm.trans (World.openFds_of_get h.keys hg)

theorem FdInv.mem {w : World} {T : List Int} (h : FdInv w T) {slot : Nat} {s : Sock} (hg : w.get slot = some s)
    (hc : s.closed = false) : s.fd ∈ T := by
  have := h.perm.trans (World.openFds_of_get h.keys hg)
  rw [openFdOf_open hc] at this
  exact this.mem_iff.2 (by simp)

theorem FdInv.free_open {w : World} {T : List Int} (h : FdInv w T) {slot : Nat} {s : Sock} (hg : w.get slot = some s)
    (hc : s.closed = false) : FdInv (w.del slot) (T.erase s.fd) := by
  refine ⟨World.keys_del_nodup _ h.keys, ?_, h.nodup.erase _⟩
  have := (h.perm.trans (World.openFds_of_get h.keys hg)).erase s.fd
  rw [openFdOf_open hc] at this
  simpa using this

theorem FdInv.free_closed {w : World} {T : List Int} (h : FdInv w T) {slot : Nat} {s : Sock} (hg : w.get slot = some s)
    (hc : s.closed = true) : FdInv (w.del slot) T := by
  refine ⟨World.keys_del_nodup _ h.keys, ?_, h.nodup⟩
  have := h.perm.trans (World.openFds_of_get h.keys hg)
  rw [openFdOf_closed hc] at this
  simpa using this

theorem FdInv.close {w : World} {T : List Int} (h : FdInv w T) {slot : Nat} {s s' : Sock} (hg : w.get slot = some s)
    (hc : s.closed = false) (hc' : s'.closed = true) : FdInv (w.set slot s') (T.erase s.fd) := by
  have h1 := h.free_open hg hc
  refine ⟨World.keys_set_nodup _ _ h.keys, ?_, h1.nodup⟩
  rw [World.openFds_set, openFdOf_closed hc']
  exact h1.perm

/-- what the caller must respect for descriptor accounting to be about the *library*:
    * a new object (`new`, the result of `accept`) is stored in an empty slot — overwriting a live pointer
      would leak that object, which is the caller's leak, not the library's;
    * `p_socket_new_from_fd` on a caller-supplied descriptor is excluded: it transfers ownership of a
      descriptor that was not obtained by the library. -/
def WCall.Disciplined (w : World) : WCall → Prop
  | .new slot _ _ _ => w.get slot = none
  | .newFromFd _ _ => False
  | .on slot c newSlot => c = .accept → (w.get newSlot = none ∧ newSlot ≠ slot)
  | .free _ => True
  | .initOnce => True

theorem runM_ok_iff {α} {m : M α} {script : Script} {e : Int} {x : α × St × List Ev}
    (h : runM m script e = .ok x) : m { script := script, errno := e } = .ok x.1 x.2.1 x.2.2 := by
  obtain ⟨a, st, evs⟩ := x
  exact runM_ok h

/-- `callM s .accept` is `accept s` -/
theorem callM_accept_ok {s s' : Sock} {o : Outcome} {st st' : St} {evs : List Ev}
    (h : callM s .accept st = .ok (s', o) st' evs) : s' = s ∧ accept s st = .ok o st' evs := by
  obtain ⟨o', h1, h2⟩ := bind_pure_ok (f := fun o => (s, o)) (fun _ => rfl) h
  cases h2
  exact ⟨rfl, h1⟩

theorem callM_close_ok {s s' : Sock} {o : Outcome} {st st' : St} {evs : List Ev}
    (h : callM s .close st = .ok (s', o) st' evs) :
    ∃ e b, close s st = .ok (s', e, b) st' evs ∧ o = { ret := b2i b, err := e } := by
  obtain ⟨⟨s1, e, b⟩, h1, h2⟩ := bind_pure_ok
    (f := fun (x : Sock × Option PErr × Bool) => (x.1, ({ ret := b2i x.2.2, err := x.2.1 } : Outcome))) (fun _ => rfl) h
  cases h2
  exact ⟨e, b, h1, rfl⟩

theorem initOnce_fdn : TrAll FdNeutral initOnce := by
  unfold initOnce
  tr_all (exact fdNeutral_other _ (by simp [Issued.sys]))

/-- **`p_socket_close`** on an open object whose descriptor is in the table, `close()` succeeding: exactly that
    number leaves the table, the object is marked closed with `fd = −1`; on a closed object: nothing -/
theorem close_fdTable {s s' : Sock} {e : Option PErr} {b : Bool} {st st' : St} {evs : List Ev}
    (h : close s st = .ok (s', e, b) st' evs) (hcl : ClosesSucceed evs) (T : List Int) (hm : s.closed = false → s.fd ∈ T) :
    (s.closed = true → evs = [] ∧ s' = s) ∧
    (s.closed = false → fdTable evs T = some (T.erase s.fd) ∧ s'.closed = true ∧ s'.fd = -1) := by
  rcases (close_spec s).elim h with ⟨hc, rfl, hx⟩ | ⟨hc, rc, rfl, hrc⟩
  · cases hx
    exact ⟨fun _ => ⟨rfl, rfl⟩, fun h => (by rw [hc] at h; cases h)⟩
  · refine ⟨fun h => (by rw [hc] at h; cases h), fun _ => ?_⟩
    have h0 : rc.ret = .ok 0 := hcl ⟨.close s.fd, rc⟩ (by simp) rfl
    rcases hrc with ⟨_, hx⟩ | ⟨hne, _⟩
    · cases hx
      refine ⟨?_, rfl, rfl⟩
      rw [fdTable_close _ _ _ _ (hm hc)]; rfl
    · exact absurd h0 hne

/-- **`p_socket_free`**: an open object's descriptor leaves the table (whatever `close()` returns); a closed
    object: no native call -/
theorem free_fdTable {s : Sock} {u : Unit} {st st' : St} {evs : List Ev} (h : free s st = .ok u st' evs)
    (T : List Int) (hm : s.closed = false → s.fd ∈ T) :
    (s.closed = true → evs = []) ∧ (s.closed = false → fdTable evs T = some (T.erase s.fd)) := by
  rcases (free_spec s).elim h with ⟨hc, rfl⟩ | ⟨hc, rc, rfl⟩
  · exact ⟨fun _ => rfl, fun h => (by rw [hc] at h; cases h)⟩
  · refine ⟨fun h => (by rw [hc] at h; cases h), fun _ => ?_⟩
    rw [fdTable_close _ _ _ _ (hm hc)]; rfl

/-- **one API call** (any of them, on any script): given the invariant for the table `T` before the call and the
    kernel contract on the call's trace, the table after the call is defined — no stray close, no double
    close — and the invariant holds again -/
theorem wstep_fdTable {w : World} {c : WCall} {script : Script} {e : Int} {r : WResult}
    (hstep : wstep w c script e = .ok r) (hd : c.Disciplined w) {T : List Int} (hinv : FdInv w T)
    (hfr : FreshFrom T r.tr) (hcl : ClosesSucceed r.tr) :
    ∃ T', fdTable r.tr T = some T' ∧ FdInv r.world T' := by
  cases c with
  | newFromFd slot fd => exact absurd hd (by simp [WCall.Disciplined])
  | new slot f t p =>
    rcases runM_cases (new f t p) script e with ⟨x, hx⟩ | ⟨⟨so, er⟩, st, evs, hm, hrun⟩
    · simp [wstep, hx] at hstep
    simp only [wstep, hm] at hstep; cases hstep
    have h := (new_fdTable f t p).elim hrun T hfr
    cases so with
    | none => exact ⟨T, h, hinv⟩
    | some s =>
      obtain ⟨hc, hn, ht⟩ := h
      exact ⟨s.fd :: T, ht, hinv.add hd hc hn⟩
  | initOnce =>
    rcases runM_cases initOnce script e with ⟨x, hx⟩ | ⟨u, st, evs, hm, hrun⟩
    · simp [wstep, hx] at hstep
    simp only [wstep, hm] at hstep; cases hstep
    exact ⟨T, fdTable_of_neutral _ (initOnce_fdn.elim hrun) T, hinv⟩
  | free slot =>
    cases hg : w.get slot with
    | none =>
      simp only [wstep, hg] at hstep; cases hstep
      exact ⟨T, rfl, hinv⟩
    | some s =>
      rcases runM_cases (free s) script e with ⟨x, hx⟩ | ⟨u, st, evs, hm, hrun⟩
      · simp [wstep, hg, hx] at hstep
      simp only [wstep, hg, hm] at hstep; cases hstep
      have h := free_fdTable hrun T (hinv.mem hg)
      cases hc : s.closed with
      | true => exact ⟨T, by rw [h.1 hc]; rfl, hinv.free_closed hg hc⟩
      | false => exact ⟨T.erase s.fd, h.2 hc, hinv.free_open hg hc⟩
  | on slot c newSlot =>
    cases hg : w.get slot with
    | none =>
      simp only [wstep, hg] at hstep; cases hstep
      exact ⟨T, rfl, hinv⟩
    | some s =>
      rcases runM_cases (callM s c) script e with ⟨x, hx⟩ | ⟨⟨s', o⟩, st, evs, hm, hrun⟩
      · simp [wstep, hg, hx] at hstep
      simp only [wstep, hg, hm] at hstep; cases hstep
      by_cases hacc : c = .accept
      · subst hacc
        obtain ⟨hnew, hne⟩ := hd rfl
        obtain ⟨hss, hrun⟩ := callM_accept_ok hrun
        subst hss
        have h := (accept_fdTable s').elim hrun T hfr
        cases ho : o.sock with
        | none =>
          simp only [ho] at h ⊢
          exact ⟨T, h, hinv.replace hg rfl rfl⟩
        | some ns =>
          simp only [ho] at h ⊢
          obtain ⟨hcn, hn, ht⟩ := h
          exact ⟨ns.fd :: T, ht, (hinv.replace hg rfl rfl).add (World.get_set_ne _ hne hnew) hcn hn⟩
      · by_cases hclose : c = .close
        · subst hclose
          obtain ⟨er, b, hrun', rfl⟩ := callM_close_ok hrun
          simp only []
          have h := close_fdTable hrun' hcl T (hinv.mem hg)
          cases hc : s.closed with
          | true =>
            obtain ⟨rfl, rfl⟩ := h.1 hc
            exact ⟨T, rfl, hinv.replace hg rfl rfl⟩
          | false => exact ⟨T.erase s.fd, (h.2 hc).1, hinv.close hg hc (h.2 hc).2.1⟩
        · have g := (callM_good s c).elim hrun
          obtain ⟨h1, h2⟩ := g.fd.resolve_right fun h => hclose h.1
          have h3 : o.sock = none := g.sock hacc
          simp only [h3]
          exact ⟨T, fdTable_of_neutral _ (TrAll.elim (callM_fdn s c hacc hclose) hrun) T, hinv.replace hg h1 h2⟩

/-- the states reachable from the empty world by disciplined API calls — each call on an arbitrary script and
    with an arbitrary `errno` at entry; `tr` is the concatenation of the traces of the calls made so far -/
inductive Reach : World → List Ev → Prop
  | init : Reach [] []
  | step {w : World} {tr : List Ev} {c : WCall} {script : Script} {e : Int} {r : WResult} :
      Reach w tr → c.Disciplined w → wstep w c script e = .ok r → Reach r.world (tr ++ r.tr)

/-- **fd_closed_once.**  Along any sequence of API calls (new / any call on a socket, incl. accept and close /
    free / init_once, in any order, on any scripts), under the kernel contract — descriptor numbers handed out
    by `socket()` / `accept()` are not currently open (`FreshFrom []`), `close()` returns 0 (`ClosesSucceed`) —
    the kernel's descriptor table of the whole trace is **defined**: no descriptor number is ever passed to
    `close()` without having been obtained, or twice; and the open numbers are exactly (as a multiset, without
    repetition) the `fd` fields of the live objects not marked closed. -/
theorem fd_closed_once {w : World} {tr : List Ev} (h : Reach w tr) (hfr : FreshFrom [] tr) (hcl : ClosesSucceed tr) :
    ∃ T, fdTable tr [] = some T ∧ FdInv w T := by
  induction h with
  | init => exact ⟨[], rfl, FdInv.empty⟩
  | step hreach hd hstep ih =>
    obtain ⟨T, hT, hinv⟩ := ih hfr.left hcl.left
    obtain ⟨T', hT', hinv'⟩ := wstep_fdTable hstep hd hinv (hfr.right hT) hcl.right
    exact ⟨T', by rw [fdTable_append, hT]; exact hT', hinv'⟩

/-- … hence once every object has been freed (or closed), every descriptor obtained from `socket()` /
    `accept()` has been passed to `close()` exactly once: the table is defined and empty -/
theorem fd_closed_once_balanced {w : World} {tr : List Ev} (h : Reach w tr) (hfr : FreshFrom [] tr)
    (hcl : ClosesSucceed tr) (hall : w.openFds = []) : fdTable tr [] = some [] := by
  obtain ⟨T, hT, hinv⟩ := fd_closed_once h hfr hcl
  have := hinv.perm
  rw [hall] at this
  rw [hT, List.Perm.eq_nil this]

theorem fd_closed_once_all_freed {tr : List Ev} (h : Reach [] tr) (hfr : FreshFrom [] tr) (hcl : ClosesSucceed tr) :
    fdTable tr [] = some [] :=
  fd_closed_once_balanced h hfr hcl rfl

/-- the same for a sequence run as a function, the script and `errno` threaded from call to call -/
def wrun (w : World) (tr : List Ev) : List WCall → Script → Int → Except Stop (World × List Ev)
  | [], _, _ => .ok (w, tr)
  | c :: cs, sc, e =>
    match wstep w c sc e with
    | .error x => .error x
    | .ok r => wrun r.world (tr ++ r.tr) cs r.rest r.errno

/-- every call of the sequence respects `WCall.Disciplined` in the world it is made in -/
def DisciplinedRun (w : World) : List WCall → Script → Int → Prop
  | [], _, _ => True
  | c :: cs, sc, e =>
    c.Disciplined w ∧
    match wstep w c sc e with
    | .error _ => True
    | .ok r => DisciplinedRun r.world cs r.rest r.errno

theorem reach_of_wrun {w : World} {tr : List Ev} (h : Reach w tr) : ∀ (cs : List WCall) (sc : Script) (e : Int)
    {w' : World} {tr' : List Ev}, DisciplinedRun w cs sc e → wrun w tr cs sc e = .ok (w', tr') → Reach w' tr' := by
  intro cs
  induction cs generalizing w tr with
  | nil =>
    intro sc e w' tr' _ hr
    simp only [wrun] at hr
    injection hr with hr
    injection hr with h1 h2
    subst h1; subst h2
    exact h
  | cons c cs ih =>
    intro sc e w' tr' hd hr
    simp only [wrun] at hr
    simp only [DisciplinedRun] at hd
    cases hs : wstep w c sc e with
    | error x => simp [hs] at hr
    | ok r =>
      simp only [hs] at hr hd
      exact ih (Reach.step h hd.1 hs) _ _ hd.2 hr

theorem fd_closed_once_run (cs : List WCall) (script : Script) (e : Int) (w : World) (tr : List Ev)
    (hd : DisciplinedRun [] cs script e) (hr : wrun [] [] cs script e = .ok (w, tr))
    (hfr : FreshFrom [] tr) (hcl : ClosesSucceed tr) :
    ∃ T, fdTable tr [] = some T ∧ FdInv w T :=
  fd_closed_once (reach_of_wrun Reach.init cs script e hd hr) hfr hcl

/-! ### outside the contract: `close()` fails

`p_socket_close` reports the error and keeps `fd` (the object is not marked closed); a later
`p_socket_free` calls `close (fd)` again: the same number is passed to `close()` twice.  (On Linux the first
`close()` has released the number even though it returned −1 — `fdTable` models that — so the second one is
a stray close: the table is `none`.) -/

def demoOpenSock : Sock := { family := AF_INET, protocol := 6, type := 1, fd := 5, listen_backlog := 5, blocking := true }

/-- `close()` → EINTR: `p_socket_close` returns FALSE with an error; the object still holds fd 5, not closed -/
example :
    (wstep [(0, demoOpenSock)] (.on 0 .close) [{ sys := .close, ret := .err EINTR }]).toOption.map
      (fun r1 => (r1.out.ret, r1.out.err.isSome, (r1.world.get 0).map (fun s => (s.fd, s.closed)))) =
    some (0, true, some (5, false)) := by decide

/-- … and the `p_socket_free` that follows passes 5 to `close()` a second time -/
example :
    ((wstep [(0, demoOpenSock)] (.on 0 .close) [{ sys := .close, ret := .err EINTR }]).toOption.bind fun r1 =>
      (wstep r1.world (.free 0) [{ sys := .close, ret := .ok 0 }]).toOption.map fun r2 =>
        ((r1.tr ++ r2.tr).map (fun ev => (ev.call, ev.res.ret)), (r2.world.get 0).isSome,
         fdTable (r1.tr ++ r2.tr) [5])) =
    some ([(.close 5, .err EINTR), (.close 5, .ok 0)], false, none) := by decide

/-- inside the contract, the path where `p_socket_new_from_fd` fails inside `p_socket_accept`
    (`getsockopt (SO_TYPE)` fails on the accepted descriptor 7): `accept` closes 7 itself, nothing is returned,
    the table is what it was -/
example :
    (call { demoOpenSock with listening := true } .accept
      [{ sys := .poll, ret := .ok 1 }, { sys := .accept, ret := .ok 7 }, { sys := .fcntl, ret := .ok 1 },
       { sys := .getsockopt, ret := .err EBADF }, { sys := .close, ret := .ok 0 }]).toOption.map
      (fun r => (r.out.ret, r.out.sock.isSome, r.tr.map (·.call) |>.filter (fun c => c.sys == .accept || c.sys == .close),
                 fdTable r.tr [5])) =
    some (0, false, [.accept 5, .close 7], some [5]) := by decide

/-- the path where `pp_socket_set_fd_blocking` fails inside `p_socket_new`: `p_socket_free` closes the descriptor -/
example :
    (runM (new AF_INET P_SOCKET_TYPE_STREAM P_SOCKET_PROTOCOL_TCP)
      [{ sys := .socket, ret := .ok 7 }, { sys := .fcntl, ret := .ok 1 }, { sys := .fcntl, ret := .ok 2 },
       { sys := .fcntl, ret := .err EBADF }, { sys := .close, ret := .ok 0 }] 0).toOption.map
      (fun x => (x.1.1.isSome, x.2.2.map (·.call) |>.filter (fun c => c.sys == .socket || c.sys == .close),
                 fdTable x.2.2 [])) =
    some (false, [.socket AF_INET 524289 P_SOCKET_PROTOCOL_TCP, .close 7], some []) := by decide

/-- non-vacuity: `new` → 7, `accept` on it → 8 (fd 8 adopted by `new_from_fd`), both freed:
    every number closed exactly once, table empty at the end -/
example :
    (wrun [] [] [.new 0 AF_INET P_SOCKET_TYPE_STREAM P_SOCKET_PROTOCOL_TCP, .on 0 .accept 1, .free 0, .free 1]
      ([{ sys := .socket, ret := .ok 7 }, { sys := .fcntl, ret := .ok 1 }, { sys := .fcntl, ret := .ok 2 }, { sys := .fcntl, ret := .ok 0 },
        { sys := .poll, ret := .ok 1 }, { sys := .accept, ret := .ok 8 }, { sys := .fcntl, ret := .ok 0 }, { sys := .fcntl, ret := .ok 0 }]
       ++ newFromFdAnswers ++ [{ sys := .close, ret := .ok 0 }, { sys := .close, ret := .ok 0 }]) 0).toOption.map
      (fun x => (x.1.length, x.2.map (·.call) |>.filter (fun c => c.sys == .socket || c.sys == .accept || c.sys == .close),
                 fdTable x.2 [])) =
    some (0, [.socket AF_INET 524289 P_SOCKET_PROTOCOL_TCP, .accept 7, .close 7, .close 8], some []) := by decide

end PV.Socket

