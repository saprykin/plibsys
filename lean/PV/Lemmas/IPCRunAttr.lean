import Lean.Meta.Tactic.Simp.RegisterCommand
/-- the unfolding rules with which `simp` runs a sequential library call of the IPC model
    (`G.call` / `G.callF`) symbolically: the run functions, the call machines, the system calls -/
register_simp_attr ipc_run
