import PV.Model.Res
/-! # C18 / C20 — weakest preconditions over `ResM`, the specification predicates, and the proof method

`wp` with one rule per primitive; `Spec` / `SpecG` / `SpecV` and how an established one is used inside a larger
program (`wp_spec…`).  The function proofs run the primitives with `wps`, keep what is held as a frame that grows and
shrinks at its head (`List.Perm.push` / `pop`), and leave rearrangements to counting (`count_omega`, `perm_omega`). -/
namespace PV.Res
open List

theorem ResM.run_bind (m : ResM α) (g : α → ResM β) (f : Nat → Bool) (s : St) :
    (m.bind g).run f s = match m.run f s with
      | .fault e => .fault e
      | .ok a s' => (g a).run f s' := by
  induction m generalizing s with
  | ret a => simp [ResM.bind, ResM.run]
  | deref p k ih =>
    simp only [ResM.bind, ResM.run]
    cases p with
    | none => rfl
    | some b => simp only []; split <;> first | rfl | exact ih _
  | munmap i mp len k ih =>
    simp only [ResM.bind, ResM.run]
    split
    · split <;> exact ih _
    · rfl
  | _ =>
    -- the other primitives: the interpreter goes on with the continuation (after a test, for those that can fault)
    rename_i ih
    simp only [ResM.bind, ResM.run]
    first
    | exact ih _
    | exact ih _ _
    | (split <;> first | rfl | exact ih _ | exact ih _ _)

/-- total correctness: the program does not fault and its result satisfies `Q` -/
def wp (m : ResM α) (f : Nat → Bool) (s : St) (Q : α → St → Prop) : Prop :=
  match m.run f s with
  | .fault _ => False
  | .ok a s' => Q a s'

theorem wp_mono {m : ResM α} (h : wp m f s Q) (hq : ∀ a s', Q a s' → Q' a s') : wp m f s Q' := by
  unfold wp at *
  cases hm : m.run f s <;> simp_all

theorem wp.run {m : ResM α} (h : wp m f s Q) : ∃ a s', m.run f s = .ok a s' ∧ Q a s' := by
  unfold wp at h
  cases hr : m.run f s with
  | fault msg => rw [hr] at h; exact h.elim
  | ok a s' => rw [hr] at h; exact ⟨a, s', rfl, h⟩

theorem wp.of_run {m : ResM α} (h : wp m f s Q) (hr : m.run f s = .ok a s') : Q a s' := by
  unfold wp at h
  rwa [hr] at h

@[simp] theorem wp_pure (a : α) : wp (pure a : ResM α) f s Q ↔ Q a s := Iff.rfl
@[simp] theorem wp_ret (a : α) : wp (ResM.ret a) f s Q ↔ Q a s := Iff.rfl

@[simp] theorem wp_bind (m : ResM α) (g : α → ResM β) :
    wp (m >>= g) f s Q ↔ wp m f s (fun a s' => wp (g a) f s' Q) := by
  show wp (m.bind g) f s Q ↔ _
  unfold wp
  rw [ResM.run_bind]
  cases m.run f s <;> simp

@[simp] theorem wp_map (m : ResM α) (g : α → β) :
    wp (g <$> m) f s Q ↔ wp m f s (fun a s' => Q (g a) s') := by
  show wp (m.bind (fun a => pure (g a))) f s Q ↔ _
  unfold wp
  rw [ResM.run_bind]
  cases m.run f s <;> simp [pure, ResM.run]

@[simp] theorem wp_malloc : wp malloc f s Q ↔
    (if f (s.next + 1) then Q none { s with next := s.next + 1, log := .m (s.next + 1) false :: s.log }
     else Q (some (s.next + 1))
       { s with next := s.next + 1, held := .blk (s.next + 1) :: s.held, log := .m (s.next + 1) true :: s.log }) := by
  by_cases h : f (s.next + 1) = true <;> simp [wp, malloc, ResM.run, h]

@[simp] theorem wp_freeB : wp (freeB b) f s Q ↔
    (.blk b ∈ s.held ∧ Q () { s with held := s.held.erase (.blk b), log := .f b :: s.log }) := by
  by_cases h : R.blk b ∈ s.held <;> simp [wp, freeB, ResM.run, h]

@[simp] theorem wp_free_none : wp (free none) f s Q ↔ Q () s := Iff.rfl
@[simp] theorem wp_free_some : wp (free (some b)) f s Q ↔
    (.blk b ∈ s.held ∧ Q () { s with held := s.held.erase (.blk b), log := .f b :: s.log }) := wp_freeB

@[simp] theorem wp_deref_some : wp (deref (some b)) f s Q ↔ (.blk b ∈ s.held ∧ Q () s) := by
  by_cases h : R.blk b ∈ s.held <;> simp [wp, deref, ResM.run, h]
@[simp] theorem wp_deref_none : wp (deref none) f s Q ↔ False := by simp [wp, deref, ResM.run]

@[simp] theorem wp_openFd : wp openFd f s Q ↔
    Q (s.nextFd + 1) { s with nextFd := s.nextFd + 1, held := .fd (s.nextFd + 1) :: s.held } := by
  simp [wp, openFd, ResM.run]

@[simp] theorem wp_closeFd : wp (closeFd n) f s Q ↔
    (.fd n ∈ s.held ∧ Q () { s with held := s.held.erase (.fd n), closed := n :: s.closed }) := by
  by_cases h : R.fd n ∈ s.held <;> simp [wp, closeFd, ResM.run, h]

@[simp] theorem wp_mmap : wp (mmap len) f s Q ↔
    Q (s.nextMap + 1) { s with nextMap := s.nextMap + 1, held := .map (s.nextMap + 1) len :: s.held } := by
  simp [wp, mmap, ResM.run]

/-- unmapping exactly what was mapped -/
@[simp] theorem wp_munmap_full : wp (munmap i len len) f s Q ↔
    (.map i len ∈ s.held ∧ Q () { s with held := s.held.erase (.map i len) }) := by
  by_cases h : R.map i len ∈ s.held <;> simp [wp, munmap, ResM.run, h]

@[simp] theorem wp_nameTest : wp (nameTest n) f s Q ↔ Q (ResM.nameSize s.names n) s := by
  simp [wp, nameTest, ResM.run]

@[simp] theorem wp_nameCreate : wp (nameCreate n sz) f s Q ↔
    (ResM.nameSize s.names n = none ∧ Q () { s with names := (n, sz) :: s.names }) := by
  cases h : ResM.nameSize s.names n <;> simp [wp, nameCreate, ResM.run, h]

@[simp] theorem wp_nameUnlink : wp (nameUnlink n) f s Q ↔
    Q () { s with names := s.names.filter (·.1 ≠ n) } := by
  simp [wp, nameUnlink, ResM.run]

@[simp] theorem wp_keyCreate : wp keyCreate f s Q ↔
    Q (s.nextKey + 1) { s with nextKey := s.nextKey + 1, held := .key (s.nextKey + 1) :: s.held } := by
  simp [wp, keyCreate, ResM.run]

@[simp] theorem wp_keyDelete : wp (keyDelete i) f s Q ↔
    (.key i ∈ s.held ∧ Q () { s with held := s.held.erase (.key i) }) := by
  by_cases h : R.key i ∈ s.held <;> simp [wp, keyDelete, ResM.run, h]

@[simp] theorem wp_sysOk : wp (sysOk nm) f s Q ↔
    (if nm ∈ s.sysfail then Q false { s with sysfail := s.sysfail.erase nm } else Q true s) := by
  by_cases h : nm ∈ s.sysfail <;> simp [wp, sysOk, ResM.run, h]

@[simp] theorem wp_arm : wp (arm nm) f s Q ↔ Q () { s with sysfail := nm :: s.sysfail } := by
  simp [wp, arm, ResM.run]
@[simp] theorem wp_dlGet : wp dlGet f s Q ↔ Q s.dlPending s := by simp [wp, dlGet, ResM.run]
@[simp] theorem wp_dlSet : wp (dlSet b) f s Q ↔ Q () { s with dlPending := b } := by simp [wp, dlSet, ResM.run]
@[simp] theorem wp_emit : wp (emit e) f s Q ↔ Q () { s with log := e :: s.log } := by simp [wp, emit, ResM.run]

/-! ## the generic predicate -/

/-- how the IPC names may change: a name existing afterwards is owned by the result, or existed before and
    was not owned by the arguments -/
def NamesOk (ns : List (Name × Nat)) (ownIn : List Name) (ns' : List (Name × Nat)) (ownOut : List Name) : Prop :=
  ∀ n ∈ ns'.map (·.1), n ∈ ownOut ∨ (n ∈ ns.map (·.1) ∧ n ∉ ownIn)

/-- **The generic predicate of C18/C20.**  Whatever the failure predicate `f`, from every state that holds
    the argument footprint `pre` (next to an arbitrary frame `fr` of other objects' resources) the program
    * does not fault (no NULL dereference, use after free, double free, double close),
    * ends holding exactly `post result` next to the untouched frame,
    * changes IPC names only as `NamesOk` allows. -/
def SpecG (pre : List R) (ownIn : List Name) (m : ResM α) (post : α → List R) (ownOut : α → List Name) : Prop :=
  ∀ (f : Nat → Bool) (s : St) (fr : List R), s.held ~ pre ++ fr →
    wp m f s (fun a s' => s'.held ~ post a ++ fr ∧ NamesOk s.names ownIn s'.names (ownOut a))

/-- the same for programs that do not touch IPC names -/
def Spec (pre : List R) (m : ResM α) (post : α → List R) : Prop :=
  ∀ (f : Nat → Bool) (s : St) (fr : List R), s.held ~ pre ++ fr →
    wp m f s (fun a s' => s'.held ~ post a ++ fr ∧ s'.names = s.names)

theorem NamesOk.refl (ns : List (Name × Nat)) (own : List Name) (own' : List Name) (h : ∀ n ∈ own, n ∈ own') :
    NamesOk ns own ns own' := by
  intro n hn
  by_cases hin : n ∈ own
  · exact .inl (h n hin)
  · exact .inr ⟨hn, hin⟩

theorem Spec.toG {m : ResM α} (h : Spec pre m post) (ownIn : List Name) (ownOut : α → List Name)
    (hown : ∀ a, ∀ n ∈ ownIn, n ∈ ownOut a) : SpecG pre ownIn m post ownOut := by
  intro f s fr hs
  refine wp_mono (h f s fr hs) ?_
  intro a s' ⟨h1, h2⟩
  exact ⟨h1, h2 ▸ NamesOk.refl _ _ _ (hown a)⟩

/-- `SpecG` together with a fact `V` about the result alone (how the error pointer was passed on) -/
def SpecV (pre : List R) (ownIn : List Name) (m : ResM α) (post : α → List R) (ownOut : α → List Name) (V : α → Prop) :
    Prop :=
  ∀ (f : Nat → Bool) (s : St) (fr : List R), s.held ~ pre ++ fr →
    wp m f s (fun a s' => s'.held ~ post a ++ fr ∧ NamesOk s.names ownIn s'.names (ownOut a) ∧ V a)

theorem SpecV.specG {m : ResM α} (h : SpecV pre oi m post oo V) : SpecG pre oi m post oo :=
  fun f s fr hs => wp_mono (h f s fr hs) fun _ _ h => ⟨h.1, h.2.1⟩

theorem SpecG.toV {m : ResM α} (h : SpecG pre oi m post oo) {V : α → Prop} (hv : ∀ a, V a) : SpecV pre oi m post oo V :=
  fun f s fr hs => wp_mono (h f s fr hs) fun a _ h => ⟨h.1, h.2, hv a⟩

/-- using an established specification inside a larger program: `fr` is everything the callee does not get -/
theorem wp_spec {m : ResM α} (h : Spec pre m post) (hs : s.held ~ pre ++ fr)
    (hq : ∀ a s', s'.held ~ post a ++ fr → s'.names = s.names → Q a s') : wp m f s Q :=
  wp_mono (h f s fr hs) fun a s' ⟨h1, h2⟩ => hq a s' h1 h2

/-- sequencing: the second program starts from what the first leaves -/
theorem Spec.bind {m : ResM α} {g : α → ResM β} (h1 : Spec pre m mid) (h2 : ∀ a, Spec (mid a) (g a) post) :
    Spec pre (m >>= g) post := fun f s fr hs =>
  (wp_bind m g).2 <| wp_spec h1 hs fun a s' ha hn => wp_mono (h2 a f s' fr ha) fun _ _ h => ⟨h.1, h.2.trans hn⟩

theorem wp_specG {m : ResM α} (h : SpecG pre ownIn m post ownOut) (hs : s.held ~ pre ++ fr)
    (hq : ∀ a s', s'.held ~ post a ++ fr → NamesOk s.names ownIn s'.names (ownOut a) → Q a s') : wp m f s Q :=
  wp_mono (h f s fr hs) fun a s' ⟨h1, h2⟩ => hq a s' h1 h2

theorem wp_specV {m : ResM α} (h : SpecV pre ownIn m post ownOut V) (hs : s.held ~ pre ++ fr)
    (hq : ∀ a s', s'.held ~ post a ++ fr → NamesOk s.names ownIn s'.names (ownOut a) → V a → Q a s') : wp m f s Q :=
  wp_mono (h f s fr hs) fun a s' ⟨h1, h2, h3⟩ => hq a s' h1 h2 h3

theorem wp_and {m : ResM α} (h1 : wp m f s Q1) (h2 : wp m f s Q2) : wp m f s (fun a s' => Q1 a s' ∧ Q2 a s') := by
  unfold wp at *
  cases hm : m.run f s <;> simp_all

theorem Spec.perm_pre {m : ResM α} (h : Spec pre m post) (hp : pre' ~ pre) : Spec pre' m post := by
  intro f s fr hs
  exact h f s fr (hs.trans (hp.append_right fr))

@[simp] theorem NamesOk.rfl {ns : List (Name × Nat)} {own : List Name} : NamesOk ns own ns own :=
  NamesOk.refl _ _ _ fun _ h => h

theorem NamesOk.of_eq {ns ns' : List (Name × Nat)} (own : List Name) (h : ns' = ns) : NamesOk ns own ns' own :=
  h ▸ NamesOk.rfl

theorem NamesOk.weaken {ns ns' : List (Name × Nat)} {i i' o o' : List Name} (h : NamesOk ns i ns' o) (hi : i' ⊆ i)
    (ho : o ⊆ o') : NamesOk ns i' ns' o' :=
  fun n hn => (h n hn).imp (ho ·) fun ⟨h1, h2⟩ => ⟨h1, fun h3 => h2 (hi h3)⟩

theorem NamesOk.trans {ns ns1 ns2 : List (Name × Nat)} {o0 o1 o2 : List Name}
    (h1 : NamesOk ns o0 ns1 o1) (h2 : NamesOk ns1 o1 ns2 o2) : NamesOk ns o0 ns2 o2 := by
  intro n hn
  rcases h2 n hn with h | ⟨h, h'⟩
  · exact .inl h
  · rcases h1 n h with h'' | h''
    · exact absurd h'' h'
    · exact .inr h''

/-- names owned by somebody else (`x`) are carried along -/
theorem NamesOk.frame {ns ns' : List (Name × Nat)} {i o : List Name} (x : List Name) (h : NamesOk ns i ns' o) :
    NamesOk ns (x ++ i) ns' (x ++ o) := by
  intro n hn
  rcases h n hn with h | ⟨h, h'⟩
  · exact .inl (by simp [h])
  · by_cases hx : n ∈ x
    · exact .inl (by simp [hx])
    · exact .inr ⟨h, by simp [hx, h']⟩

theorem NamesOk.frame' {ns ns' : List (Name × Nat)} {i o : List Name} (x : List Name) (h : NamesOk ns i ns' o) :
    NamesOk ns (i ++ x) ns' (o ++ x) :=
  (h.frame x).weaken (by simp) (by simp)

theorem NamesOk.create {ns ns' : List (Name × Nat)} {i o : List Name} (h : NamesOk ns i ns' o) (n : Name) (sz : Nat) :
    NamesOk ns i ((n, sz) :: ns') (n :: o) := by
  intro n' hn'
  rcases List.mem_cons.1 hn' with rfl | hn'
  · exact .inl mem_cons_self
  · exact (h n' hn').imp_left (mem_cons_of_mem _)

theorem NamesOk.unlink {ns ns' : List (Name × Nat)} {i o : List Name} (h : NamesOk ns i ns' o) (n : Name) :
    NamesOk ns i (ns'.filter (·.1 ≠ n)) o :=
  fun n' hn' => h n' ((List.filter_sublist.map _).subset hn')

theorem NamesOk.unlink_own {ns ns' : List (Name × Nat)} {i o : List Name} (h : NamesOk ns i ns' o) (n : Name) :
    NamesOk ns (n :: i) (ns'.filter (·.1 ≠ n)) (o.erase n) := by
  intro n' hn'
  simp only [List.mem_map, List.mem_filter] at hn'
  obtain ⟨x, ⟨hx, hne⟩, rfl⟩ := hn'
  have hne : x.1 ≠ n := by simpa using hne
  rcases h x.1 (List.mem_map_of_mem hx) with h | ⟨h, h'⟩
  · exact .inl ((List.mem_erase_of_ne hne).2 h)
  · exact .inr ⟨h, by simp [hne, h']⟩

/-- a name made by a call and removed again on its failure exit -/
theorem NamesOk.undo {ns ns' : List (Name × Nat)} {n : Name} {sz : Nat} (h : NamesOk ((n, sz) :: ns) [] ns' []) :
    NamesOk ns [] (ns'.filter (·.1 ≠ n)) [] := by
  intro n' hn'
  simp only [List.mem_map, List.mem_filter] at hn'
  obtain ⟨x, ⟨hx, hne⟩, rfl⟩ := hn'
  rcases h x.1 (List.mem_map_of_mem hx) with h | ⟨h, _⟩
  · cases h
  · rcases List.mem_cons.1 h with h | h
    · simp [h] at hne
    · exact .inr ⟨h, not_mem_nil⟩

/-- footprint of an optional result -/
def optL (f : α → List R) : Option α → List R
  | none => []
  | some a => f a

@[simp] theorem ob_none : ob none = [] := rfl
@[simp] theorem ob_some (b : Blk) : ob (some b) = [.blk b] := rfl
@[simp] theorem optL_none (f : α → List R) : optL f none = [] := rfl
@[simp] theorem optL_some (f : α → List R) (a : α) : optL f (some a) = f a := rfl

def optOwn (f : α → List Name) : Option α → List Name
  | none => []
  | some a => f a
@[simp] theorem optOwn_none (f : α → List Name) : optOwn f none = [] := rfl
@[simp] theorem optOwn_some (f : α → List Name) (a : α) : optOwn f (some a) = f a := rfl

/-- symbolic execution of the primitive steps at the head of the goal (tests of their results are decided,
    footprints of optional results reduced) -/
macro "wps" : tactic => `(tactic| try simp only [wp_bind, wp_pure, wp_ret, wp_malloc, wp_freeB, wp_free_none, wp_free_some,
  wp_deref_some, wp_openFd, wp_closeFd, wp_mmap, wp_munmap_full, wp_nameTest, wp_nameCreate, wp_nameUnlink,
  wp_keyCreate, wp_keyDelete, wp_sysOk, wp_arm, wp_dlGet, wp_dlSet, wp_emit, Bool.not_false, Bool.not_true,
  Bool.false_eq_true, ↓reduceIte, optL_none, optL_some, optOwn_none, optOwn_some, ob_none, ob_some, List.nil_append,
  List.append_nil, List.cons_append, List.append_assoc])

/-- permutation and membership goals between lists built with `::`, `++` and `erase`, from the permutation facts `hs`
    (each about a list that is not itself such a compound): count the occurrences of an arbitrary element -/
syntax "count_omega" "[" term,* "]" : tactic
macro_rules
  | `(tactic| count_omega []) => `(tactic| (
      simp only [List.perm_iff_count, List.count_append, List.count_cons, List.count_nil, ob_none, ob_some, optL_none,
        optL_some, beq_iff_eq, implies_true] <;>
      (intros; omega)))
  | `(tactic| count_omega [$hs,*]) => `(tactic| (
      simp only [List.perm_iff_count, ← List.count_pos_iff, List.count_erase, List.count_append, List.count_cons,
        List.count_nil, ob_none, ob_some, optL_none, optL_some, beq_iff_eq, beq_self_eq_true, ite_true, implies_true,
        $[List.Perm.count_eq $hs:term],*] <;>
      (intros; omega)))

/-- the same for permutation goals from facts both of whose sides are sums: the facts are taken at the element -/
syntax "perm_omega" "[" term,* "]" : tactic
macro_rules
  | `(tactic| perm_omega [$hs,*]) => `(tactic| (
      rw [List.perm_iff_count]; intro w
      $[have := List.Perm.count_eq $hs w]*
      simp only [List.count_append, List.count_nil] at *
      omega))

/-- a call next to resources `x` that it does not get (the library's own state): footprints up to permutation,
    owners up to inclusion -/
theorem SpecV.under {m : ResM α} (h : SpecV pre oi m post oo V) (x : List R) {pre' : List R} {post' : α → List R}
    {oo' : α → List Name} {V' : α → Prop} (hp : pre' ~ x ++ pre) (hq : ∀ a, V a → post' a ~ x ++ post a)
    (ho : ∀ a, oo a ⊆ oo' a) (hv : ∀ a, V a → V' a) : SpecV pre' oi m post' oo' V' := by
  intro f s fr hs
  refine wp_mono (h f s (x ++ fr) (by count_omega [hs, hp])) fun a s' ⟨h1, h2, h3⟩ => ?_
  exact ⟨by have := hq a h3; count_omega [h1, this], h2.weaken (fun _ h => h) (ho a), hv a h3⟩

/-- what is held, with its frame: one more resource held is listed first in the frame … -/
theorem _root_.List.Perm.push {l p t : List R} (h : l ~ p ++ t) (x : R) : x :: l ~ p ++ x :: t :=
  (h.cons x).trans perm_middle.symm

/-- … and releasing the one listed first leaves the rest (the shape `wps` gives a release) -/
theorem _root_.List.Perm.pop {l p t : List R} {x : R} {P : Prop} (h : l ~ p ++ x :: t) (k : l.erase x ~ p ++ t → P) :
    x ∈ l ∧ P :=
  have h' := h.trans perm_middle
  ⟨h'.symm.subset mem_cons_self, k (by simpa using h'.erase x)⟩

/-- `freeAll` releases exactly the listed blocks -/
theorem freeAll_spec (bs : List Blk) : Spec (bs.map .blk) (freeAll bs) (fun _ => []) := by
  induction bs with
  | nil => intro f s fr h; simpa [freeAll] using h
  | cons b bs ih =>
    intro f s fr h
    simp only [freeAll, wp_bind, wp_freeB]
    refine ⟨by grind, ?_⟩
    refine wp_mono (ih f _ fr ?_) ?_
    · simp at *; grind
    · intro _ s' h'; simpa using h'

end PV.Res
