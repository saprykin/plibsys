import PV.Lemmas.Res.Funcs
/-! # C18 — specifications of the modelled functions: thread-local storage, the library's own state, threads -/
namespace PV.Res
open List

/-- `pp_uthread_get_tls_key`: an existing slot is handed back; a new one holds no value yet -/
theorem getTlsKey_wp (slot : Option Slot) (h : s.held ~ slotFoot slot ++ fr) :
    wp (getTlsKey slot) f s (fun r s' => s'.held ~ slotFoot r ++ fr ∧ s'.names = s.names ∧
      r.bind (·.value) = slot.bind (·.value)) := by
  rcases slot with _ | sl <;> simp [getTlsKey, slotFoot, Slot.foot, ob] at h ⊢ <;> grind

theorem getTlsKey_spec (slot : Option Slot) : Spec (slotFoot slot) (getTlsKey slot) slotFoot :=
  fun _ _ _ h => wp_mono (getTlsKey_wp slot h) fun _ _ h => ⟨h.1, h.2.1⟩

theorem tlsNew_spec : Spec [] tlsNew (optL TlsO.foot) := by
  intro f s fr h
  simp only [tlsNew]
  wps
  split
  · exact ⟨h, trivial⟩
  · exact ⟨h.cons _, trivial⟩

theorem tlsSet_spec (t : TlsO) : Spec t.foot (tlsSet t) (fun r => r.2.foot) := by
  intro f s fr h
  have h' : s.held ~ slotFoot t.slot ++ .blk t.self :: fr := by simp only [TlsO.foot] at h; count_omega [h]
  simp only [tlsSet]
  wps
  refine ⟨by count_omega [h'], ?_⟩
  refine wp_spec (getTlsKey_spec t.slot) h' fun n1 s1 h1 e1 => ?_
  wps
  split
  · exact ⟨by simp only [TlsO.foot]; count_omega [h1], e1⟩
  refine wp_spec (getTlsKey_spec n1) (h1.push _) fun n2 s2 h2 e2 => ?_
  rcases n2 with _ | ⟨b, k, v⟩
  · simp only []
    wps
    refine wp_spec (getTlsKey_spec none) (pre := []) (fr := .blk (s1.next + 1) :: .blk t.self :: fr) h2 fun n3 s3 h3 e3 => ?_
    wps
    exact h3.pop fun h4 => ⟨by simp only [TlsO.foot]; count_omega [h4], e3.trans (e2.trans e1)⟩
  · simp only [TlsO.foot, slotFoot, Slot.foot] at h2 ⊢
    rcases v with _ | v <;> wps
    · exact ⟨by count_omega [h2], e2.trans e1⟩
    · exact ⟨by count_omega [h2], by count_omega [h2], e2.trans e1⟩

theorem tlsReplace_spec (t : TlsO) : Spec t.foot (tlsReplace t) (fun r => r.2.foot) := by
  intro f s fr h
  have h' : s.held ~ slotFoot t.slot ++ .blk t.self :: fr := by simp only [TlsO.foot] at h; count_omega [h]
  simp only [tlsReplace]
  wps
  refine ⟨by count_omega [h'], ?_⟩
  split
  · exact ⟨h, trivial⟩
  refine wp_spec (getTlsKey_spec t.slot) (h'.push _) fun n1 s1 h1 e1 => ?_
  rcases n1 with _ | ⟨b, k, v⟩
  · simp only []
    wps
    refine wp_spec (getTlsKey_spec none) (pre := []) (fr := .blk (s.next + 1) :: .blk t.self :: fr) h1 fun n2 s2 h2 e2 => ?_
    wps
    exact h2.pop fun h3 => ⟨by simp only [TlsO.foot]; count_omega [h3], e2.trans e1⟩
  · simp only [TlsO.foot, slotFoot, Slot.foot] at h1 ⊢
    rcases v with _ | v <;> wps
    · exact ⟨by count_omega [h1], e1⟩
    · exact ⟨by count_omega [h1], by count_omega [h1], e1⟩

theorem tlsGet_spec (t : TlsO) : Spec t.foot (tlsGet t) TlsO.foot := by
  intro f s fr h
  have h' : s.held ~ slotFoot t.slot ++ .blk t.self :: fr := by simp only [TlsO.foot] at h; count_omega [h]
  simp only [tlsGet]
  wps
  refine ⟨by count_omega [h'], ?_⟩
  refine wp_spec (getTlsKey_spec t.slot) h' fun n1 s1 h1 e1 => ?_
  wps
  exact ⟨by simp only [TlsO.foot]; count_omega [h1], e1⟩

theorem tlsFree_spec (t : TlsO) : Spec t.foot (tlsFree t) (fun _ => []) := by
  intro f s fr h
  rcases t with ⟨a, _ | ⟨b, k, _ | v⟩⟩ <;>
    simp only [tlsFree, TlsO.foot, slotFoot, Slot.foot, ob] at h ⊢ <;> wps
  -- the releases run from the last object of the footprint to the first
  · exact h.pop (p := []) fun h => ⟨h, trivial⟩
  · exact h.pop (p := [.blk a, .blk b]) fun h => h.pop (p := [.blk a]) fun h => h.pop (p := []) fun h => ⟨h, trivial⟩
  · exact h.pop (p := [.blk a, .blk b, .key k]) fun h => h.pop (p := [.blk a, .blk b]) fun h =>
      h.pop (p := [.blk a]) fun h => h.pop (p := []) fun h => ⟨h, trivial⟩

theorem libInit_spec (l : LibO) : Spec l.foot (libInit l) LibO.foot := by
  intro f s fr h
  rcases l with ⟨_ | _, _ | t, _ | sp⟩ <;>
    simp [libInit, tlsNew, LibO.foot, optTls, TlsO.foot, slotFoot, ob] at h ⊢ <;> grind

@[simp] theorem optTls_none : optTls none = [] := rfl
@[simp] theorem optTls_some (t : TlsO) : optTls (some t) = t.foot := rfl

theorem libShutdown_spec (l : LibO) : Spec l.foot (libShutdown l) LibO.foot := by
  intro f s fr h
  rcases l with ⟨i, t, sp⟩
  cases i
  · simpa [libShutdown] using h
  simp only [LibO.foot] at h
  simp only [libShutdown, Bool.not_true, Bool.false_eq_true, if_false]
  -- what is left after the main thread's key is gone: the spinlock
  have rest : ∀ s1 : St, s1.held ~ ob sp ++ fr → s1.names = s.names →
      wp (free sp) f s1 (fun _ s' => s'.held ~ ({} : LibO).foot ++ fr ∧ s'.names = s.names) := by
    intro s1 h1 e1
    rcases sp with _ | sp <;> wps
    · exact ⟨h1, e1⟩
    · exact h1.pop (p := []) fun h2 => ⟨h2, e1⟩
  rcases t with _ | t
  · wps
    exact rest s h rfl
  · wps
    refine wp_spec (tlsGet_spec t) (by simpa using h) fun t' s1 h1 e1 => ?_
    exact wp_spec (tlsFree_spec t') h1 fun _ s2 h2 e2 => rest s2 h2 (e2.trans e1)

theorem curThread_spec (l : LibO) : Spec l.foot (curThread l) (fun r => r.2.foot) := by
  intro f s fr h
  rcases l with ⟨i, t, sp⟩
  simp only [LibO.foot] at h
  simp only [curThread]
  rcases t with _ | t
  · wps
    split
    · exact ⟨h, trivial⟩
    · simp only [LibO.foot] at h ⊢
      exact ⟨by count_omega [h], by count_omega [h], trivial⟩
  simp only [optTls_some, TlsO.foot] at h
  have h' : s.held ~ slotFoot t.slot ++ .blk t.self :: (ob sp ++ fr) := by count_omega [h]
  wps
  refine wp_mono (getTlsKey_wp t.slot h') fun n1 s1 ⟨h1, e1, v1⟩ => ?_
  split
  · exact ⟨by simp only [LibO.foot, optTls_some, TlsO.foot]; count_omega [h1], e1⟩
  rename_i hv
  wps
  split
  · exact ⟨by simp only [LibO.foot, optTls_some, TlsO.foot]; count_omega [h1], e1⟩
  refine wp_mono (getTlsKey_wp n1 (h1.push _)) fun n2 s2 ⟨h2, e2, v2⟩ => ?_
  rcases n2 with _ | ⟨b, k, v⟩
  · simp only []
    wps
    refine wp_spec (getTlsKey_spec none) (pre := []) (fr := .blk (s1.next + 1) :: .blk t.self :: (ob sp ++ fr)) h2
      fun n3 s3 h3 e3 => ?_
    wps
    exact h3.pop fun h4 => ⟨by simp only [LibO.foot, optTls_some, TlsO.foot]; count_omega [h4], e3.trans (e2.trans e1)⟩
  · -- the slot that takes the new structure holds nothing: it is the one read before, or new
    have : v = none := by simpa [← v2] using hv
    subst this
    wps
    simp only [LibO.foot, optTls_some, TlsO.foot, slotFoot, Slot.foot] at h2 ⊢
    exact ⟨by count_omega [h2], e2.trans e1⟩

theorem threadUnref_spec (t : ThreadO) : Spec t.foot (threadUnref t) (fun _ => []) := by
  intro f s fr h
  rcases t with ⟨a, _ | n⟩ <;> simp [threadUnref, ThreadO.foot, ob] at h ⊢ <;> grind

theorem threadProxy_spec (t : Option TlsO) : Spec (optTls t) (threadProxy t) optTls := by
  intro f s fr h
  rcases t with _ | ⟨a, _ | sl⟩ <;>
    simp [threadProxy, getTlsKey, TlsO.foot, Slot.foot, optTls, slotFoot] at h ⊢ <;> grind

/-- the thread body hands back the user key it was given -/
theorem threadBody_spec (t : Option TlsO) (body : Bool) :
    SpecV (optTls t) [] (threadBody t body) optTls (fun _ => []) (fun r => r.isSome = t.isSome) := by
  intro f s fr h
  rcases t with _ | ⟨a, _ | sl⟩ <;> cases body <;>
    simp [threadBody, getTlsKey, TlsO.foot, Slot.foot, optTls, slotFoot] at h ⊢ <;> grind

/-- the attribute calls and `pthread_create` change neither what is held nor the names nor the allocation index -/
theorem threadStart_wp {Q : Bool → St → Prop}
    (hq : ∀ b s', s'.held = s.held → s'.names = s.names → s'.next = s.next → Q b s') : wp threadStart f s Q := by
  simp only [threadStart]
  wps
  split
  · wps
    exact hq _ _ rfl rfl rfl
  · wps
    split
    · wps
      exact hq _ _ rfl rfl rfl
    · wps
      split <;> exact hq _ _ rfl rfl rfl

theorem threadSetName_spec (long : Bool) (nm : Option Blk) : Spec [] (threadSetName long nm) (fun _ => []) := by
  intro f s fr h
  cases long <;> cases nm <;> simp [threadSetName] at h ⊢ <;> grind

theorem threadRun_spec (l : LibO) (tls : Option TlsO) (o : ThrOpt) :
    SpecV (l.foot ++ optTls tls) [] (threadRun l tls o)
      (fun r => optL ThreadO.foot r.1 ++ r.2.1.foot ++ optTls r.2.2) (fun _ => []) (fun r => r.2.2.isSome = tls.isSome) := by
  intro f s fr h
  have h0 : s.held ~ optTls l.tls ++ (optTls tls ++ (ob l.spin ++ fr)) := by
    simp [LibO.foot] at h ⊢; count_omega [h]
  -- the name, then the thread: its proxy, the system name, its body
  have run : ∀ (nm : Option Blk) (s1 : St), s1.names = s.names →
      s1.held ~ optTls l.tls ++ (optTls tls ++ (.blk (s.next + 1) :: (ob nm ++ (ob l.spin ++ fr)))) →
      wp (threadProxy l.tls) f s1 (fun lt s2 => wp (threadSetName o.long nm) f s2 (fun _ s3 =>
        wp (threadBody tls o.body) f s3 (fun tls' s4 =>
        s4.held ~ (⟨s.next + 1, nm⟩ : ThreadO).foot ++ (({ l with tls := lt } : LibO).foot ++ (optTls tls' ++ fr)) ∧
          NamesOk s.names [] s4.names [] ∧ tls'.isSome = tls.isSome))) := by
    intro nm s1 hn1 h1
    apply wp_spec (threadProxy_spec l.tls) h1
    intro lt s2 h2 hn2
    apply wp_spec (threadSetName_spec o.long nm) (fr := s2.held) (by simp)
    intro _ s2' h2' hn2'
    simp only [List.nil_append] at h2'
    apply wp_specV (threadBody_spec tls o.body) (fr := optTls lt ++ (.blk (s.next + 1) :: (ob nm ++ (ob l.spin ++ fr))))
      (by have := h2'.trans h2; count_omega [this])
    intro tls' s3 h3 hn3 hv
    simp only [ThreadO.foot, LibO.foot] at h3 ⊢
    exact ⟨by count_omega [h3], (hn2'.trans (hn2.trans hn1)) ▸ hn3, hv⟩
  simp only [threadRun]
  wps
  split
  · exact ⟨by simpa using h, .rfl, trivial⟩
  · apply threadStart_wp
    intro ok s1 hh hn hx
    cases ok
    · wps
      exact ⟨by rw [hh]; count_omega [h], by rw [hh]; count_omega [h], NamesOk.of_eq [] hn, trivial⟩
    · wps
      simp only [hx]
      split
      · exact run none _ hn (by rw [hh]; count_omega [h0])
      · exact run (some (s.next + 1 + 1)) _ hn (by rw [hh]; count_omega [h0])

end PV.Res
