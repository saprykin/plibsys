import PV.Lemmas.Res.Ini
import PV.Lemmas.Res.Sock
import PV.Lemmas.Res.Ipc
import PV.Lemmas.Res.Thread
/-! # C18 — the call tables satisfy the generic predicate

`ctorRun`, `mutRun`, `deriveRun`, `dtorRun` (one entry per modelled library function): for every entry,
every failure predicate and every frame, `SpecV` holds with the footprints of the objects involved, and the error
pointer is passed on as `EPle` says.  An entry is the function proper followed by a packaging of its result. -/
namespace PV.Res
open List

theorem ob_eq : ob = optL fun b => [R.blk b] := by
  funext o; cases o <;> rfl

theorem Spec.frameV {m : ResM α} (h : Spec pre m post) (x : List R) (own : List Name) :
    SpecV (pre ++ x) own m (fun a => post a ++ x) (fun _ => own) (fun _ => True) := by
  intro f s fr hs
  refine wp_mono (h f s (x ++ fr) (by simpa using hs)) ?_
  intro a s' ⟨h1, h2⟩
  exact ⟨by simpa using h1, NamesOk.of_eq own h2, trivial⟩

/-- a table entry: the function proper, then its result `a` is packaged as `b` -/
theorem SpecV.then_pure {m : ResM α} {k : α → ResM β} {post' : β → List R} {oo' : β → List Name} {V' : β → Prop}
    (h : SpecV pre oi m post oo V)
    (hk : ∀ a, V a → ∃ b, k a = pure b ∧ post a ~ post' b ∧ (∀ n ∈ oo a, n ∈ oo' b) ∧ V' b) :
    SpecV pre oi (m >>= k) post' oo' V' := by
  intro f s fr hs
  rw [wp_bind]
  refine wp_mono (h f s fr hs) ?_
  intro a s' ⟨h1, h2, h3⟩
  obtain ⟨b, hb, hp, ho, hv⟩ := hk a h3
  rw [hb]
  exact ⟨h1.trans (hp.append_right fr), h2.weaken (fun _ h => h) (ho ·), hv⟩

theorem ctorRun_spec (k : CtorK) (e : EP) :
    SpecV e.foot [] (ctorRun k e) (fun r => optFoot r.2.1 ++ r.2.2.foot) (fun r => optOwned r.2.1)
      (fun r => EPle e r.2.2) := by
  -- constructors that do not look at the error argument
  have plain : ∀ {α : Type} (m : ResM (Option α)) (C : α → Obj), Spec [] m (optL fun a => (C a).foot) →
      SpecV e.foot [] (do let r ← m; let (c, o) := ret1 r C; return (c, o, e))
        (fun r => optFoot r.2.1 ++ r.2.2.foot) (fun r => optOwned r.2.1) (fun r => EPle e r.2.2) := by
    intro α m C hm
    refine (hm.frameV e.foot []).then_pure fun r _ => ⟨_, rfl, ?_, ?_, .refl e⟩
    · cases r <;> simp [optFoot]
    · simp
  -- … whose object is one block
  have block : ∀ (m : ResM (Option Blk)) (C : Blk → Obj), Spec [] m ob → (∀ b, (C b).foot = [.blk b]) →
      SpecV e.foot [] (do let r ← m; let (c, o) := ret1 r C; return (c, o, e))
        (fun r => optFoot r.2.1 ++ r.2.2.foot) (fun r => optOwned r.2.1) (fun r => EPle e r.2.2) :=
    fun m C hm hf => plain m C (by simpa only [ob_eq, hf] using hm)
  -- constructors that report through the error argument
  have witherr : ∀ {α : Type} (m : ResM (Option α × EP)) (C : α → Obj) (oo : Option α × EP → List Name),
      SpecV e.foot [] m (fun r => optL (fun a => (C a).foot) r.1 ++ r.2.foot) oo (fun r => EPle e r.2) →
      (∀ r, oo r = optOwned (r.1.map C)) →
      SpecV e.foot [] (do let (r, e') ← m; let (c, o) := ret1 r C; return (c, o, e'))
        (fun r => optFoot r.2.1 ++ r.2.2.foot) (fun r => optOwned r.2.1) (fun r => EPle e r.2.2) := by
    intro α m C oo hm ho
    refine hm.then_pure ?_
    rintro ⟨r, e'⟩ hle
    refine ⟨_, rfl, ?_, ?_, hle⟩
    · cases r <;> simp [optFoot]
    · simp [ho]
  cases k with
  | strdup => exact block strdup .str strdup_spec (fun _ => rfl)
  | listNew =>
    intro f s fr h
    simpa [ctorRun, optFoot, Obj.foot, ListO.foot, ListO.blocks, optOwned, Obj.owned] using ⟨h, EPle.refl e⟩
  | treeNew => exact plain treeNew .tree treeNew_spec
  | htNew => exact plain htNew .ht htNew_spec
  | errNew => exact plain errNew .err errNew_spec
  | errNewLiteral =>
    refine (errNewLiteral_spec.frameV e.foot []).then_pure fun r _ => ⟨_, rfl, ?_, by simp, .refl e⟩
    cases r <;> simp [optFoot, Obj.foot]
  | iniNew file => exact plain (iniNew file) .ini (iniNew_spec file)
  | hashNew => exact plain hashNew .hash hashNew_spec
  | ipcKey p => exact block (ipcKey p) .str (ipcKey_spec p) (fun _ => rfl)
  | ipcTmpdir => exact block ipcTmpDir .str ipcTmpDir_spec (fun _ => rfl)
  | dirNew m => exact witherr (dirNew m e) .dir _ (dirNew_spec m e) (by rintro ⟨_ | _, _⟩ <;> rfl)
  | saNew bad =>
    cases bad
    · exact block malloc .saddr malloc_spec (fun _ => rfl)
    · exact block saNewBad .saddr saNewBad_spec (fun _ => rfl)
  | sockNew kind => exact witherr (sockNew kind e) .sock _ (sockNew_spec kind e) (by rintro ⟨_ | _, _⟩ <;> rfl)
  | sockFromFd => exact witherr (sockFromFd e) .sock _ (sockFromFd_spec e) (by rintro ⟨_ | _, _⟩ <;> rfl)
  | semNew n cr =>
    exact witherr (semNew (.sem n) cr e) .sem _ (semNew_spec (.sem n) cr e) (by rintro ⟨_ | _, _⟩ <;> rfl)
  | shmNew n sz =>
    exact witherr (shmNew n (shmSize sz) e) .shm _ (shmNew_spec n (shmSize sz) e) (by rintro ⟨_ | _, _⟩ <;> rfl)
  | shmbufNew n sz =>
    exact witherr (shmbufNew n (shmSize sz) e) .shmbuf _ (shmbufNew_spec n (shmSize sz) e)
      (by rintro ⟨_ | _, _⟩ <;> rfl)
  | oneNew k =>
    cases k with
    | mutex => exact block (newInit "pthread_mutex_init") (.one .mutex) (newInit_spec _) (fun _ => rfl)
    | cond => exact block (newInit "pthread_cond_init") (.one .cond) (newInit_spec _) (fun _ => rfl)
    | rwlock => exact block malloc (.one .rwlock) malloc_spec (fun _ => rfl)
    | spin => exact block malloc (.one .spin) malloc_spec (fun _ => rfl)
    | prof => exact block malloc (.one .prof) malloc_spec (fun _ => rfl)
  | rwgNew => exact plain rwgNew .rwg rwgNew_spec
  | tlsNew => exact plain tlsNew .tls tlsNew_spec
  | loaderNew w => exact plain (loaderNew w) .loader (loaderNew_spec w)
  | loaderErr =>
    refine (loaderErr_spec.frameV e.foot []).then_pure ?_
    rintro ⟨c, r⟩ _
    exact ⟨_, rfl, by cases r <;> simp [optFoot, Obj.foot], by simp, .refl e⟩
  | mmapNew len =>
    refine (mmapNew_spec len e).then_pure ?_
    rintro ⟨r, e'⟩ hle
    exact ⟨_, rfl, by cases r <;> simp [optFoot, Obj.foot], by simp, hle⟩

theorem mutRun_spec (k : MutK) (o : Obj) (e : EP) (m : ResM (Char × Option Obj × EP)) (hm : mutRun k o e = some m) :
    SpecV (o.foot ++ e.foot) o.owned m (fun r => optFoot r.2.1 ++ r.2.2.foot) (fun r => optOwned r.2.1)
      (fun r => EPle e r.2.2) := by
  -- calls that only relabel the object (ownership flags, a rewound position)
  have relabel : ∀ (o o' : Obj) (c : Char), o'.foot = o.foot → (∀ n ∈ o.owned, n ∈ o'.owned) →
      SpecV (o.foot ++ e.foot) o.owned (pure (c, some o', e) : ResM (Char × Option Obj × EP))
        (fun r => optFoot r.2.1 ++ r.2.2.foot) (fun r => optOwned r.2.1) (fun r => EPle e r.2.2) := by
    intro o o' c hf ho f s fr h
    exact ⟨by simpa [optFoot, hf] using h, NamesOk.refl _ _ _ ho, .refl e⟩
  unfold mutRun at hm
  split at hm
  all_goals try split at hm
  all_goals cases hm
  -- in the order of the table
  · exact relabel _ _ _ rfl fun _ h => h
  · exact ((listAdd_spec _ _ _).frameV e.foot []).then_pure fun _ _ => ⟨_, rfl, .rfl, fun _ h => h, .refl e⟩
  · exact ((listRemove_spec _ _).frameV e.foot []).then_pure fun _ _ => ⟨_, rfl, .rfl, fun _ h => h, .refl e⟩
  · exact ((treeInsert_spec _ _).frameV e.foot []).then_pure fun _ _ => ⟨_, rfl, .rfl, fun _ h => h, .refl e⟩
  · exact ((treeRemove_spec _ _).frameV e.foot []).then_pure fun _ _ => ⟨_, rfl, .rfl, fun _ h => h, .refl e⟩
  · exact ((treeClear_spec _).frameV e.foot []).then_pure fun _ _ => ⟨_, rfl, .rfl, fun _ h => h, .refl e⟩
  · exact ((htInsert_spec _ _ _).frameV e.foot []).then_pure fun _ _ => ⟨_, rfl, .rfl, fun _ h => h, .refl e⟩
  · exact ((htRemove_spec _ _).frameV e.foot []).then_pure fun _ _ => ⟨_, rfl, .rfl, fun _ h => h, .refl e⟩
  · exact ((errSetMsg_spec _).frameV e.foot []).then_pure fun _ _ => ⟨_, rfl, .rfl, fun _ h => h, .refl e⟩
  · exact ((errClear_spec _).frameV e.foot []).then_pure fun _ _ => ⟨_, rfl, .rfl, fun _ h => h, .refl e⟩
  · exact (iniParse_spec _ e).then_pure fun _ hle => ⟨_, rfl, .rfl, fun _ h => h, hle⟩
  · exact ((iniScalar_spec _ _ _).frameV e.foot []).then_pure fun _ _ => ⟨_, rfl, .rfl, fun _ h => h, .refl e⟩
  · exact ((iniDouble_spec _ _ _).frameV e.foot []).then_pure fun _ _ => ⟨_, rfl, .rfl, fun _ h => h, .refl e⟩
  · exact relabel (.dir _) _ _ rfl fun _ h => h
  · exact (sockListen_spec _ e).then_pure fun _ hle => ⟨_, rfl, .rfl, fun _ h => h, hle⟩
  · exact (sockConnectRefused_spec _ e).then_pure fun _ hle => ⟨_, rfl, .rfl, fun _ h => h, hle⟩
  · exact ((sockClose_spec _).frameV e.foot []).then_pure fun _ _ => ⟨_, rfl, .rfl, fun _ h => h, .refl e⟩
  · exact (sockIoClosed_spec _ e).then_pure fun _ hle => ⟨_, rfl, .rfl, fun _ h => h, hle⟩
  · exact relabel (.sem _) _ _ rfl (by simp [Obj.owned, SemO.owned])
  · exact relabel (.shm _) _ _ rfl (by simp [Obj.owned, ShmO.owned, SemO.owned]; grind)
  · exact relabel (.shmbuf _) _ _ rfl (by simp [Obj.owned, ShmO.owned, SemO.owned]; grind)
  · exact ((tlsSet_spec _).frameV e.foot []).then_pure fun _ _ => ⟨_, rfl, .rfl, fun _ h => h, .refl e⟩
  · exact ((tlsReplace_spec _).frameV e.foot []).then_pure fun _ _ => ⟨_, rfl, .rfl, fun _ h => h, .refl e⟩
  · exact ((tlsGet_spec _).frameV e.foot []).then_pure fun _ _ => ⟨_, rfl, .rfl, fun _ h => h, .refl e⟩
  · refine (mmapUnmap_spec _ _ e).then_pure ?_
    rintro ⟨ok, e'⟩ hle
    exact ⟨_, rfl, by cases ok <;> simp [optFoot, Obj.foot], by simp, hle⟩
  · exact ((strRealloc_spec _).frameV e.foot []).then_pure fun _ _ => ⟨_, rfl, .rfl, fun _ h => h, .refl e⟩
  · intro f s fr h
    simpa [loaderSym, optFoot, optOwned, Obj.owned] using ⟨h, EPle.refl e⟩

/-- derivations whose source object stays as it is: `g` returns (class, payload of the new object) -/
theorem der_keep {T : Type} (o : Obj) (hO : o.owned = []) (ft : T → List R) (C : T → Obj) (hC : ∀ t, (C t).foot = ft t)
    (hCO : ∀ t, (C t).owned = []) (e : EP) (g : ResM (Char × Option T))
    (hg : Spec o.foot g (fun r => optL ft r.2 ++ o.foot)) :
    SpecG (o.foot ++ e.foot) o.owned (do let (c, r) ← g; return (c, o, r.map C, e))
      (fun r => r.2.1.foot ++ optFoot r.2.2.1 ++ r.2.2.2.foot) (fun r => r.2.1.owned ++ optOwned r.2.2.1) := by
  refine ((hO ▸ hg.frameV e.foot []).then_pure (V' := fun _ => True) ?_).specG
  rintro ⟨c, r⟩ _
  refine ⟨_, rfl, ?_, by simp [hO], trivial⟩
  cases r <;> simp only [optFoot, optL_none, optL_some, Option.map, hC] <;> count_omega []

theorem deriveRun_spec (k : DeriveK) (o : Obj) (e : EP) (m : ResM (Char × Obj × Option Obj × EP))
    (hm : deriveRun k o e = some m) :
    SpecV (o.foot ++ e.foot) o.owned m (fun r => r.2.1.foot ++ optFoot r.2.2.1 ++ r.2.2.2.foot)
      (fun r => r.2.1.owned ++ optOwned r.2.2.1) (fun r => EPle e r.2.2.2) := by
  unfold deriveRun at hm
  split at hm
  all_goals try split at hm
  all_goals cases hm
  -- in the order of the table; the new object's footprint comes after the source's
  · refine ((htList_spec _ _).frameV e.foot []).then_pure fun _ _ => ⟨_, rfl, ?_, by simp [Obj.owned, optOwned], .refl e⟩
    simp only [Obj.foot, optFoot]; count_omega []
  · refine ((htList_spec _ _).frameV e.foot []).then_pure fun _ _ => ⟨_, rfl, ?_, by simp [Obj.owned, optOwned], .refl e⟩
    simp only [Obj.foot, optFoot]; count_omega []
  · refine ((htList_spec _ _).frameV e.foot []).then_pure fun _ _ => ⟨_, rfl, ?_, by simp [Obj.owned, optOwned], .refl e⟩
    simp only [Obj.foot, optFoot]; count_omega []
  · refine ((errCopy_spec _).frameV e.foot []).then_pure fun r _ => ⟨_, rfl, ?_, by simp [Obj.owned, optOwned], .refl e⟩
    cases r <;> simp only [Obj.foot, optFoot, Option.map] <;> count_omega []
  · refine ((iniSections_spec _).frameV e.foot []).then_pure fun _ _ => ⟨_, rfl, ?_, by simp [Obj.owned, optOwned], .refl e⟩
    simp only [Obj.foot, optFoot]; count_omega []
  · refine ((iniKeys_spec _ _).frameV e.foot []).then_pure fun _ _ => ⟨_, rfl, ?_, by simp [Obj.owned, optOwned], .refl e⟩
    simp only [Obj.foot, optFoot]; count_omega []
  · refine ((iniString_spec _ _ _).frameV e.foot []).then_pure ?_
    rintro ⟨c, r⟩ _
    refine ⟨_, rfl, ?_, by simp [Obj.owned, optOwned], .refl e⟩
    cases r <;> simp only [Obj.foot, optFoot, Option.map] <;> count_omega []
  · refine ((iniList_spec _ _ _).frameV e.foot []).then_pure fun _ _ => ⟨_, rfl, ?_, by simp [Obj.owned, optOwned], .refl e⟩
    simp only [Obj.foot, optFoot]; count_omega []
  · refine ((hashString_spec _).frameV e.foot []).then_pure fun r _ => ⟨_, rfl, ?_, by simp [Obj.owned, optOwned], .refl e⟩
    cases r <;> simp only [Obj.foot, optFoot, Option.map] <;> count_omega []
  · refine (dirNext_spec _ e).then_pure ?_
    rintro ⟨c, d', r, e'⟩ hle
    refine ⟨_, rfl, ?_, by simp [Obj.owned, optOwned], hle⟩
    cases r <;> exact .rfl
  · refine ((dirPath_spec _).frameV e.foot []).then_pure fun r _ => ⟨_, rfl, ?_, by simp [Obj.owned, optOwned], .refl e⟩
    cases r <;> simp only [Obj.foot, optFoot, Option.map] <;> count_omega []
  · intro f s fr h
    simp only [Obj.foot, List.cons_append, List.nil_append] at h
    wps
    refine ⟨by count_omega [h], ?_⟩
    split <;> exact ⟨by simp only [Obj.foot, optFoot, Option.map]; count_omega [h], by simp [Obj.owned, optOwned], .refl e⟩
  · refine (sockAccept_spec _ e).then_pure ?_
    rintro ⟨c, d', r, e'⟩ hle
    refine ⟨_, rfl, ?_, by simp [Obj.owned, optOwned], hle⟩
    cases r <;> exact .rfl
  · refine (sockAddr_spec _ false e).then_pure ?_
    rintro ⟨r, e'⟩ hle
    refine ⟨_, rfl, ?_, by simp [Obj.owned, optOwned], hle⟩
    cases r <;> simp only [Obj.foot, optFoot, Option.map] <;> count_omega []
  · refine (sockAddr_spec _ true e).then_pure ?_
    rintro ⟨r, e'⟩ hle
    refine ⟨_, rfl, ?_, by simp [Obj.owned, optOwned], hle⟩
    cases r <;> simp only [Obj.foot, optFoot, Option.map] <;> count_omega []
  · refine (sockUdpEcho_spec _ e).then_pure ?_
    rintro ⟨c, r, e'⟩ hle
    refine ⟨_, rfl, ?_, by simp [Obj.owned, optOwned], hle⟩
    cases r <;> simp only [Obj.foot, optFoot, Option.map] <;> count_omega []

theorem dtorRun_spec (o : Obj) : SpecG o.foot o.owned (dtorRun o) (fun _ => []) (fun _ => []) := by
  have plain : ∀ (m : ResM Unit), Spec o.foot m (fun _ => []) → o.owned = [] → SpecG o.foot o.owned m (fun _ => []) (fun _ => []) := by
    intro m hm ho
    rw [ho]
    exact hm.toG [] _ fun _ _ h => h
  have one : ∀ b : Blk, Spec [.blk b] (freeB b) (fun _ => []) := by
    intro b f s fr h
    wps
    exact h.pop (p := []) fun h2 => ⟨h2, trivial⟩
  cases o with
  | str b => exact plain _ (one b) rfl
  | list l => exact plain _ (listFree_spec l) rfl
  | slist l => exact plain _ (slistFree_spec l) rfl
  | tree t => exact plain _ (treeFree_spec t) rfl
  | ht t => exact plain _ (htFree_spec t) rfl
  | err x => exact plain _ (errFree_spec x) rfl
  | ini i => exact plain _ (iniFree_spec i) rfl
  | hash h => exact plain _ (hashFree_spec h) rfl
  | dir d => exact plain _ (dirFree_spec d) rfl
  | dirent d => exact plain _ (direntFree_spec d) rfl
  | saddr b => exact plain _ (one b) rfl
  | sock x => exact plain _ (sockFree_spec x) rfl
  | sem x => exact semFree_spec x
  | shm x => exact shmFree_spec x
  | shmbuf b => exact shmbufFree_spec b
  | one k b => exact plain _ (one b) rfl
  | rwg l => exact plain _ (rwgFree_spec l) rfl
  | thread t => exact plain _ (threadUnref_spec t) rfl
  | tls t => exact plain _ (tlsFree_spec t) rfl
  | loader l => exact plain _ (loaderFree_spec l) rfl
  | mmap i len =>
    refine plain _ ?_ rfl
    intro f s fr h
    simp only [dtorRun]
    wps
    exact h.pop (p := []) fun h2 => ⟨h2, trivial⟩

end PV.Res
