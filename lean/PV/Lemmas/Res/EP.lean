import PV.Lemmas.Res.Wp
/-! # facts about results alone; the `PError **` argument is only ever filled, never lost

`Always m P`: whatever the state and the failure predicate, a result of `m` satisfies `P` (used for the types of the
objects the calls make).  `EPle e e'`: how a function may pass on its error pointer. -/
namespace PV.Res

/-- partial correctness: if the program returns, the result satisfies `Q` -/
def wlp (m : ResM α) (f : Nat → Bool) (s : St) (Q : α → St → Prop) : Prop :=
  match m.run f s with
  | .fault _ => True
  | .ok a s' => Q a s'

theorem wlp.of_run {m : ResM α} (h : wlp m f s Q) (hr : m.run f s = .ok a s') : Q a s' := by
  unfold wlp at h
  rwa [hr] at h

@[simp] theorem wlp_pure (a : α) : wlp (pure a : ResM α) f s Q ↔ Q a s := Iff.rfl
@[simp] theorem wlp_ret (a : α) : wlp (ResM.ret a) f s Q ↔ Q a s := Iff.rfl

@[simp] theorem wlp_bind (m : ResM α) (g : α → ResM β) :
    wlp (m >>= g) f s Q ↔ wlp m f s (fun a s' => wlp (g a) f s' Q) := by
  show wlp (m.bind g) f s Q ↔ _
  unfold wlp
  rw [ResM.run_bind]
  cases m.run f s <;> simp

theorem wlp_mono {m : ResM α} (h : wlp m f s Q) (hq : ∀ a s', Q a s' → Q' a s') : wlp m f s Q' := by
  unfold wlp at *
  cases hm : m.run f s <;> simp_all

/-- a result property that does not depend on the state at all -/
def Always (m : ResM α) (P : α → Prop) : Prop := ∀ f s, wlp m f s (fun a _ => P a)

theorem Always.bind {m : ResM α} {g : α → ResM β} {P : β → Prop} (h : ∀ a, Always (g a) P) : Always (m >>= g) P := by
  intro f s
  rw [wlp_bind]
  unfold wlp
  cases hm : m.run f s with
  | fault _ => trivial
  | ok a s' => exact h a f s'

theorem Always.bind' {m : ResM α} {g : α → ResM β} {P1 : α → Prop} {P : β → Prop}
    (h1 : Always m P1) (h : ∀ a, P1 a → Always (g a) P) : Always (m >>= g) P := by
  intro f s
  rw [wlp_bind]
  have := h1 f s
  unfold wlp at *
  cases hm : m.run f s with
  | fault _ => trivial
  | ok a s' => rw [hm] at this; exact h a this f s'

theorem Always.pure {a : α} {P : α → Prop} (h : P a) : Always (pure a : ResM α) P := fun _ _ => h

theorem Always.ite {c : Prop} [Decidable c] {m1 m2 : ResM α} {P : α → Prop} (h1 : Always m1 P) (h2 : Always m2 P) :
    Always (if c then m1 else m2) P := by
  split <;> assumption

/-- what the packaging `k` of a table entry makes of a result does not depend on how the function proper ran -/
theorem Always.then_pure {m : ResM α} {k : α → ResM β} {P : β → Prop} (h : ∀ a, ∃ b, k a = Pure.pure b ∧ P b) :
    Always (m >>= k) P :=
  Always.bind fun a => by obtain ⟨b, hb, hp⟩ := h a; rw [hb]; exact Always.pure hp

theorem wp_and_always {m : ResM α} {Q : α → St → Prop} {P : α → Prop} (h : wp m f s Q) (ha : Always m P) :
    wp m f s (fun a s' => Q a s' ∧ P a) := by
  have := ha f s
  unfold wp wlp at *
  cases hm : m.run f s <;> simp_all

/-- NULL stays NULL, a stored error is never overwritten, an empty cell stays a cell -/
def EPle (e e' : EP) : Prop :=
  match e with
  | none => e' = none
  | some (some x) => e' = some (some x)
  | some none => e'.isSome

theorem EPle.refl (e : EP) : EPle e e := by rcases e with _ | _ | x <;> simp [EPle]

theorem EPle.trans {e e1 e2 : EP} (h1 : EPle e e1) (h2 : EPle e1 e2) : EPle e e2 := by
  rcases e with _ | _ | x <;> simp [EPle] at h1 ⊢
  · subst h1; simpa [EPle] using h2
  · rcases e1 with _ | _ | y <;> simp [EPle] at h1 h2 ⊢
    · exact h2
    · simp [h2]
  · subst h1; simpa [EPle] using h2

end PV.Res
