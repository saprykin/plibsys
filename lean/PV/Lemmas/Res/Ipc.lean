import PV.Lemmas.Res.Funcs
/-! # C18 — specifications of the modelled functions: named semaphores, shared memory, shared buffers

These create and remove IPC names, so their specifications say who owns which name (`NamesOk`). -/
namespace PV.Res
open List

/-- after `sem_unlink` / `shm_unlink` the name is free again -/
@[simp] theorem nameSize_filter_ne (ns : List (Name × Nat)) (n : Name) : ResM.nameSize (ns.filter (·.1 ≠ n)) n = none := by
  simp [ResM.nameSize, List.find?_eq_none]

theorem semNew_spec (name : Name) (create : Bool) (e : EP) :
    SpecV e.foot [] (semNew name create e) (fun r => optL SemO.foot r.1 ++ r.2.foot) (fun r => optOwn SemO.owned r.1)
      (fun r => EPle e r.2) := by
  intro f s fr h
  simp only [semNew]
  wps
  split
  · exact wp_specV (setErr_spec e) h fun e' s' h1 hn hle => ⟨h1, hn, hle⟩
  split
  · exact wp_specV (setErr_spec e) (h.push _) fun e' s' h1 hn hle => h1.pop fun h2 => ⟨h2, hn, hle⟩
  refine wp_spec (ipcKey_spec true) (fr := e.foot ++ .blk (s.next + 1 + 1) :: .blk (s.next + 1) :: fr) ((h.push _).push _)
    fun key s1 h1 hn1 => ⟨by count_omega [h1], ?_⟩
  have h2 : s1.held.erase (.blk (s.next + 1 + 1)) ~ e.foot ++ (ob key ++ .blk (s.next + 1) :: fr) := by count_omega [h1]
  rcases key with _ | key
  · simp only []
    wps
    exact wp_specV (setErr_spec e) h2 fun e' s' h3 hn hle => h3.pop fun h4 => ⟨h4, hn1 ▸ hn, hle⟩
  simp only []
  wps
  split
  · wps
    exact wp_specV (setErr_spec e) h2 fun e' s' h3 hn hle => h3.pop fun h4 => h4.pop fun h5 => ⟨h5, hn1 ▸ hn, hle⟩
  wps
  simp only [hn1]
  rcases hx : ResM.nameSize s.names name with _ | sz
  · simp only []
    wps
    simp only [hx, SemO.foot, SemO.owned, true_and, if_true]
    exact ⟨by count_omega [h2], NamesOk.rfl.create name 0, .refl e⟩
  cases create
  · simp only []
    wps
    simp only [SemO.foot, SemO.owned]
    exact ⟨by count_omega [h2], .rfl, .refl e⟩
  · simp only []
    wps
    simp only [nameSize_filter_ne, SemO.foot, SemO.owned, true_and, if_true]
    exact ⟨by count_omega [h2], (NamesOk.rfl.unlink name).create name 0, .refl e⟩

theorem semFree_spec (x : SemO) : SpecG x.foot x.owned (semFree x) (fun _ => []) (fun _ => []) := by
  intro f s fr h
  have h' : s.held ~ [] ++ .map x.map semMapLen :: .blk x.key :: .blk x.self :: fr := by
    simp only [SemO.foot] at h; count_omega [h]
  simp only [semFree]
  wps
  refine h'.pop fun h2 => ?_
  cases hc : x.created
  · wps
    exact h2.pop fun h3 => h3.pop fun h4 => ⟨h4, by simp [SemO.owned, hc]⟩
  · wps
    have := (NamesOk.rfl (ns := s.names) (own := [])).unlink_own x.name
    exact h2.pop fun h3 => h3.pop fun h4 => ⟨h4, by simpa [SemO.owned, hc] using this⟩

/-- what the first stage of `pp_shm_create_handle` leaves: the open descriptor; the new name when created -/
def shmOpenFoot : Option (Nat × Bool × Nat) → List R
  | some (fd, _, _) => [.fd fd]
  | none => []
def shmOpenOwn (id : Nat) : Option (Nat × Bool × Nat) → List Name
  | some (_, true, _) => [.shm id]
  | _ => []

theorem shmOpen_spec (id size : Nat) (e : EP) :
    SpecV e.foot [] (shmOpen id size e) (fun r => shmOpenFoot r.1 ++ r.2.foot) (fun r => shmOpenOwn id r.1)
      (fun r => EPle e r.2) := by
  intro f s fr h
  simp only [shmOpen]
  wps
  split
  · wps
    exact wp_specV (setErr_spec e) h fun e' s' h1 hn hle => ⟨h1, hn, hle⟩
  wps
  rcases hx : ResM.nameSize s.names (.shm id) with _ | sz
  · simp only [Option.isNone_none, if_true]
    wps
    simp only [hx, true_and]
    split
    · wps
      exact wp_specV (setErr_spec e) (h.push _) fun e' s' h1 hn hle => h1.pop fun h2 => ⟨h2, hn.undo, hle⟩
    · wps
      exact ⟨by simp only [shmOpenFoot]; count_omega [h], NamesOk.rfl.create _ _, .refl e⟩
  · simp only [Option.isNone_some, Bool.false_eq_true, if_false]
    wps
    split
    · wps
      exact wp_specV (setErr_spec e) (h.push _) fun e' s' h1 hn hle => h1.pop fun h2 => ⟨h2, hn, hle⟩
    · wps
      exact ⟨by simp only [shmOpenFoot]; count_omega [h], .rfl, .refl e⟩

theorem shmMap_spec (id fd : Nat) (created : Bool) (segSize : Nat) (e : EP) :
    SpecV (.fd fd :: e.foot) (if created then [.shm id] else []) (shmMap id fd created segSize e)
      (fun r => optL (fun m => [.map m segSize]) r.1 ++ r.2.foot)
      (fun r => if r.1.isSome ∧ created then [.shm id] else []) (fun r => EPle e r.2) := by
  intro f s fr h
  have h' : s.held ~ e.foot ++ .fd fd :: fr := by count_omega [h]
  -- the failure exit (`mmap` fails, or the segment is empty), from a state that holds and names the same
  have fail : ∀ S : St, S.held = s.held → S.names = s.names →
      wp (do
          let e' ← setErr e
          closeFd fd
          if created then nameUnlink (.shm id)
          return ((none : Option Nat), e')) f S
        (fun a s' => s'.held ~ optL (fun m => [R.map m segSize]) a.fst ++ (a.snd.foot ++ fr) ∧
          NamesOk s.names (if created = true then [Name.shm id] else []) s'.names
            (if a.fst.isSome = true ∧ created = true then [Name.shm id] else []) ∧ EPle e a.snd) := by
    intro S hS hN
    wps
    refine wp_specV (setErr_spec e) (fr := .fd fd :: fr) (hS ▸ h') fun e' s' h1 hn hle => h1.pop fun h2 => ?_
    cases created
    · wps
      exact ⟨h2, hN ▸ hn, hle⟩
    · wps
      have := (hN ▸ hn).unlink_own (.shm id)
      exact ⟨h2, by simpa using this, hle⟩
  simp only [shmMap]
  wps
  split
  · simp only [Bool.true_or, if_true]
    exact fail _ rfl rfl
  by_cases hz : segSize = 0
  · subst hz
    exact fail _ rfl rfl
  · simp only [hz, decide_false, Bool.or_false, Bool.false_eq_true, if_false]
    wps
    refine ⟨by count_omega [h], by count_omega [h], ?_, .refl e⟩
    cases created <;> simp

theorem shmAttach_spec (a key : Blk) (id size : Nat) (e : EP) :
    SpecV (.blk a :: .blk key :: e.foot) [] (shmAttach a key id size e)
      (fun r => optL ShmO.foot r.1 ++ r.2.foot) (fun r => optOwn ShmO.owned r.1) (fun r => EPle e r.2) := by
  intro f s fr h
  have h' : s.held ~ e.foot ++ .blk key :: .blk a :: fr := by count_omega [h]
  simp only [shmAttach, wp_bind]
  refine wp_specV (shmOpen_spec id size e) h' ?_
  rintro ⟨o, e1⟩ s1 h1 hn1 hle1
  rcases o with _ | ⟨fd, created, segSize⟩
  · wps
    simp only [shmOpenFoot, shmOpenOwn, List.nil_append] at h1 hn1
    exact h1.pop fun h2 => h2.pop fun h3 => ⟨h3, hn1, hle1⟩
  simp only [shmOpenFoot, List.cons_append, List.nil_append] at h1
  simp only [wp_bind]
  refine wp_specV (shmMap_spec id fd created segSize e1) (fr := .blk key :: .blk a :: fr) h1 ?_
  rintro ⟨m, e2⟩ s2 h2 hn2 hle2
  have hn12 : NamesOk s.names [] s2.names (if m.isSome ∧ created then [.shm id] else []) :=
    hn1.trans (by cases created <;> simpa [shmOpenOwn] using hn2)
  rcases m with _ | m
  · wps
    simp only [optL_none, List.nil_append] at h2
    exact h2.pop fun h3 => h3.pop fun h4 => ⟨h4, by simpa using hn12, hle1.trans hle2⟩
  simp only [wp_bind]
  have h2' : s2.held ~ e2.foot ++ .map m segSize :: .blk key :: .blk a :: fr := by
    simp only [optL_some] at h2; count_omega [h2]
  refine wp_specV (semNew_spec (.shmLock id) created e2) h2' ?_
  rintro ⟨lock, e3⟩ s3 h3 hn3 hle3
  have hle := (hle1.trans hle2).trans hle3
  -- the segment's name, when this call made it, is carried through the creation of the lock
  have hn13 : NamesOk s.names [] s3.names ((if created then [.shm id] else []) ++ optOwn SemO.owned lock) :=
    NamesOk.trans (o1 := (if created then [.shm id] else []) ++ []) (by simpa using hn12) (hn3.frame _)
  rcases lock with _ | lock
  · wps
    simp only [optL_none, List.nil_append] at h3
    refine h3.pop fun h4 => ?_
    cases created
    · wps
      exact h4.pop fun h5 => h5.pop fun h6 => ⟨h6, by simpa using hn13, hle⟩
    · wps
      have := (hn13.unlink_own (.shm id)).weaken (i' := []) (o' := []) (nil_subset _) (by simp)
      exact h4.pop fun h5 => h5.pop fun h6 => ⟨h6, this, hle⟩
  · wps
    simp only [optL_some] at h3
    exact ⟨by simp only [ShmO.foot]; count_omega [h3], hn13, hle⟩

theorem shmNew_spec (id size : Nat) (e : EP) :
    SpecV e.foot [] (shmNew id size e) (fun r => optL ShmO.foot r.1 ++ r.2.foot) (fun r => optOwn ShmO.owned r.1)
      (fun r => EPle e r.2) := by
  intro f s fr h
  simp only [shmNew]
  wps
  split
  · exact wp_specV (setErr_spec e) h fun e' s' h1 hn hle => ⟨h1, hn, hle⟩
  split
  · exact wp_specV (setErr_spec e) (h.push _) fun e' s' h1 hn hle => h1.pop fun h2 => ⟨h2, hn, hle⟩
  refine wp_spec (ipcKey_spec true) (fr := e.foot ++ .blk (s.next + 1 + 1) :: .blk (s.next + 1) :: fr) ((h.push _).push _)
    fun key s1 h1 hn1 => ⟨by count_omega [h1], ?_⟩
  rcases key with _ | key
  · simp only []
    wps
    refine wp_specV (setErr_spec e) (fr := .blk (s.next + 1) :: fr) (by count_omega [h1]) fun e' s' h3 hn hle =>
      h3.pop fun h4 => ⟨h4, hn1 ▸ hn, hle⟩
  · simp only []
    refine wp_specV (shmAttach_spec (s.next + 1) key id size e) (fr := fr) (by count_omega [h1]) fun r s' h2 hn hle =>
      ⟨by simpa using h2, hn1 ▸ hn, hle⟩

theorem shmFree_spec (x : ShmO) : SpecG x.foot x.owned (shmFree x) (fun _ => []) (fun _ => []) := by
  intro f s fr h
  have h' : s.held ~ x.lock.foot ++ .map x.map x.mapLen :: .blk x.key :: .blk x.self :: fr := by
    simp only [ShmO.foot] at h; count_omega [h]
  simp only [shmFree]
  wps
  refine h'.pop fun h2 => ?_
  -- after `munmap` and the optional `shm_unlink`: the lock semaphore, then key and structure
  have rest : ∀ s1 : St, s1.held = s.held.erase (.map x.map x.mapLen) →
      NamesOk s.names (if x.created then [Name.shm x.id] else []) s1.names [] →
      wp (semFree x.lock) f s1 (fun _ s' =>
        R.blk x.key ∈ s'.held ∧ R.blk x.self ∈ s'.held.erase (R.blk x.key) ∧
          (s'.held.erase (R.blk x.key)).erase (R.blk x.self) ~ fr ∧ NamesOk s.names x.owned s'.names []) := by
    intro s1 h1 hn1
    refine wp_specG (semFree_spec x.lock) (h1 ▸ h2) fun _ s2 h3 hn2 => ?_
    exact h3.pop (p := []) fun h4 => h4.pop (p := []) fun h5 => ⟨h5, (hn1.frame' x.lock.owned).trans hn2⟩
  cases hc : x.created
  · wps
    exact rest _ rfl (by simp [hc])
  · wps
    have := (NamesOk.rfl (ns := s.names) (own := [])).unlink_own (.shm x.id)
    exact rest _ rfl (by simpa [hc] using this)

theorem shmbufNew_spec (id size : Nat) (e : EP) :
    SpecV e.foot [] (shmbufNew id size e) (fun r => optL ShmBufO.foot r.1 ++ r.2.foot)
      (fun r => optOwn (fun b => b.shm.owned) r.1) (fun r => EPle e r.2) := by
  intro f s fr h
  simp only [shmbufNew, wp_bind]
  refine wp_specV (shmNew_spec id _ e) h ?_
  rintro ⟨shm, e1⟩ s1 h1 hn1 hle1
  rcases shm with _ | shm
  · simpa using ⟨h1, hn1, hle1⟩
  simp only [optL_some, optOwn_some] at h1 hn1
  simp only []
  have h1' : s1.held ~ e1.foot ++ (shm.foot ++ fr) := by count_omega [h1]
  -- both failure exits: report, then free the segment again
  have fail : ∀ S : St, S.held ~ e1.foot ++ (shm.foot ++ fr) → S.names = s1.names →
      wp (setErr e1) f S (fun e2 s' => wp (shmFree shm) f s' fun _ s' =>
        s'.held ~ e2.foot ++ fr ∧ NamesOk s.names [] s'.names [] ∧ EPle e e2) := by
    intro S hS hN
    refine wp_specV (setErr_spec e1) hS fun e2 s2 h2 hn2 hle2 => ?_
    refine wp_specG (shmFree_spec shm) (fr := e2.foot ++ fr) (by count_omega [h2]) fun _ s3 h3 hn3 => ?_
    exact ⟨h3, (hn1.trans ((hN ▸ hn2).frame' shm.owned)).trans hn3, hle1.trans hle2⟩
  split
  · wps
    exact fail s1 h1' rfl
  wps
  split
  · exact fail _ h1' rfl
  · exact ⟨by simp only [ShmBufO.foot]; count_omega [h1], hn1, hle1⟩

theorem shmbufFree_spec (b : ShmBufO) : SpecG b.foot b.shm.owned (shmbufFree b) (fun _ => []) (fun _ => []) := by
  intro f s fr h
  simp only [shmbufFree, wp_bind]
  refine wp_specG (shmFree_spec b.shm) (fr := .blk b.self :: fr) (by simp only [ShmBufO.foot] at h; count_omega [h])
    fun _ s1 h1 hn1 => ?_
  wps
  exact h1.pop (p := []) fun h2 => ⟨h2, hn1⟩

end PV.Res
