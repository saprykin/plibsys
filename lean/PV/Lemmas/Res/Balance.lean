import PV.Lemmas.Res.Seq
/-! # C18 — a static check that a call sequence frees everything it obtains

`balancedB cs` follows, slot by slot, which *type* of object a slot may hold (`none`: certainly empty) through the
calls `cs`; it accepts when every constructor goes to a certainly empty slot, every error slot holds nothing
but an error, and at the end every slot is certainly empty and the library is shut down.  The check is sound for
every failure predicate (`balanced_sound`): whatever fails, a destructor call finds either the object of the
expected type or an empty slot. -/
namespace PV.Res
open List

def CtorK.ty : CtorK → Ty
  | .strdup | .ipcKey _ | .ipcTmpdir | .loaderErr => .str
  | .listNew => .list | .treeNew => .tree | .htNew => .ht | .errNew | .errNewLiteral => .err
  | .iniNew _ => .ini | .hashNew => .hash | .dirNew _ => .dir | .saNew _ => .saddr
  | .sockNew _ | .sockFromFd => .sock | .semNew _ _ => .sem | .shmNew _ _ => .shm | .shmbufNew _ _ => .shmbuf
  | .oneNew k => .one k | .rwgNew => .rwg | .tlsNew => .tls | .loaderNew _ => .loader | .mmapNew _ => .mmap

def DeriveK.ty : DeriveK → Ty
  | .htKeys | .htValues | .htLbv _ => .list
  | .errCopy => .err
  | .iniSections | .iniKeys _ | .iniList _ _ => .slist
  | .iniString _ _ | .hashString | .dirPath | .saAddr => .str
  | .dirNext => .dirent
  | .sockAccept => .sock
  | .sockLocal | .sockRemote | .sockUdpEcho => .saddr

theorem ty_of_map {r : Option α} {C : α → Obj} {t : Ty} (hC : ∀ a, (C a).ty = t) : ∀ o, r.map C = some o → o.ty = t := by
  rintro o h
  obtain ⟨a, -, rfl⟩ := Option.map_eq_some_iff.1 h
  exact hC a

theorem ty_of_some {x : Obj} {t : Ty} (hx : x.ty = t) : ∀ o, some x = some o → o.ty = t := by
  rintro _ ⟨⟩; exact hx

theorem ty_of_ite {c : Bool} {x : Obj} {t : Ty} (hx : x.ty = t) : ∀ o, (if c then none else some x) = some o → o.ty = t := by
  cases c <;> rintro _ ⟨⟩; exact hx

theorem ctorRun_ty (k : CtorK) (e : EP) : Always (ctorRun k e) (fun r => ∀ o, r.2.1 = some o → o.ty = k.ty) := by
  cases k <;> simp only [ctorRun]
  case listNew => exact Always.pure (ty_of_some rfl)
  all_goals exact Always.then_pure fun r => ⟨_, rfl, ty_of_map fun _ => rfl⟩

theorem mutRun_ty (k : MutK) (o : Obj) (e : EP) (m : ResM (Char × Option Obj × EP)) (hm : mutRun k o e = some m) :
    Always m (fun r => ∀ o', r.2.1 = some o' → o'.ty = o.ty) := by
  unfold mutRun at hm
  split at hm
  all_goals try split at hm
  all_goals cases hm
  -- an entry hands back its object relabelled (`nop` without running anything), or, for `p_mem_munmap`, that or nothing
  all_goals first
    | exact Always.pure (ty_of_some rfl)
    | exact Always.then_pure fun r => ⟨_, rfl, ty_of_some rfl⟩
    | exact Always.then_pure fun r => ⟨_, rfl, ty_of_ite rfl⟩

theorem deriveRun_ty (k : DeriveK) (o : Obj) (e : EP) (m : ResM (Char × Obj × Option Obj × EP))
    (hm : deriveRun k o e = some m) :
    Always m (fun r => r.2.1.ty = o.ty ∧ ∀ n, r.2.2.1 = some n → n.ty = k.ty) := by
  unfold deriveRun at hm
  split at hm
  all_goals try split at hm
  all_goals cases hm
  -- the new object is made by a constructor of `Obj`, or mapped over an optional result (`saAddr` after a `deref`)
  all_goals first
    | exact Always.then_pure fun r => ⟨_, rfl, rfl, ty_of_some rfl⟩
    | exact Always.then_pure fun r => ⟨_, rfl, rfl, ty_of_map fun _ => rfl⟩
    | exact Always.bind fun _ => Always.then_pure fun r => ⟨_, rfl, rfl, ty_of_map fun _ => rfl⟩

structure AEnv where
  inited : Bool := false
  slots : List (Option Ty) := List.replicate NSLOT none     -- `none`: certainly empty; `some T`: empty or holds a `T`
  deriving DecidableEq

def AEnv.errOk (a : AEnv) (e : Option Nat) (excl : List Nat) : Bool :=
  match e with
  | none => true
  | some i => decide (i < a.slots.length) && !(excl.contains i) &&
      (a.slots[i]? == some none || a.slots[i]? == some (some Ty.err))

def AEnv.putErr (a : AEnv) (e : Option Nat) : AEnv :=
  match e with
  | none => a
  | some i => { a with slots := a.slots.set i (some .err) }

def absStep (c : Call) (a : AEnv) : Option AEnv :=
  match c with
  | .glob .libInit _ => some { a with inited := true }
  | .glob .libShutdown _ => some { a with inited := false }
  | .glob (.sysfail _) _ => some a
  | c =>
    if !a.inited then some a else
    match c with
    | .ctor k d e =>
      if a.slots[d]? == some none && a.errOk e [d] then some (({ a with slots := a.slots.set d (some k.ty) }).putErr e) else none
    | .mut _ _ d e => if a.errOk e [d] then some (a.putErr e) else none
    | .derive k s d e =>
      if a.slots[d]? == some none && a.errOk e [d, s] then some (({ a with slots := a.slots.set d (some k.ty) }).putErr e) else none
    | .connect d srv e => if a.errOk e [d, srv] then some (a.putErr e) else none
    | .dtor ty d =>
      if a.slots[d]? == some (some ty) || a.slots[d]? == some none then some { a with slots := a.slots.set d none } else some a
    | .glob .curThread _ | .glob .strtod _ => some a
    | .glob _ e => if a.errOk e [] then some (a.putErr e) else none
    | .threadRun d _ _ =>
      if a.slots[d]? == some none then some { a with slots := a.slots.set d (some .thread) } else none
    | .lockCycle _ => some a

def absRun : List Call → AEnv → Option AEnv
  | [], a => some a
  | c :: cs, a => (absStep c a).bind (absRun cs)

/-- the static check: starting with nothing, the sequence ends with every slot certainly empty and the
    library shut down -/
def balancedB (cs : List Call) : Bool :=
  match absRun cs {} with
  | some a => !a.inited && a.slots.all (· == none)
  | none => false

/-- the abstract environment describes the concrete one -/
def Desc (a : AEnv) (env : Env) : Prop :=
  env.lib.inited = a.inited ∧ (a.inited = false → env.lib.foot = []) ∧ env.slots.length = a.slots.length ∧
  ∀ (i : Nat) (o : Obj), env.slots[i]? = some (some o) → a.slots[i]? = some (some o.ty)

theorem Desc_init : Desc {} {} := by
  refine ⟨rfl, fun _ => by simp [LibO.foot, optTls, ob], by simp, ?_⟩
  intro i o h
  simp [List.getElem?_replicate] at h

theorem Desc_neutral {a : AEnv} {env : Env} (h : Desc a env) (hi : a.inited = false) (hs : a.slots.all (· == none) = true) :
    env.neutral := by
  refine ⟨h.2.1 hi, ?_⟩
  intro o ho
  rcases o with _ | o
  · rfl
  · obtain ⟨i, hi'⟩ := List.getElem?_of_mem ho
    have := h.2.2.2 i o hi'
    have hm := List.mem_of_getElem? this
    simp [List.all_eq_true] at hs
    exact absurd (hs _ hm) (by simp)

def DescS (as : List (Option Ty)) (cs : List (Option Obj)) : Prop :=
  cs.length = as.length ∧ ∀ (i : Nat) (o : Obj), cs[i]? = some (some o) → as[i]? = some (some o.ty)

theorem DescS_set {as : List (Option Ty)} {cs : List (Option Obj)} (h : DescS as cs) (i : Nat) (x : Option Obj)
    (t : Option Ty) (hx : ∀ o, x = some o → t = some o.ty) : DescS (as.set i t) (cs.set i x) := by
  refine ⟨by simp [h.1], ?_⟩
  intro j o hj
  rw [List.getElem?_set] at hj ⊢
  split at hj
  · rename_i hij
    subst hij
    split at hj
    · rename_i hlt
      simp at hj
      simp [← h.1, hlt, hx o hj]
    · simp at hj
  · rename_i hij
    simp [hij]
    exact h.2 j o hj

theorem DescS_weaken {as : List (Option Ty)} {cs : List (Option Obj)} (h : DescS as cs) (i : Nat) (t : Option Ty)
    (hw : ∀ o, cs[i]? = some (some o) → t = some o.ty) : DescS (as.set i t) cs := by
  refine ⟨by simp [h.1], ?_⟩
  intro j o hj
  rw [List.getElem?_set]
  split
  · rename_i hij
    subst hij
    have hlt : i < as.length := by
      rw [← h.1]; exact (List.getElem?_eq_some_iff.1 hj).1
    simp [hlt, hw o hj]
  · exact h.2 j o hj

theorem errOk_spec {a : AEnv} {i : Nat} {excl : List Nat} (h : a.errOk (some i) excl = true) :
    i < a.slots.length ∧ i ∉ excl ∧ (a.slots[i]? = some none ∨ a.slots[i]? = some (some Ty.err)) := by
  simp only [AEnv.errOk, Bool.and_eq_true, decide_eq_true_eq, Bool.not_eq_eq_eq_not, Bool.not_true,
    Bool.or_eq_true, beq_iff_eq] at h
  refine ⟨h.1.1, ?_, h.2⟩
  have := h.1.2
  simpa using this

/-- writing the error pointer back is described by `putErr` -/
theorem DescS_putEP {a : AEnv} {cs : List (Option Obj)} (h : DescS a.slots cs) (e : Option Nat) (excl : List Nat)
    (hok : a.errOk e excl = true) (lib : LibO) (ep' : EP) :
    DescS (a.putErr e).slots ((Env.mk lib cs).putEP e ep').slots := by
  rcases e with _ | i
  · simpa [AEnv.putErr, Env.putEP] using h
  · obtain ⟨hlt, _, hs⟩ := errOk_spec hok
    -- when nothing is written back, the slot still holds nothing or an error
    have hw : DescS (a.slots.set i (some .err)) cs := by
      apply DescS_weaken h
      intro o ho
      have := h.2 i o ho
      rcases hs with hs | hs <;> simp [hs] at this
      simp [this]
    rcases ep' with _ | _ | eo
    · exact hw
    · exact hw
    · simp only [AEnv.putErr, Env.putEP, Env.set]
      exact DescS_set h i _ _ (by intro o ho; cases ho; rfl)

theorem Desc_of {a : AEnv} {env : Env} {a' : AEnv} {env' : Env} (h : Desc a env) (hl : env'.lib = env.lib)
    (hi : a'.inited = a.inited) (hs : DescS a'.slots env'.slots) : Desc a' env' :=
  ⟨by rw [hl, hi]; exact h.1, by rw [hl, hi]; exact h.2.1, hs.1, hs.2⟩

theorem Desc.slots {a : AEnv} {env : Env} (h : Desc a env) : DescS a.slots env.slots := ⟨h.2.2.1, h.2.2.2⟩

/-- weakening only the error slot describes the unchanged environment -/
theorem Desc_putErr_same {a : AEnv} {env : Env} (h : Desc a env) (e : Option Nat) (excl : List Nat)
    (hok : a.errOk e excl = true) : Desc (a.putErr e) env := by
  have := DescS_putEP h.slots e excl hok env.lib none
  rw [putEP_none] at this
  exact Desc_of h rfl (by rcases e with _ | i <;> rfl) this

theorem errOk_set {a : AEnv} {e : Option Nat} {excl : List Nat} (hok : a.errOk e excl = true) {d : Nat} (hd : d ∈ excl)
    (t : Option Ty) : ({ a with slots := a.slots.set d t } : AEnv).errOk e excl = true := by
  rcases e with _ | i
  · rfl
  · obtain ⟨hlt, hx, hs⟩ := errOk_spec hok
    have hne : d ≠ i := fun hh => hx (hh ▸ hd)
    simp only [AEnv.errOk, List.length_set, hlt, decide_true, Bool.true_and, List.getElem?_set_ne hne]
    simpa [AEnv.errOk, hlt] using hok

/-- a slot that is certainly empty may be described as holding any type -/
theorem Desc_weaken_empty {a : AEnv} {env : Env} (h : Desc a env) {d : Nat} (hd : a.slots[d]? = some none) (t : Option Ty) :
    Desc { a with slots := a.slots.set d t } env :=
  Desc_of h rfl rfl (DescS_weaken h.slots d _ fun o ho => by simpa [hd] using h.2.2.2 d o ho)

theorem stepCtor_desc {a : AEnv} {env : Env} (h : Desc a env) (k : CtorK) (d : Nat) (e : Option Nat)
    (hd : a.slots[d]? = some none) (hok : a.errOk e [d] = true) :
    Always (stepCtor env k d e) (fun r => Desc (({ a with slots := a.slots.set d (some k.ty) }).putErr e) r.2) := by
  have hok' := errOk_set hok (d := d) (by simp) (some k.ty)
  have sk : Always (pure ('-', env) : ResM (Char × Env))
      (fun r => Desc (({ a with slots := a.slots.set d (some k.ty) }).putErr e) r.2) :=
    Always.pure (Desc_putErr_same (Desc_weaken_empty h hd _) e [d] hok')
  unfold stepCtor skip
  apply Always.ite sk
  apply Always.ite sk
  split
  · exact sk
  · rename_i ep hep
    apply Always.bind' (ctorRun_ty k ep)
    rintro ⟨cls, o, ep'⟩ hty
    apply Always.pure
    have h1 : DescS (a.slots.set d (some k.ty)) (env.slots.set d o) :=
      DescS_set h.slots d o _ (fun o' ho' => by rw [hty o' ho'])
    have := DescS_putEP (a := { a with slots := a.slots.set d (some k.ty) }) h1 e [d] hok' env.lib ep'
    exact Desc_of h (by simp [putEP_lib, Env.set]) (by rcases e with _ | i <;> rfl) (by simpa [Env.set] using this)

theorem stepMut_desc {a : AEnv} {env : Env} (h : Desc a env) (k : MutK) (ty : Ty) (d : Nat) (e : Option Nat)
    (hok : a.errOk e [d] = true) : Always (stepMut env k ty d e) (fun r => Desc (a.putErr e) r.2) := by
  have sk : Always (pure ('-', env) : ResM (Char × Env)) (fun r => Desc (a.putErr e) r.2) :=
    Always.pure (Desc_putErr_same h e [d] hok)
  unfold stepMut skip
  split
  · rename_i o ep hg hep
    apply Always.ite sk
    split
    · exact sk
    · rename_i m hm
      apply Always.bind' (mutRun_ty k o ep m hm)
      rintro ⟨cls, o', ep'⟩ hty
      apply Always.pure
      obtain ⟨hdl, hds⟩ := get_spec hg
      have hd : a.slots[d]? = some (some o.ty) := h.2.2.2 d o hds
      have h1 : DescS a.slots (env.slots.set d o') := by
        have := DescS_set h.slots d o' (some o.ty) (fun x hx => by rw [hty x hx])
        rwa [set_same hd] at this
      have := DescS_putEP h1 e [d] hok env.lib ep'
      exact Desc_of h (by simp [putEP_lib, Env.set]) (by rcases e with _ | i <;> rfl) (by simpa [Env.set] using this)
  · exact sk

theorem stepDerive_desc {a : AEnv} {env : Env} (h : Desc a env) (k : DeriveK) (src d : Nat) (e : Option Nat)
    (hd : a.slots[d]? = some none) (hok : a.errOk e [d, src] = true) :
    Always (stepDerive env k src d e) (fun r => Desc (({ a with slots := a.slots.set d (some k.ty) }).putErr e) r.2) := by
  have hok' := errOk_set hok (d := d) (by simp) (some k.ty)
  have sk : Always (pure ('-', env) : ResM (Char × Env))
      (fun r => Desc (({ a with slots := a.slots.set d (some k.ty) }).putErr e) r.2) :=
    Always.pure (Desc_putErr_same (Desc_weaken_empty h hd _) e [d, src] hok')
  unfold stepDerive skip
  split
  · rename_i o ep hg hep
    apply Always.ite sk
    split
    · exact sk
    · rename_i m hm
      apply Always.bind' (deriveRun_ty k o ep m hm)
      rintro ⟨cls, o', n, ep'⟩ ⟨hty1, hty2⟩
      apply Always.pure
      obtain ⟨hsl, hss⟩ := get_spec hg
      have hs : a.slots[src]? = some (some o.ty) := h.2.2.2 src o hss
      have h0 : DescS a.slots (env.slots.set src (some o')) := by
        have := DescS_set h.slots src (some o') (some o.ty) (fun x hx => by cases hx; rw [hty1])
        rwa [set_same hs] at this
      have h1 : DescS (a.slots.set d (some k.ty)) ((env.slots.set src (some o')).set d n) :=
        DescS_set h0 d n _ (fun x hx => by rw [hty2 x hx])
      have := DescS_putEP (a := { a with slots := a.slots.set d (some k.ty) }) h1 e [d, src] hok' env.lib ep'
      exact Desc_of h (by simp [putEP_lib, Env.set]) (by rcases e with _ | i <;> rfl) (by simpa [Env.set] using this)
  · exact sk

theorem stepConnect_desc {a : AEnv} {env : Env} (h : Desc a env) (d srv : Nat) (e : Option Nat)
    (hok : a.errOk e [d, srv] = true) : Always (stepConnect env d srv e) (fun r => Desc (a.putErr e) r.2) := by
  have sk : Always (pure ('-', env) : ResM (Char × Env)) (fun r => Desc (a.putErr e) r.2) :=
    Always.pure (Desc_putErr_same h e [d, srv] hok)
  unfold stepConnect skip
  split
  · rename_i x sv ep hgd hgs hep
    apply Always.ite sk
    apply Always.bind; rintro ⟨cls, x', sv', ep'⟩
    apply Always.pure
    obtain ⟨hdl, hds⟩ := get_spec hgd
    obtain ⟨hsl, hss⟩ := get_spec hgs
    have hd : a.slots[d]? = some (some Ty.sock) := h.2.2.2 d _ hds
    have hs : a.slots[srv]? = some (some Ty.sock) := h.2.2.2 srv _ hss
    have h0 : DescS a.slots (env.slots.set d (some (.sock x'))) := by
      have := DescS_set h.slots d (some (.sock x')) (some Ty.sock) (fun o ho => by cases ho; rfl)
      rwa [set_same hd] at this
    have h1 : DescS a.slots ((env.slots.set d (some (.sock x'))).set srv (some (.sock sv'))) := by
      have := DescS_set h0 srv (some (.sock sv')) (some Ty.sock) (fun o ho => by cases ho; rfl)
      rwa [set_same hs] at this
    have := DescS_putEP h1 e [d, srv] hok env.lib ep'
    exact Desc_of h (by simp [putEP_lib, Env.set]) (by rcases e with _ | i <;> rfl) (by simpa [Env.set] using this)
  · exact sk

theorem stepDtor_desc {a : AEnv} {env : Env} (h : Desc a env) (ty : Ty) (d : Nat) :
    Always (stepDtor env ty d)
      (fun r => Desc (if a.slots[d]? == some (some ty) || a.slots[d]? == some none
        then { a with slots := a.slots.set d none } else a) r.2) := by
  unfold stepDtor skip
  split
  · rename_i o hg
    obtain ⟨hdl, hds⟩ := get_spec hg
    have hd : a.slots[d]? = some (some o.ty) := h.2.2.2 d o hds
    split
    · -- another type than the destructor's: skipped, the slot keeps its object
      rename_i hne
      apply Always.pure
      have : (a.slots[d]? == some (some ty) || a.slots[d]? == some none) = false := by
        simp [hd]; exact hne
      simp only [this]
      exact h
    · rename_i heq
      apply Always.bind; intro _
      apply Always.pure
      have hty : o.ty = ty := by simpa using heq
      simp only [hd, hty, beq_self_eq_true, Bool.true_or, ↓reduceIte]
      exact Desc_of h rfl rfl (DescS_set h.slots d none none (by simp))
  · rename_i hg
    apply Always.pure
    split
    · -- the slot was empty already
      refine Desc_of h rfl rfl (DescS_weaken h.slots d none ?_)
      intro o ho
      simp [Env.get, ho] at hg
    · exact h

theorem stepSetErr_desc {a : AEnv} {env : Env} (h : Desc a env) (e : Option Nat) (v : Bool) (hok : a.errOk e [] = true) :
    Always (stepSetErr env e v) (fun r => Desc (a.putErr e) r.2) := by
  unfold stepSetErr skip
  split
  · exact Always.pure (Desc_putErr_same h e [] hok)
  · apply Always.bind; intro ep'
    apply Always.pure
    have := DescS_putEP h.slots e [] hok env.lib ep'
    exact Desc_of h (by simp [putEP_lib]) (by rcases e with _ | i <;> rfl) this

theorem threadRun_inited (l : LibO) (t : Option TlsO) (b : ThrOpt) :
    Always (threadRun l t b) (fun r => r.2.1.inited = l.inited) := by
  unfold threadRun
  apply Always.bind; intro a
  split
  · apply Always.bind; intro ok
    split
    · apply Always.bind; intro _; exact Always.pure rfl
    · repeat (apply Always.bind; intro _)
      exact Always.pure rfl
  · exact Always.pure rfl

theorem stepThread_desc {a : AEnv} {env : Env} (h : Desc a env) (d : Nat) (body : ThrOpt) (key : Option Nat)
    (hd : a.slots[d]? = some none) (hin : a.inited = true) :
    Always (stepThread env d body key) (fun r => Desc { a with slots := a.slots.set d (some .thread) } r.2) := by
  have sk : Always (pure ('-', env) : ResM (Char × Env))
      (fun r => Desc { a with slots := a.slots.set d (some .thread) } r.2) := Always.pure (Desc_weaken_empty h hd _)
  have libok : ∀ (l : LibO) (cs : List (Option Obj)), l.inited = env.lib.inited →
      DescS (a.slots.set d (some .thread)) cs → Desc { a with slots := a.slots.set d (some .thread) } ⟨l, cs⟩ := by
    intro l cs hl hs
    exact ⟨by simp [hl, h.1], by intro hf; simp [hin] at hf, hs.1, hs.2⟩
  unfold stepThread skip
  apply Always.ite sk
  split
  · apply Always.bind' (threadRun_inited env.lib none body)
    rintro ⟨t, l, tl⟩ hl
    apply Always.pure
    exact libok _ _ hl (DescS_set h.slots d _ _ (fun o ho => by cases t <;> simp at ho; subst ho; rfl))
  · rename_i k
    split
    · rename_i tl hg
      obtain ⟨hkl, hks⟩ := get_spec hg
      have hk : a.slots[k]? = some (some Ty.tls) := h.2.2.2 k _ hks
      apply Always.bind' (threadRun_inited env.lib (some tl) body)
      rintro ⟨t, l, tl'⟩ hl
      apply Always.pure
      have h0 : DescS a.slots (env.slots.set k (some (.tls (tl'.getD tl)))) := by
        have := DescS_set h.slots k (some (.tls (tl'.getD tl))) (some Ty.tls) (fun o ho => by cases ho; rfl)
        rwa [set_same hk] at this
      exact libok _ _ hl (DescS_set h0 d _ _ (fun o ho => by cases t <;> simp at ho; subst ho; rfl))
    · exact sk

/-! The next three facts are read off the program text: every path through the binds, tests and matches of the
function ends in a `pure` whose value has the stated shape; the `repeat` walks those paths. -/

theorem libInit_inited (l : LibO) : Always (libInit l) (fun r => r.inited = true) := by
  rcases l with ⟨i, t, sp⟩
  cases i
  · cases t <;> cases sp <;> simp only [libInit, Bool.false_eq_true, ↓reduceIte] <;>
      repeat (first | exact Always.pure rfl | (apply Always.bind; intro _))
  · simp only [libInit, ↓reduceIte]; exact Always.pure rfl

theorem libShutdown_shape (l : LibO) : Always (libShutdown l) (fun r => r = l ∧ l.inited = false ∨ r = {}) := by
  unfold libShutdown
  split
  · rename_i h; exact Always.pure (Or.inl ⟨rfl, by simpa using h⟩)
  · repeat (first | exact Always.pure (Or.inr rfl) | (apply Always.bind; intro _) | split)

theorem curThread_inited (l : LibO) : Always (curThread l) (fun r => r.2.inited = l.inited) := by
  unfold curThread
  repeat (first | exact Always.pure rfl | (apply Always.bind; intro _) | apply Always.ite | split)

theorem absStep_sound (c : Call) {a a' : AEnv} {env : Env} (h : Desc a env) (hs : absStep c a = some a') :
    Always (step c env) (fun r => Desc a' r.2) := by
  have skA : Always (skip env) (fun r => Desc a r.2) := by
    unfold skip; exact (Always.pure h : Always (pure ('-', env) : ResM (Char × Env)) (fun r => Desc a r.2))
  -- init, shutdown and sysfail do not ask whether the library is initialised
  have special : ∀ (k : GlobK) (e : Option Nat), k = .libInit ∨ k = .libShutdown ∨ (∃ nm, k = .sysfail nm) →
      absStep (.glob k e) a = some a' → Always (step (.glob k e) env) (fun r => Desc a' r.2) := by
    rintro k e (rfl | rfl | ⟨nm, rfl⟩) hs <;> simp only [absStep] at hs <;> cases hs <;> simp only [step]
    · apply Always.bind' (libInit_inited env.lib); intro l hl
      exact Always.pure ⟨hl, by simp, h.2.2.1, h.2.2.2⟩
    · apply Always.bind' (libShutdown_shape env.lib); intro l hl
      apply Always.pure
      rcases hl with ⟨rfl, hf⟩ | rfl
      · exact ⟨hf, fun _ => h.2.1 (h.1.symm.trans hf), h.2.2.1, h.2.2.2⟩
      · exact ⟨rfl, fun _ => by simp [LibO.foot, optTls, ob], h.2.2.1, h.2.2.2⟩
    · apply Always.bind; intro _
      exact Always.pure h
  cases hi : a.inited
  · -- not initialised
    have hle : env.lib.inited = false := h.1.trans hi
    cases c with
    | glob k e =>
      cases k with
      | libInit => exact special _ e (.inl rfl) hs
      | libShutdown => exact special _ e (.inr (.inl rfl)) hs
      | sysfail nm => exact special _ e (.inr (.inr ⟨nm, rfl⟩)) hs
      | _ =>
        simp only [absStep, hi, Bool.not_false, ↓reduceIte, Option.some.injEq] at hs; subst hs
        simp only [step, hle, Bool.not_false, ↓reduceIte]
        exact skA
    | _ =>
      simp only [absStep, hi, Bool.not_false, ↓reduceIte, Option.some.injEq] at hs; subst hs
      simp only [step, hle, Bool.not_false, ↓reduceIte]
      exact skA
  · -- initialised
    have hle : env.lib.inited = true := by rw [h.1]; exact hi
    cases c with
    | ctor k d e =>
      simp only [absStep, hi, Bool.not_true, Bool.false_eq_true, ↓reduceIte] at hs
      simp only [step, hle, Bool.not_true, Bool.false_eq_true, ↓reduceIte]
      split at hs
      · rename_i hc; cases hs
        simp only [Bool.and_eq_true, beq_iff_eq] at hc
        have := stepCtor_desc h k d e hc.1 hc.2
        simpa [hi] using this
      · cases hs
    | «mut» k ty d e =>
      simp only [absStep, hi, Bool.not_true, Bool.false_eq_true, ↓reduceIte] at hs
      simp only [step, hle, Bool.not_true, Bool.false_eq_true, ↓reduceIte]
      split at hs
      · rename_i hc; cases hs; exact stepMut_desc h k ty d e hc
      · cases hs
    | derive k src d e =>
      simp only [absStep, hi, Bool.not_true, Bool.false_eq_true, ↓reduceIte] at hs
      simp only [step, hle, Bool.not_true, Bool.false_eq_true, ↓reduceIte]
      split at hs
      · rename_i hc; cases hs
        simp only [Bool.and_eq_true, beq_iff_eq] at hc
        have := stepDerive_desc h k src d e hc.1 hc.2
        simpa [hi] using this
      · cases hs
    | connect d srv e =>
      simp only [absStep, hi, Bool.not_true, Bool.false_eq_true, ↓reduceIte] at hs
      simp only [step, hle, Bool.not_true, Bool.false_eq_true, ↓reduceIte]
      split at hs
      · rename_i hc; cases hs; exact stepConnect_desc h _ _ _ hc
      · cases hs
    | dtor ty d =>
      simp only [absStep, hi, Bool.not_true, Bool.false_eq_true, ↓reduceIte] at hs
      simp only [step, hle, Bool.not_true, Bool.false_eq_true, ↓reduceIte]
      have := stepDtor_desc h ty d
      split at hs <;> cases hs <;> simp_all
    | threadRun d body key =>
      simp only [absStep, hi, Bool.not_true, Bool.false_eq_true, ↓reduceIte] at hs
      simp only [step, hle, Bool.not_true, Bool.false_eq_true, ↓reduceIte]
      split at hs
      · rename_i hc; cases hs
        have := stepThread_desc h d body key (by simpa using hc) hi
        simpa [hi] using this
      · cases hs
    | lockCycle d =>
      simp only [absStep, hi, Bool.not_true, Bool.false_eq_true, ↓reduceIte, Option.some.injEq] at hs; subst hs
      simp only [step, hle, Bool.not_true, Bool.false_eq_true, ↓reduceIte]
      unfold stepLockCycle
      split
      · exact (Always.pure h : Always (pure (_, env) : ResM (Char × Env)) (fun r => Desc a r.2))
      · exact skA
    | glob k e =>
      cases k with
      | libInit => exact special _ e (.inl rfl) hs
      | libShutdown => exact special _ e (.inr (.inl rfl)) hs
      | sysfail nm => exact special _ e (.inr (.inr ⟨nm, rfl⟩)) hs
      | curThread =>
        simp only [absStep, hi, Bool.not_true, Bool.false_eq_true, ↓reduceIte, Option.some.injEq] at hs; subst hs
        simp only [step, hle, Bool.not_true, Bool.false_eq_true, ↓reduceIte]
        apply Always.bind' (curThread_inited env.lib); rintro ⟨cls, l⟩ hl
        exact Always.pure ⟨by rw [← h.1]; exact hl, by intro hf; simp [hi] at hf, h.2.2.1, h.2.2.2⟩
      | strtod =>
        simp only [absStep, hi, Bool.not_true, Bool.false_eq_true, ↓reduceIte, Option.some.injEq] at hs; subst hs
        simp only [step, hle, Bool.not_true, Bool.false_eq_true, ↓reduceIte]
        apply Always.bind; intro _
        exact Always.pure h
      | fileRemoveMissing | sockBad | errSetP =>
        simp only [absStep, hi, Bool.not_true, Bool.false_eq_true, ↓reduceIte] at hs
        simp only [step, hle, Bool.not_true, Bool.false_eq_true, ↓reduceIte]
        split at hs
        · rename_i hc; cases hs; exact stepSetErr_desc h _ _ hc
        · cases hs

theorem absRun_sound (cs : List Call) {a a' : AEnv} {env : Env} (h : Desc a env) (hs : absRun cs a = some a') :
    Always (runCalls cs env) (fun r => Desc a' r.2) := by
  induction cs generalizing a env with
  | nil =>
    simp only [absRun, Option.some.injEq] at hs; subst hs
    exact (Always.pure h : Always (pure ([], env) : ResM (List Char × Env)) (fun r => Desc a r.2))
  | cons c cs ih =>
    simp only [absRun] at hs
    cases h1 : absStep c a with
    | none => simp [h1] at hs
    | some a1 =>
      simp only [h1, Option.bind_some] at hs
      unfold runCalls
      apply Always.bind' (absStep_sound c h h1)
      rintro ⟨r, env1⟩ hd
      apply Always.bind' (ih hd hs)
      rintro ⟨rs, env2⟩ hd2
      exact Always.pure hd2

/-- **soundness of the static check**: a sequence accepted by `balancedB`, run from the empty state under any
    failure predicate, does not fault and ends holding nothing, with no IPC name left, every descriptor it opened
    closed exactly once -/
theorem balanced_sound (cs : List Call) (hb : balancedB cs = true) (f : Nat → Bool) :
    ∃ rs env' s', (runCalls cs {}).run f {} = .ok (rs, env') s' ∧ s'.held = [] ∧ s'.names = [] ∧
      s'.closed ~ List.range' 1 s'.nextFd := by
  unfold balancedB at hb
  split at hb
  · rename_i a ha
    simp only [Bool.and_eq_true, Bool.not_eq_eq_eq_not, Bool.not_true] at hb
    obtain ⟨r, s', hr, hinv, hdesc⟩ := (wp_and_always (runCalls_inv cs Inv_init f) (absRun_sound cs Desc_init ha)).run
    obtain ⟨hh, hn⟩ := neutral_of_inv hinv (Desc_neutral hdesc hb.1 hb.2)
    refine ⟨r.1, r.2, s', hr, hh, hn, ?_⟩
    have hfd := run_fdwf (runCalls cs {}) f {} FdWF_init r s' hr
    unfold FdWF at hfd
    rw [fds_eq, hh] at hfd
    simpa using hfd
  · cases hb

end PV.Res
