import PV.Lemmas.Res.Funcs
/-! # C18 — specifications of the modelled functions: directories and sockets

Every failure exit reports through `setErr` and then releases what the call holds so far: the frame handed to
`setErr_spec` is that, next to the caller's frame. -/
namespace PV.Res
open List

theorem dirNew_spec (m : Bool) (e : EP) :
    SpecV e.foot [] (dirNew m e) (fun r => optL DirO.foot r.1 ++ r.2.foot) (fun _ => []) (fun r => EPle e r.2) := by
  intro f s fr h
  simp only [dirNew]
  cases m
  · wps
    split
    · exact wp_specV (setErr_spec e) (h.push _) fun e' s' h1 hn hle => h1.pop fun h2 => ⟨h2, hn, hle⟩
    · split <;> split
      · exact wp_specV (setErr_spec e) ((h.push _).push _) fun e' s' h1 hn hle =>
          ⟨by count_omega [h1], by count_omega [h1], by count_omega [h1], hn, hle⟩
      -- the descriptor goes first, the structure last: the frame in the order of release
      · refine wp_specV (setErr_spec e) (fr := .fd (s.nextFd + 1) :: .blk (s.next + 1 + 1 + 1) :: .blk (s.next + 1) :: fr)
          (by count_omega [h]) fun e' s' h1 hn hle => h1.pop fun h2 => h2.pop fun h3 => h3.pop fun h4 => ⟨h4, hn, hle⟩
      · refine wp_specV (setErr_spec e) (fr := .fd (s.nextFd + 1) :: .blk (s.next + 1 + 1) :: .blk (s.next + 1) :: fr)
          (by count_omega [h]) fun e' s' h1 hn hle => h1.pop fun h2 => h2.pop fun h3 => h3.pop fun h4 => ⟨h4, hn, hle⟩
      · exact ⟨by simp only [DirO.foot]; count_omega [h], .rfl, .refl e⟩
  · wps
    exact wp_specV (setErr_spec e) h fun e' s' h1 hn hle => ⟨h1, hn, hle⟩

theorem dirNext_spec (d : DirO) (e : EP) :
    SpecV (d.foot ++ e.foot) [] (dirNext d e) (fun r => r.2.1.foot ++ optL DirentO.foot r.2.2.1 ++ r.2.2.2.foot)
      (fun _ => []) (fun r => EPle e r.2.2.2) := by
  intro f s fr h
  have h' : s.held ~ e.foot ++ (d.foot ++ fr) := by count_omega [h]
  simp only [DirO.foot] at h
  simp only [dirNext]
  wps
  refine ⟨by count_omega [h], ?_⟩
  split
  · wps
    exact ⟨by simp only [DirO.foot]; count_omega [h], .rfl, .refl e⟩
  wps
  split
  · exact wp_specV (setErr_spec e) h' fun e' s' h1 hn hle => ⟨by simp only [DirO.foot] at h1 ⊢; count_omega [h1], hn, hle⟩
  split
  · exact wp_specV (setErr_spec e) (h'.push _) fun e' s' h1 hn hle =>
      h1.pop fun h2 => ⟨by simp only [DirO.foot] at h2 ⊢; count_omega [h2], hn, hle⟩
  wps
  refine ⟨by count_omega [h], ?_⟩
  split
  · exact ⟨by simp only [DirO.foot, DirentO.foot]; count_omega [h], .rfl, .refl e⟩
  · wps
    exact ⟨by count_omega [h], by simp only [DirO.foot, DirentO.foot]; count_omega [h], .rfl, .refl e⟩

theorem dirPath_spec (d : DirO) : Spec d.foot (dirPath d) (fun r => ob r ++ d.foot) := by
  intro f s fr h
  simp [dirPath, DirO.foot, ob] at h ⊢
  grind

theorem dirFree_spec (d : DirO) : Spec d.foot (dirFree d) (fun _ => []) := by
  intro f s fr h
  simp only [DirO.foot] at h
  simp only [dirFree]
  wps
  refine ⟨?_, ?_, ?_, ?_, ?_, trivial⟩ <;> count_omega [h]

theorem direntFree_spec (d : DirentO) : Spec d.foot (direntFree d) (fun _ => []) :=
  (freeAll_spec [d.name, d.self]).perm_pre (by simp only [DirentO.foot, List.map]; count_omega [])

theorem saNewBad_spec : Spec [] saNewBad ob := by
  intro f s fr h
  simp [saNewBad, ob]
  grind

theorem sockNew_spec (kind : Nat) (e : EP) :
    SpecV e.foot [] (sockNew kind e) (fun r => optL SockO.foot r.1 ++ r.2.foot) (fun _ => []) (fun r => EPle e r.2) := by
  intro f s fr h
  simp only [sockNew]
  wps
  split
  · exact wp_specV (setErr_spec e) h fun e' s' h1 hn hle => ⟨h1, hn, hle⟩
  split
  · wps
    exact wp_specV (setErr_spec e) (h.push _) fun e' s' h1 hn hle => h1.pop fun h2 => ⟨h2, hn, hle⟩
  wps
  split
  · wps
    exact wp_specV (setErr_spec e) ((h.push _).push _) fun e' s' h1 hn hle =>
      h1.pop fun h2 => h2.pop fun h3 => ⟨h3, hn, hle⟩
  · wps
    exact ⟨by simp only [SockO.foot]; count_omega [h], .rfl, .refl e⟩

theorem sockFromFd_spec (e : EP) :
    SpecV e.foot [] (sockFromFd e) (fun r => optL SockO.foot r.1 ++ r.2.foot) (fun _ => []) (fun r => EPle e r.2) := by
  intro f s fr h
  simp only [sockFromFd]
  wps
  split
  · exact wp_specV (setErr_spec e) (h.push _) fun e' s' h1 hn hle => h1.pop fun h2 => ⟨h2, hn, hle⟩
  split
  · wps
    exact wp_specV (setErr_spec e) ((h.push _).push _) fun e' s' h1 hn hle =>
      h1.pop fun h2 => h2.pop fun h3 => ⟨h3, hn, hle⟩
  wps
  split
  · wps
    exact wp_specV (setErr_spec e) ((h.push _).push _) fun e' s' h1 hn hle =>
      h1.pop fun h2 => h2.pop fun h3 => ⟨h3, hn, hle⟩
  · wps
    exact ⟨by simp only [SockO.foot]; count_omega [h], .rfl, .refl e⟩

theorem sock_self_mem {x : SockO} {s : St} {fr : List R} (h : s.held ~ x.foot ++ fr) : R.blk x.self ∈ s.held := by
  simp only [SockO.foot] at h; count_omega [h]

theorem sockListen_spec (x : SockO) (e : EP) :
    SpecV (x.foot ++ e.foot) [] (sockListen x e) (fun r => r.2.1.foot ++ r.2.2.foot) (fun _ => []) (fun r => EPle e r.2.2) := by
  intro f s fr h
  simp only [List.append_assoc] at h
  simp only [sockListen]
  wps
  refine ⟨sock_self_mem h, ?_⟩
  simp [SockO.foot, EPle.refl] at h ⊢
  grind

theorem sockConnect_spec (x srv : SockO) (e : EP) :
    SpecV (x.foot ++ srv.foot ++ e.foot) [] (sockConnect x srv e) (fun r => r.2.1.foot ++ r.2.2.1.foot ++ r.2.2.2.foot)
      (fun _ => []) (fun r => EPle e r.2.2.2) := by
  intro f s fr h
  simp only [List.append_assoc] at h
  simp only [sockConnect]
  wps
  refine ⟨sock_self_mem h, ?_⟩
  simp [SockO.foot, EPle.refl] at h ⊢
  grind

theorem sockConnectRefused_spec (x : SockO) (e : EP) :
    SpecV (x.foot ++ e.foot) [] (sockConnectRefused x e) (fun r => r.2.1.foot ++ r.2.2.foot) (fun _ => [])
      (fun r => EPle e r.2.2) := by
  intro f s fr h
  simp only [List.append_assoc] at h
  have h' : s.held ~ e.foot ++ (x.foot ++ fr) := by count_omega [h]
  simp only [sockConnectRefused]
  wps
  refine ⟨sock_self_mem h, ?_⟩
  split
  · exact ⟨h, .rfl, .refl e⟩
  · exact wp_specV (setErr_spec e) (h'.push _) fun e' s' h1 hn hle =>
      h1.pop fun h2 => ⟨by simp only [SockO.foot] at h2 ⊢; count_omega [h2], hn, hle⟩

theorem sockIoClosed_spec (x : SockO) (e : EP) :
    SpecV (x.foot ++ e.foot) [] (sockIoClosed x e) (fun r => r.2.1.foot ++ r.2.2.foot) (fun _ => []) (fun r => EPle e r.2.2) := by
  intro f s fr h
  simp only [List.append_assoc] at h
  simp only [sockIoClosed]
  wps
  refine ⟨sock_self_mem h, ?_⟩
  exact wp_specV (setErr_spec e) (fr := x.foot ++ fr) (by count_omega [h]) fun e' s' h1 hn hle =>
    ⟨by count_omega [h1], hn, hle⟩

theorem sockAccept_spec (x : SockO) (e : EP) :
    SpecV (x.foot ++ e.foot) [] (sockAccept x e) (fun r => r.2.1.foot ++ optL SockO.foot r.2.2.1 ++ r.2.2.2.foot)
      (fun _ => []) (fun r => EPle e r.2.2.2) := by
  intro f s fr h
  simp only [List.append_assoc] at h
  have h' : s.held ~ e.foot ++ (x.foot ++ fr) := by count_omega [h]
  simp only [sockAccept]
  wps
  refine ⟨sock_self_mem h, ?_⟩
  split
  · wps
    exact wp_specV (setErr_spec e) h' fun e' s' h1 hn hle => ⟨by count_omega [h1], hn, hle⟩
  wps
  split
  · exact wp_specV (setErr_spec e) (h'.push _) fun e' s' h1 hn hle =>
      h1.pop fun h2 => ⟨by simp only [SockO.foot] at h2 ⊢; count_omega [h2], hn, hle⟩
  split
  · wps
    exact wp_specV (setErr_spec e) ((h'.push _).push _) fun e' s' h1 hn hle =>
      h1.pop fun h2 => h2.pop fun h3 => ⟨by simp only [SockO.foot] at h3 ⊢; count_omega [h3], hn, hle⟩
  wps
  split
  · wps
    exact wp_specV (setErr_spec e) ((h'.push _).push _) fun e' s' h1 hn hle =>
      h1.pop fun h2 => h2.pop fun h3 => ⟨by simp only [SockO.foot] at h3 ⊢; count_omega [h3], hn, hle⟩
  · wps
    simp only [SockO.foot] at h ⊢
    exact ⟨by count_omega [h], .rfl, .refl e⟩

theorem sockAddr_spec (x : SockO) (remote : Bool) (e : EP) :
    SpecV (x.foot ++ e.foot) [] (sockAddr x remote e) (fun r => ob r.1 ++ x.foot ++ r.2.foot) (fun _ => [])
      (fun r => EPle e r.2) := by
  intro f s fr h
  simp only [List.append_assoc] at h
  simp only [sockAddr]
  wps
  refine ⟨sock_self_mem h, ?_⟩
  split
  · wps
    exact wp_specV (setErr_spec e) (fr := x.foot ++ fr) (by count_omega [h]) fun e' s' h1 hn hle =>
      ⟨by count_omega [h1], hn, hle⟩
  wps
  split
  · exact wp_specV (setErr_spec e) (fr := x.foot ++ fr) (by count_omega [h]) fun e' s' h1 hn hle =>
      ⟨by count_omega [h1], hn, hle⟩
  · exact ⟨by count_omega [h], .rfl, .refl e⟩

theorem sockUdpEcho_spec (x : SockO) (e : EP) :
    SpecV (x.foot ++ e.foot) [] (sockUdpEcho x e) (fun r => ob r.2.1 ++ x.foot ++ r.2.2.foot) (fun _ => [])
      (fun r => EPle e r.2.2) := by
  intro f s fr h
  simp only [List.append_assoc] at h
  simp only [sockUdpEcho]
  wps
  refine ⟨sock_self_mem h, ?_⟩
  simp [EPle.refl] at h ⊢
  grind

theorem sockClose_spec (x : SockO) : Spec x.foot (sockClose x) SockO.foot := by
  intro f s fr h
  simp only [sockClose]
  wps
  refine ⟨sock_self_mem h, ?_⟩
  rcases x with ⟨a, _ | fd, k, st, p⟩ <;> simp [SockO.foot] at h ⊢ <;> grind

theorem sockFree_spec (x : SockO) : Spec x.foot (sockFree x) (fun _ => []) := by
  intro f s fr h
  rcases x with ⟨a, _ | fd, k, st, p⟩ <;> simp [sockFree, SockO.foot] at h ⊢ <;> grind

end PV.Res
