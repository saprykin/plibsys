import PV.Lemmas.Res.Wp
/-! # C20 — facts that hold for *every* `ResM` program (by induction on the program)

Descriptor discipline: the descriptors open now together with the descriptors closed so far are exactly the
descriptors issued so far, each once.  Hence no descriptor is closed twice, and when none is open any more
every descriptor the program opened has been closed exactly once. -/
namespace PV.Res
open List

def fdOf : R → Option Nat
  | .fd n => some n
  | _ => none

@[simp] theorem fdOf_blk (b : Nat) : fdOf (.blk b) = none := rfl
@[simp] theorem fdOf_map (i l : Nat) : fdOf (.map i l) = none := rfl
@[simp] theorem fdOf_key (k : Nat) : fdOf (.key k) = none := rfl
@[simp] theorem fdOf_fd (n : Nat) : fdOf (.fd n) = some n := rfl

@[simp] theorem fm_cons_blk (b : Nat) (l : List R) : (R.blk b :: l).filterMap fdOf = l.filterMap fdOf :=
  List.filterMap_cons_none rfl
@[simp] theorem fm_cons_map (i n : Nat) (l : List R) : (R.map i n :: l).filterMap fdOf = l.filterMap fdOf :=
  List.filterMap_cons_none rfl
@[simp] theorem fm_cons_key (k : Nat) (l : List R) : (R.key k :: l).filterMap fdOf = l.filterMap fdOf :=
  List.filterMap_cons_none rfl
@[simp] theorem fm_cons_fd (n : Nat) (l : List R) : (R.fd n :: l).filterMap fdOf = n :: l.filterMap fdOf :=
  List.filterMap_cons_some rfl

theorem fds_eq (s : St) : s.fds = s.held.filterMap fdOf := by
  unfold St.fds fdOf; rfl

/-- descriptors open ++ descriptors closed = descriptors issued -/
def FdWF (s : St) : Prop := s.fds ++ s.closed ~ List.range' 1 s.nextFd

theorem filterMap_erase_none {l : List R} {x : R} (hx : fdOf x = none) : (l.erase x).filterMap fdOf = l.filterMap fdOf := by
  induction l with
  | nil => rfl
  | cons a l ih =>
    by_cases h : a = x
    · subst h; simp [hx]
    · rw [List.erase_cons_tail (by simpa using h)]
      simp [List.filterMap_cons, ih]

@[simp] theorem fm_erase_blk (b : Nat) (l : List R) : (l.erase (.blk b)).filterMap fdOf = l.filterMap fdOf :=
  filterMap_erase_none rfl
@[simp] theorem fm_erase_map (i n : Nat) (l : List R) : (l.erase (.map i n)).filterMap fdOf = l.filterMap fdOf :=
  filterMap_erase_none rfl
@[simp] theorem fm_erase_key (k : Nat) (l : List R) : (l.erase (.key k)).filterMap fdOf = l.filterMap fdOf :=
  filterMap_erase_none rfl

theorem FdWF_of_same (s : St) {s' : St} (hf : s'.held.filterMap fdOf = s.held.filterMap fdOf) (hc : s'.closed = s.closed)
    (hn : s'.nextFd = s.nextFd) (h : FdWF s) : FdWF s' := by
  unfold FdWF at *
  rw [fds_eq] at *
  rw [hf, hc, hn]; exact h

theorem FdWF_open {s : St} (h : FdWF s) :
    FdWF { s with nextFd := s.nextFd + 1, held := .fd (s.nextFd + 1) :: s.held } := by
  unfold FdWF at *
  rw [fds_eq] at *
  simp only [List.filterMap_cons, fdOf_fd]
  rw [List.range'_concat]
  simp only [List.cons_append]
  have e1 : 1 + 1 * s.nextFd = s.nextFd + 1 := by omega
  rw [e1]
  exact (List.Perm.cons _ h).trans (List.perm_append_singleton _ _).symm

theorem FdWF_close {s : St} {n : Nat} (hm : R.fd n ∈ s.held) (h : FdWF s) :
    FdWF { s with held := s.held.erase (.fd n), closed := n :: s.closed } := by
  unfold FdWF at *
  rw [fds_eq] at *
  have : s.held.filterMap fdOf ~ n :: (s.held.erase (.fd n)).filterMap fdOf := by
    simpa using (List.perm_cons_erase hm).filterMap fdOf
  exact (List.perm_middle.trans ((this.symm.append_right _))).trans h

/-- **every program keeps the descriptor discipline**: only `openFd` and `closeFd` touch the open descriptors, `closed`
    or `nextFd` (`FdWF_open`, `FdWF_close`); after any other primitive `FdWF_of_same` carries the invariant over -/
theorem run_fdwf (m : ResM α) (f : Nat → Bool) (s : St) (h : FdWF s) (a : α) (s' : St)
    (hr : m.run f s = .ok a s') : FdWF s' := by
  induction m generalizing s with
  | ret x => simp only [ResM.run, Res.ok.injEq] at hr; exact hr.2 ▸ h
  | malloc k ih =>
    simp only [ResM.run] at hr
    split at hr
    · (refine ih _ _ ?_ hr; refine FdWF_of_same s ?_ rfl rfl h; simp)
    · (refine ih _ _ ?_ hr; refine FdWF_of_same s ?_ rfl rfl h; simp)
  | free b k ih =>
    simp only [ResM.run] at hr
    split at hr
    · (refine ih _ ?_ hr; refine FdWF_of_same s ?_ rfl rfl h; simp)
    · cases hr
  | deref p k ih =>
    simp only [ResM.run] at hr
    cases p with
    | none => cases hr
    | some b =>
      simp only [] at hr
      split at hr
      · exact ih _ h hr
      · cases hr
  | openFd k ih => simp only [ResM.run] at hr; (refine ih _ _ ?_ hr; exact FdWF_open h)
  | closeFd n k ih =>
    simp only [ResM.run] at hr
    split at hr
    · rename_i hm; refine ih _ ?_ hr; exact FdWF_close hm h
    · cases hr
  | mmap len k ih => simp only [ResM.run] at hr; (refine ih _ _ ?_ hr; refine FdWF_of_same s ?_ rfl rfl h; simp)
  | munmap i mp len k ih =>
    simp only [ResM.run] at hr
    split at hr
    · split at hr
      · (refine ih _ ?_ hr; refine FdWF_of_same s ?_ rfl rfl h; simp)
      · (refine ih _ ?_ hr; refine FdWF_of_same s ?_ rfl rfl h; simp)
    · cases hr
  | nameTest n k ih => simp only [ResM.run] at hr; exact ih _ _ h hr
  | nameCreate n sz k ih =>
    simp only [ResM.run] at hr
    split at hr
    · cases hr
    · (refine ih _ ?_ hr; refine FdWF_of_same s ?_ rfl rfl h; simp)
  | nameUnlink n k ih => simp only [ResM.run] at hr; (refine ih _ ?_ hr; refine FdWF_of_same s ?_ rfl rfl h; simp)
  | keyCreate k ih => simp only [ResM.run] at hr; (refine ih _ _ ?_ hr; refine FdWF_of_same s ?_ rfl rfl h; simp)
  | keyDelete i k ih =>
    simp only [ResM.run] at hr
    split at hr
    · (refine ih _ ?_ hr; refine FdWF_of_same s ?_ rfl rfl h; simp)
    · cases hr
  | sys nm k ih =>
    simp only [ResM.run] at hr
    split at hr
    · (refine ih _ _ ?_ hr; refine FdWF_of_same s ?_ rfl rfl h; simp)
    · exact ih _ _ h hr
  | arm nm k ih => simp only [ResM.run] at hr; (refine ih _ ?_ hr; refine FdWF_of_same s ?_ rfl rfl h; simp)
  | dlGet k ih => simp only [ResM.run] at hr; exact ih _ _ h hr
  | dlSet b k ih => simp only [ResM.run] at hr; (refine ih _ ?_ hr; refine FdWF_of_same s ?_ rfl rfl h; simp)
  | emit e k ih => simp only [ResM.run] at hr; (refine ih _ ?_ hr; refine FdWF_of_same s ?_ rfl rfl h; simp)

theorem FdWF_init : FdWF {} := by simp [FdWF, St.fds]

end PV.Res
