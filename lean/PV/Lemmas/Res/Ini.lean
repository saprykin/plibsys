import PV.Lemmas.Res.Funcs
/-! # C18 — specifications of the modelled functions: INI files -/
namespace PV.Res
open List

def secsFoot (secs : List IniSec) : List R := secs.flatMap IniSec.foot

theorem secsFoot_perm (secs : List IniSec) :
    secsFoot secs ~ (secs.flatMap IniSec.blocks ++ secs.filterMap (·.node)).map .blk := by
  induction secs with
  | nil => simp [secsFoot]
  | cons a l ih =>
    simp only [secsFoot, flatMap_cons, filterMap_cons] at ih ⊢
    rcases hn : a.node with _ | nd <;> simp [IniSec.foot, hn] at ih ⊢ <;> grind

theorem iniFoot_perm (o : IniO) : o.foot ~ secsFoot o.secs ++ [.blk o.path, .blk o.self] := by
  have := secsFoot_perm o.secs
  simp [IniO.foot, IniO.blocks] at this ⊢
  grind

theorem iniNew_spec (file : Nat) : Spec [] (iniNew file) (optL IniO.foot) := by
  intro f s fr h
  simp [iniNew, IniO.foot, IniO.blocks]
  grind

theorem paramNew_spec : Spec [] paramNew (optL fun r => [.blk r.1, .blk r.2.1, .blk r.2.2]) := by
  intro f s fr h
  simp [paramNew]
  grind

theorem sectionNew_spec (i : Nat) : Spec [] (sectionNew i) (optL IniSec.foot) := by
  intro f s fr h
  simp [sectionNew, IniSec.foot, IniSec.blocks]
  grind

theorem sectionFree_spec (sec : IniSec) (h : sec.node = none) : Spec sec.foot (sectionFree sec) (fun _ => []) := by
  have := freeAll_spec sec.blocks
  simpa [IniSec.foot, h, sectionFree] using this

theorem flushSec_spec (cur : Option IniSec) (secs : List IniSec) (hc : ∀ c, cur = some c → c.node = none) :
    Spec (optL IniSec.foot cur ++ secsFoot secs) (flushSec cur secs) secsFoot := by
  intro f s fr h
  rcases cur with _ | sec
  · simpa [flushSec] using h
  · have hn := hc sec rfl
    simp only [flushSec]
    split
    · simp only [wp_bind]
      apply wp_spec (sectionFree_spec sec hn) (fr := secsFoot secs ++ fr) (by simpa using h)
      intro _ s' h1 h2
      simpa using ⟨h1, h2⟩
    · simp only [wp_bind, wp_malloc]
      split
      · apply wp_spec (sectionFree_spec sec hn) (fr := secsFoot secs ++ fr) (by simpa using h)
        intro _ s' h1 h2
        simpa using ⟨h1, h2⟩
      · simp [secsFoot, IniSec.foot, IniSec.blocks, hn] at h ⊢
        grind

theorem addParam_spec (cur : Option IniSec) (j : Nat) :
    Spec (optL IniSec.foot cur) (addParam cur j) (optL IniSec.foot) := by
  intro f s fr h
  rcases cur with _ | sec
  · simpa [addParam] using h
  · simp [addParam, paramNew, IniSec.foot, IniSec.blocks] at h ⊢
    grind

theorem addParam_node (cur : Option IniSec) (j : Nat) (hc : ∀ c, cur = some c → c.node = none) :
    wp (addParam cur j) f s (fun r _ => ∀ c, r = some c → c.node = none) := by
  rcases cur with _ | sec
  · simp [addParam]
  · have := hc sec rfl
    simp [addParam, paramNew]
    grind

theorem sectionNew_node (i : Nat) : wp (sectionNew i) f s (fun r _ => ∀ c, r = some c → c.node = none) := by
  simp [sectionNew]

/-- the parsing loop: whatever lines are lost to failed allocations, everything allocated is either released
    or reachable from the section being read / the list of finished sections -/
theorem parseLines_wp (ls : List Line) (cur : Option IniSec) (secs : List IniSec)
    (hc : ∀ c, cur = some c → c.node = none) (f : Nat → Bool) (s : St) (fr : List R)
    (h : s.held ~ optL IniSec.foot cur ++ (secsFoot secs ++ fr)) :
    wp (parseLines ls cur secs) f s (fun r s' =>
      s'.held ~ optL IniSec.foot r.1 ++ (secsFoot r.2 ++ fr) ∧ s'.names = s.names ∧ ∀ c, r.1 = some c → c.node = none) := by
  induction ls generalizing cur secs s with
  | nil => simpa [parseLines] using ⟨h, hc⟩
  | cons ln rest ih =>
    -- a line that is skipped or only chomped: back to the loop with the same objects
    have again : ∀ s1 : St, s1.held ~ optL IniSec.foot cur ++ (secsFoot secs ++ fr) → s1.names = s.names →
        wp (parseLines rest cur secs) f s1 (fun r s' =>
          s'.held ~ optL IniSec.foot r.1 ++ (secsFoot r.2 ++ fr) ∧ s'.names = s.names ∧ ∀ c, r.1 = some c → c.node = none) := by
      intro s1 h1 hn1
      exact wp_mono (ih cur secs hc s1 h1) (fun r s' ⟨a, b, c⟩ => ⟨a, b.trans hn1, c⟩)
    cases ln with
    | other =>
      simp only [parseLines]
      wps
      split
      · exact again _ h rfl
      · wps
        exact ⟨by simp, again _ (by simpa using h) rfl⟩
    | hdr i =>
      simp only [parseLines]
      wps
      split
      · exact again _ h rfl
      · split
        · wps
          exact ⟨by simp, again _ (by simpa using h) rfl⟩
        · wps
          refine ⟨by simp, ?_⟩
          apply wp_spec (flushSec_spec cur secs hc) (fr := .blk (s.next + 1) :: fr)
          · simp at h ⊢; grind
          intro secs' s1 h1 hn1
          apply wp_mono (wp_and (sectionNew_spec i f s1 (secsFoot secs' ++ .blk (s.next + 1) :: fr) (by simpa using h1)) (sectionNew_node i))
          intro cur' s2 ⟨⟨h2, hn2⟩, hnode⟩
          wps
          refine ⟨by grind, ?_⟩
          refine wp_mono (ih cur' secs' hnode _ ?_) ?_
          · simp at h2 ⊢; grind
          · intro r s' ⟨hr1, hr2, hr3⟩
            exact ⟨hr1, by simp_all, hr3⟩
    | kv j =>
      simp only [parseLines]
      wps
      split
      · exact again _ h rfl
      · split
        · wps
          exact ⟨by simp, again _ (by simpa using h) rfl⟩
        · wps
          refine ⟨by simp, ?_⟩
          split
          · wps
            exact ⟨by simp, again _ (by simpa using h) rfl⟩
          · wps
            refine ⟨by simp, ?_⟩
            apply wp_mono (wp_and (addParam_spec cur j f _ (secsFoot secs ++ .blk (s.next + 1) :: fr) ?_) (addParam_node cur j hc))
            · intro cur' s2 ⟨⟨h2, hn2⟩, hnode⟩
              wps
              refine ⟨by grind, ?_⟩
              refine wp_mono (ih cur' secs hnode _ ?_) ?_
              · simp at h2 ⊢; grind
              · intro r s' ⟨hr1, hr2, hr3⟩
                exact ⟨hr1, by simp_all, hr3⟩
            · simp at h ⊢; grind

theorem iniParse_spec (o : IniO) (e : EP) :
    SpecV (o.foot ++ e.foot) [] (iniParse o e) (fun r => r.2.1.foot ++ r.2.2.foot) (fun _ => [])
      (fun r => EPle e r.2.2) := by
  intro f s fr h
  simp only [List.append_assoc] at h
  have hself : R.blk o.self ∈ s.held := by
    simp [IniO.foot, IniO.blocks] at h; grind
  simp only [iniParse]
  wps
  refine ⟨hself, ?_⟩
  clear hself
  split
  · exact ⟨h, .rfl, .refl e⟩
  · split
    · wps
      exact wp_specV (setErr_spec e) (fr := o.foot ++ fr) (by count_omega [h]) fun e' s' h1 hn hle =>
        ⟨by count_omega [h1], hn, hle⟩
    · rename_i ls _
      wps
      have h' := h.trans ((iniFoot_perm o).append_right _)
      apply wp_mono (parseLines_wp ls none o.secs (by simp) f _ (.fd (s.nextFd + 1) :: .blk o.path :: .blk o.self :: (e.foot ++ fr)) ?_)
      · intro r s1 ⟨h1, hn1, hnode⟩
        apply wp_spec (flushSec_spec r.1 r.2 hnode) (fr := .fd (s.nextFd + 1) :: .blk o.path :: .blk o.self :: (e.foot ++ fr))
        · simpa using h1
        · intro secs' s2 h2 hn2
          wps
          refine ⟨by grind, ?_⟩
          have hp' := iniFoot_perm { o with parsed := true, secs := secs' }
          simp at hp' h2 ⊢
          refine ⟨?_, NamesOk.of_eq [] (by simp_all), .refl e⟩
          grind
      · simp at h' ⊢
        grind

theorem ini_self_mem {o : IniO} {s : St} {fr : List R} (h : s.held ~ o.foot ++ fr) : R.blk o.self ∈ s.held := by
  simp [IniO.foot, IniO.blocks] at h; grind

theorem iniStrlist_spec (o : IniO) (n : Nat) (app : Bool) :
    Spec o.foot (do deref (some o.self); let items ← addCopies n app []; return (strlistCls items n, (⟨items⟩ : SListO)))
      (fun r => r.2.foot ++ o.foot) := by
  intro f s fr h
  wps
  refine ⟨ini_self_mem h, ?_⟩
  apply wp_spec (addCopies_spec n app []) (fr := o.foot ++ fr) (by simpa [SListO.foot, SListO.blocks] using h)
  intro items s' h1 h2
  simpa using ⟨h1, h2⟩

theorem iniSections_spec (o : IniO) : Spec o.foot (iniSections o) (fun r => r.2.foot ++ o.foot) :=
  iniStrlist_spec o _ false

theorem iniKeys_spec (o : IniO) (sec : Nat) : Spec o.foot (iniKeys o sec) (fun r => r.2.foot ++ o.foot) :=
  iniStrlist_spec o _ false

theorem iniString_spec (o : IniO) (sec key : Nat) :
    Spec o.foot (iniString o sec key) (fun r => ob r.2 ++ o.foot) := by
  intro f s fr h
  have hm := ini_self_mem h
  simp only [iniString]
  wps
  refine ⟨hm, ?_⟩
  clear hm
  split <;> simp [ob] <;> grind

theorem iniScalar_spec (o : IniO) (sec key : Nat) : Spec o.foot (iniScalar o sec key) (fun _ => o.foot) := by
  intro f s fr h
  have hm := ini_self_mem h
  simp only [iniScalar]
  wps
  refine ⟨hm, ?_⟩
  clear hm
  split <;> simp <;> grind

theorem iniDouble_spec (o : IniO) (sec key : Nat) : Spec o.foot (iniDouble o sec key) (fun _ => o.foot) := by
  intro f s fr h
  have hm := ini_self_mem h
  simp only [iniDouble]
  wps
  refine ⟨hm, ?_⟩
  clear hm
  split <;> simp <;> grind

theorem iniList_spec (o : IniO) (sec key : Nat) : Spec o.foot (iniList o sec key) (fun r => r.2.foot ++ o.foot) := by
  intro f s fr h
  have hm := ini_self_mem h
  simp only [iniList]
  wps
  refine ⟨hm, ?_⟩
  clear hm
  split
  · wps
    split
    · simpa [SListO.foot, SListO.blocks] using h
    · wps
      apply wp_spec (addCopies_spec _ true []) (fr := .blk (s.next + 1) :: (o.foot ++ fr))
      · simp [SListO.foot, SListO.blocks] at h ⊢; grind
      · intro items s' h1 h2
        wps
        exact ⟨by count_omega [h1], by count_omega [h1], h2⟩
  · simpa [SListO.foot, SListO.blocks] using h

theorem iniFree_spec (o : IniO) : Spec o.foot (iniFree o) (fun _ => []) := freeAll_spec _

end PV.Res
