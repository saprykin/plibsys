import PV.Lemmas.Res.Tables
/-! # C20 — the footprint invariant over call sequences

`Inv env s`: the resources held by the process are exactly the footprints of the live objects (the library's
own state and the objects in the slots), and every IPC name that exists has a live owner among them.
Every call of the call language preserves it — whatever the failure predicate, whether the call succeeds,
fails or is skipped. -/
namespace PV.Res
open List

def footL (l : List (Option Obj)) : List R := l.flatMap optFoot
def ownL (l : List (Option Obj)) : List Name := l.flatMap optOwned

/-- exchanging the content of a slot: new footprints + old content = new content + old footprints -/
theorem footL_set (l : List (Option Obj)) (i : Nat) (x : Option Obj) (hi : i < l.length) :
    footL (l.set i x) ++ optFoot (l[i]?.join) ~ optFoot x ++ footL l := by
  induction l generalizing i with
  | nil => simp at hi
  | cons a l ih =>
    cases i with
    | zero => simp [footL]; grind
    | succ i =>
      have := ih i (by simpa using hi)
      simp [footL] at this ⊢
      grind

theorem mem_ownL_set_old (l : List (Option Obj)) (i : Nat) (x : Option Obj) (n : Name)
    (h : n ∈ ownL l) (hn : n ∉ optOwned (l[i]?.join)) : n ∈ ownL (l.set i x) := by
  induction l generalizing i with
  | nil => simp [ownL] at h
  | cons a l ih =>
    cases i with
    | zero =>
      simp [ownL] at h hn ⊢
      rcases h with h | h
      · exact absurd h hn
      · exact .inr h
    | succ i =>
      simp [ownL] at h hn ⊢
      rcases h with h | h
      · exact .inl h
      · exact .inr (by simpa [ownL] using ih i (by simpa [ownL] using h) hn)

/-- the invariant of C20 -/
def Inv (env : Env) (s : St) : Prop :=
  s.held ~ env.lib.foot ++ footL env.slots ∧ ∀ n ∈ s.names.map (·.1), n ∈ ownL env.slots

theorem ep_split {env : Env} {e : Option Nat} {excl : List Nat} {ep : EP} (h : env.ep e excl = some ep) :
    (e = none ∧ ep = none) ∨
    (∃ i, e = some i ∧ i < env.slots.length ∧ i ∉ excl ∧ env.slots[i]? = some none ∧ ep = some none) ∨
    (∃ i eo, e = some i ∧ i < env.slots.length ∧ i ∉ excl ∧ env.slots[i]? = some (some (.err eo)) ∧ ep = some (some eo)) := by
  rcases e with _ | i
  · simp [Env.ep] at h; exact .inl ⟨rfl, h.symm⟩
  · simp only [Env.ep] at h
    split at h
    · simp at h
    · rename_i hc
      have hi : i < env.slots.length := by omega
      have hx : i ∉ excl := fun hx => hc (.inr hx)
      right
      simp only [Env.get] at h
      rcases hs : env.slots[i]? with _ | o
      · simp at hs; omega
      · rcases o with _ | o
        · simp [hs] at h; exact .inl ⟨i, rfl, hi, hx, hs, h.symm⟩
        · cases o <;> simp [hs] at h
          rename_i eo
          exact .inr ⟨i, eo, rfl, hi, hx, hs, h.symm⟩

def setAll (l : List (Option Obj)) : List (Nat × Option Obj) → List (Option Obj)
  | [] => l
  | u :: us => setAll (l.set u.1 u.2) us

@[simp] theorem setAll_length (l : List (Option Obj)) (us : List (Nat × Option Obj)) : (setAll l us).length = l.length := by
  induction us generalizing l with
  | nil => rfl
  | cons u us ih => simp [setAll, ih]

theorem setAll_get_other (l : List (Option Obj)) (us : List (Nat × Option Obj)) (j : Nat) (h : ∀ u ∈ us, u.1 ≠ j) :
    (setAll l us)[j]? = l[j]? := by
  induction us generalizing l with
  | nil => rfl
  | cons u us ih =>
    simp only [setAll]
    rw [ih _ (fun v hv => h v (by simp [hv]))]
    exact List.getElem?_set_ne (h u (by simp))

/-- the old contents of the updated slots -/
def olds (l : List (Option Obj)) (idx : List Nat) : List R := idx.flatMap fun j => optFoot (l[j]?.join)
def news (us : List (Nat × Option Obj)) : List R := us.flatMap fun u => optFoot u.2

theorem olds_append (l : List (Option Obj)) (a b : List Nat) : olds l (a ++ b) = olds l a ++ olds l b :=
  List.flatMap_append

theorem olds_congr {l1 l2 : List (Option Obj)} {idx : List Nat} (h : ∀ j ∈ idx, l1[j]? = l2[j]?) :
    olds l1 idx = olds l2 idx := by
  induction idx with
  | nil => rfl
  | cons j idx ih =>
    simp only [olds, List.flatMap_cons] at ih ⊢
    rw [h j (by simp), ih (fun v hv => h v (by simp [hv]))]

/-- exchange form for several distinct slots -/
theorem footL_setAll (l : List (Option Obj)) (us : List (Nat × Option Obj)) (hlt : ∀ u ∈ us, u.1 < l.length)
    (hd : (us.map (·.1)).Nodup) : footL (setAll l us) ++ olds l (us.map (·.1)) ~ news us ++ footL l := by
  induction us generalizing l with
  | nil => simp [setAll, olds, news]
  | cons u us ih =>
    have hnd : u.1 ∉ us.map (·.1) ∧ (us.map (·.1)).Nodup := List.nodup_cons.1 hd
    have h1 := footL_set l u.1 u.2 (hlt u (by simp))
    have h2 := ih (l.set u.1 u.2) (by intro v hv; simpa using hlt v (by simp [hv])) hnd.2
    have hold : olds (l.set u.1 u.2) (us.map (·.1)) = olds l (us.map (·.1)) := by
      apply olds_congr
      intro j hj
      rw [List.getElem?_set_ne]
      intro heq
      exact hnd.1 (heq ▸ hj)
    rw [hold] at h2
    simp only [setAll, olds, news, List.flatMap_cons, List.map_cons] at h2 ⊢
    perm_omega [h1, h2]

theorem mem_ownL_setAll_new (l : List (Option Obj)) (us : List (Nat × Option Obj)) (hlt : ∀ u ∈ us, u.1 < l.length)
    (hd : (us.map (·.1)).Nodup) (n : Name) (h : ∃ u ∈ us, n ∈ optOwned u.2) : n ∈ ownL (setAll l us) := by
  induction us generalizing l with
  | nil => simp at h
  | cons u us ih =>
    have hnd : u.1 ∉ us.map (·.1) ∧ (us.map (·.1)).Nodup := List.nodup_cons.1 hd
    simp only [setAll]
    rcases h with ⟨v, hv, hn⟩
    rcases List.mem_cons.1 hv with rfl | hv
    · -- placed first; later updates touch other slots
      have hg : (setAll (l.set v.1 v.2) us)[v.1]? = some v.2 := by
        rw [setAll_get_other _ _ _ (fun w hw heq => hnd.1 (by rw [← heq]; exact List.mem_map_of_mem hw))]
        simp [hlt v (by simp)]
      exact List.mem_flatMap.2 ⟨v.2, List.mem_of_getElem? hg, hn⟩
    · exact ih _ (by intro w hw; simpa using hlt w (by simp [hw])) hnd.2 ⟨v, hv, hn⟩

theorem mem_ownL_setAll_old (l : List (Option Obj)) (us : List (Nat × Option Obj)) (n : Name)
    (h : n ∈ ownL l) (hn : ∀ u ∈ us, n ∉ optOwned (l[u.1]?.join)) (hd : (us.map (·.1)).Nodup) : n ∈ ownL (setAll l us) := by
  induction us generalizing l with
  | nil => exact h
  | cons u us ih =>
    have hnd : u.1 ∉ us.map (·.1) ∧ (us.map (·.1)).Nodup := List.nodup_cons.1 hd
    simp only [setAll]
    apply ih _ (mem_ownL_set_old l u.1 u.2 n h (hn u (by simp))) _ hnd.2
    intro v hv
    rw [List.getElem?_set_ne]
    · exact hn v (by simp [hv])
    · intro heq
      exact hnd.1 (by rw [heq]; exact List.mem_map_of_mem hv)

theorem setAll_append (l : List (Option Obj)) (us vs : List (Nat × Option Obj)) :
    setAll l (us ++ vs) = setAll (setAll l us) vs := by
  induction us generalizing l with
  | nil => rfl
  | cons u us ih => simp [setAll, ih]

/-- what the slots hold apart from the slots `idx` -/
def frameL (l : List (Option Obj)) (idx : List Nat) : List R := footL (setAll l (idx.map fun j => (j, none)))

theorem news_nones (idx : List Nat) : news (idx.map fun j => (j, (none : Option Obj))) = [] := by
  induction idx with
  | nil => rfl
  | cons j idx ih => simp [news, optFoot]

theorem frameL_perm (l : List (Option Obj)) (idx : List Nat) (hlt : ∀ j ∈ idx, j < l.length)
    (hd : idx.Nodup) : footL l ~ olds l idx ++ frameL l idx := by
  have h := footL_setAll l (idx.map fun j => (j, none))
    (by
      intro u hu
      simp only [List.mem_map] at hu
      rcases hu with ⟨j, hj, rfl⟩
      exact hlt j hj)
    (by simpa [List.map_map, Function.comp_def] using hd)
  have hidx : (idx.map fun j => (j, (none : Option Obj))).map (·.1) = idx := by
    simp [List.map_map, Function.comp_def]
  rw [news_nones, hidx] at h
  simp only [frameL]
  perm_omega [h]

/-- **the generic invariant step**: the slots `us` (pairwise distinct) receive new contents and the library
    state becomes `lib'`; what is held changed accordingly; names changed as `NamesOk` allows -/
theorem inv_update {env : Env} {s s' : St} (hown : ∀ n ∈ s.names.map (·.1), n ∈ ownL env.slots) (lib' : LibO) (us : List (Nat × Option Obj))
    (hlt : ∀ u ∈ us, u.1 < env.slots.length) (hd : (us.map (·.1)).Nodup)
    (hheld : s'.held ~ lib'.foot ++ news us ++ frameL env.slots (us.map (·.1)))
    (hnames : ∀ n ∈ s'.names.map (·.1), (∃ u ∈ us, n ∈ optOwned u.2) ∨
      (n ∈ s.names.map (·.1) ∧ ∀ u ∈ us, n ∉ optOwned (env.slots[u.1]?.join))) :
    Inv ⟨lib', setAll env.slots us⟩ s' := by
  constructor
  · have h1 := footL_setAll env.slots us hlt hd
    have h2 := frameL_perm env.slots (us.map (·.1))
      (by intro j hj; obtain ⟨u, hu, rfl⟩ := List.mem_map.1 hj; exact hlt u hu) hd
    simp only []
    perm_omega [hheld, h1, h2]
  · intro n hn
    rcases hnames n hn with h | ⟨h1, h2⟩
    · exact mem_ownL_setAll_new _ _ hlt hd n h
    · exact mem_ownL_setAll_old _ _ n (hown n h1) h2 hd

theorem frame_held {env : Env} {s : St} (hinv : Inv env s) (idx : List Nat)
    (hlt : ∀ j ∈ idx, j < env.slots.length) (hd : idx.Nodup) :
    s.held ~ env.lib.foot ++ olds env.slots idx ++ frameL env.slots idx := by
  have h2 := frameL_perm env.slots idx hlt hd
  have h1 := hinv.1
  count_omega [h1, h2]

def epObj : EP → Option Obj
  | some (some eo) => some (.err eo)
  | _ => none

def epUpd (e : Option Nat) (ep' : EP) : List (Nat × Option Obj) :=
  match e with
  | some i => [(i, epObj ep')]
  | none => []

theorem epUpd_idx (e : Option Nat) (ep' : EP) : (epUpd e ep').map (·.1) = e.toList := by
  cases e <;> rfl

theorem epUpd_olds {env : Env} {e : Option Nat} {excl : List Nat} {ep : EP} (h : env.ep e excl = some ep) :
    olds env.slots e.toList = ep.foot := by
  rcases ep_split h with ⟨rfl, rfl⟩ | ⟨i, rfl, hi, _, hs, rfl⟩ | ⟨i, eo, rfl, hi, _, hs, rfl⟩
  · rfl
  · simp only [Option.toList, olds, List.flatMap_cons, List.flatMap_nil, hs]; rfl
  · simp only [Option.toList, olds, List.flatMap_cons, List.flatMap_nil, hs]; simp [optFoot, EP.foot, Obj.foot]

theorem epUpd_news {env : Env} {e : Option Nat} {excl : List Nat} {ep ep' : EP} (h : env.ep e excl = some ep)
    (hle : EPle ep ep') : news (epUpd e ep') = ep'.foot := by
  rcases ep_split h with ⟨rfl, rfl⟩ | ⟨i, rfl, hi, _, hs, rfl⟩ | ⟨i, eo, rfl, hi, _, hs, rfl⟩
  · simp [EPle] at hle; subst hle; simp [epUpd, news, EP.foot]
  · rcases ep' with _ | _ | eo <;> simp [epUpd, news, EP.foot, epObj, optFoot, Obj.foot]
  · simp [EPle] at hle; subst hle; simp [epUpd, news, EP.foot, epObj, optFoot, Obj.foot]

theorem set_same {α : Type} {l : List α} {i : Nat} {x : α} (h : l[i]? = some x) : l.set i x = l := by
  obtain ⟨hlt, rfl⟩ := List.getElem?_eq_some_iff.1 h
  exact List.set_getElem_self hlt

theorem putEP_none (env : Env) (e : Option Nat) : env.putEP e none = env := by
  unfold Env.putEP; split <;> simp_all

/-- `putEP` is that update -/
theorem putEP_eq {env : Env} {e : Option Nat} {excl : List Nat} {ep ep' : EP} (h : env.ep e excl = some ep)
    (hle : EPle ep ep') (lib : LibO) (l' : List (Option Obj)) (hsame : ∀ i, e = some i → l'[i]? = env.slots[i]?) :
    (Env.mk lib l').putEP e ep' = ⟨lib, setAll l' (epUpd e ep')⟩ := by
  rcases ep_split h with ⟨rfl, rfl⟩ | ⟨i, rfl, hi, _, hs, rfl⟩ | ⟨i, eo, rfl, hi, _, hs, rfl⟩
  · simp [Env.putEP, epUpd, setAll]
  · rcases ep' with _ | _ | eo
    · simp [EPle] at hle
    · have hl : l'[i]? = some none := by rw [hsame i rfl, hs]
      simp [Env.putEP, epUpd, setAll, epObj, set_same hl]
    · simp [Env.putEP, epUpd, setAll, epObj, Env.set]
  · simp [EPle] at hle; subst hle
    simp [Env.putEP, epUpd, setAll, epObj, Env.set]

/-- error objects own no IPC name -/
theorem epUpd_owned (e : Option Nat) (ep' : EP) (n : Name) : ¬ ∃ u ∈ epUpd e ep', n ∈ optOwned u.2 := by
  rcases e with _ | i <;> rcases ep' with _ | _ | eo <;> simp [epUpd, epObj, optOwned, Obj.owned]

theorem epUpd_old_owned {env : Env} {e : Option Nat} {excl : List Nat} {ep : EP} (h : env.ep e excl = some ep) (ep' : EP)
    (n : Name) : ∀ u ∈ epUpd e ep', n ∉ optOwned (env.slots[u.1]?.join) := by
  rcases ep_split h with ⟨rfl, rfl⟩ | ⟨i, rfl, hi, _, hs, rfl⟩ | ⟨i, eo, rfl, hi, _, hs, rfl⟩
  · simp [epUpd]
  · intro u hu; simp only [epUpd, List.mem_singleton] at hu; subst hu; simp only [hs]; simp [optOwned]
  · intro u hu; simp only [epUpd, List.mem_singleton] at hu; subst hu; simp only [hs]; simp [optOwned, Obj.owned]

theorem putEP_lib {env : Env} {e : Option Nat} {ep' : EP} : (env.putEP e ep').lib = env.lib := by
  unfold Env.putEP; split <;> rfl

theorem putEP_length {env : Env} {e : Option Nat} {ep' : EP} : (env.putEP e ep').slots.length = env.slots.length := by
  unfold Env.putEP; split <;> simp [Env.set]

theorem isEmpty_spec {env : Env} {d : Nat} (h : env.isEmpty d = true) : d < env.slots.length ∧ env.slots[d]? = some none := by
  simp only [Env.isEmpty, Bool.and_eq_true, decide_eq_true_eq, Env.get] at h
  refine ⟨h.1, ?_⟩
  rcases hs : env.slots[d]? with _ | o
  · simp at hs; omega
  · rcases o with _ | o
    · rfl
    · simp [hs] at h

theorem get_spec {env : Env} {d : Nat} {o : Obj} (h : env.get d = some o) :
    d < env.slots.length ∧ env.slots[d]? = some (some o) := by
  simp only [Env.get] at h
  rcases hs : env.slots[d]? with _ | x
  · simp [hs] at h
  · simp [hs] at h; subst h
    exact ⟨(List.getElem?_eq_some_iff.1 hs).1, rfl⟩

theorem ep_idx_lt {env : Env} {e : Option Nat} {excl : List Nat} {ep : EP} (h : env.ep e excl = some ep) :
    ∀ i ∈ e.toList, i < env.slots.length ∧ i ∉ excl := by
  rcases ep_split h with ⟨rfl, rfl⟩ | ⟨i, rfl, hi, hx, hs, rfl⟩ | ⟨i, eo, rfl, hi, hx, hs, rfl⟩ <;> simp [*]

/-- **one call, generically**: the call `m` updates the slots `idx` (all excluded from being the error slot,
    pairwise distinct) with `main result`, turns the library state into `lib' result`, and threads the error
    pointer; its specification is stated over exactly those footprints.  Then the invariant is preserved. -/
theorem step_generic {α : Type} {env : Env} {s : St} (hinv : Inv env s) (e : Option Nat) (excl : List Nat) (ep : EP)
    (hep : env.ep e excl = some ep) (idx : List Nat) (hsub : ∀ j ∈ idx, j ∈ excl ∧ j < env.slots.length) (hnd : idx.Nodup)
    (main : α → List (Nat × Option Obj)) (hmain : ∀ a, (main a).map (·.1) = idx)
    (lib' : α → LibO) (epOf : α → EP) (m : ResM α) (ownIn : List Name)
    (hown : ∀ n, n ∉ ownIn → ∀ j ∈ idx, n ∉ optOwned (env.slots[j]?.join))
    (hspec : SpecV (env.lib.foot ++ olds env.slots idx ++ ep.foot) ownIn m
      (fun a => (lib' a).foot ++ news (main a) ++ (epOf a).foot) (fun a => (main a).flatMap fun u => optOwned u.2)
      (fun a => EPle ep (epOf a))) (f : Nat → Bool) :
    wp m f s (fun a s' => Inv ((Env.mk (lib' a) (setAll env.slots (main a))).putEP e (epOf a)) s') := by
  have hidx := ep_idx_lt hep
  have hidxA : ∀ (a : α) (ep' : EP), (main a ++ epUpd e ep').map (·.1) = idx ++ e.toList := by
    intro a ep'; rw [List.map_append, hmain a, epUpd_idx]
  have hltI : ∀ j ∈ idx ++ e.toList, j < env.slots.length := by
    intro j hj
    rcases List.mem_append.1 hj with hj | hj
    · exact (hsub j hj).2
    · exact (hidx j hj).1
  have hndI : (idx ++ e.toList).Nodup := by
    rcases e with _ | i
    · simpa using hnd
    · have := (hidx i (by simp)).2
      simp only [Option.toList, List.nodup_append, hnd, List.nodup_cons, List.not_mem_nil, not_false_eq_true,
        List.nodup_nil, and_self, List.mem_singleton, true_and]
      intro a ha b hb
      subst hb
      intro hab; subst hab
      exact this (hsub a ha).1
  have hlt : ∀ (a : α) (ep' : EP), ∀ u ∈ main a ++ epUpd e ep', u.1 < env.slots.length := by
    intro a ep' u hu
    exact hltI u.1 (by rw [← hidxA a ep']; exact List.mem_map_of_mem hu)
  have hndA : ∀ (a : α) (ep' : EP), ((main a ++ epUpd e ep').map (·.1)).Nodup := by
    intro a ep'; rw [hidxA]; exact hndI
  -- the frame: everything in the slots apart from `idx` and the error slot
  have frameOf : s.held ~ env.lib.foot ++ olds env.slots idx ++ ep.foot ++ frameL env.slots (idx ++ e.toList) := by
    have hfr := frame_held hinv (idx ++ e.toList) hltI hndI
    rw [olds_append, epUpd_olds hep] at hfr
    count_omega [hfr]
  apply wp_mono (hspec f s (frameL env.slots (idx ++ e.toList)) frameOf)
  rintro a s' ⟨h1, hnm, hle⟩
  have heq : (Env.mk (lib' a) (setAll env.slots (main a))).putEP e (epOf a) =
      ⟨lib' a, setAll env.slots (main a ++ epUpd e (epOf a))⟩ := by
    rw [putEP_eq hep hle (lib' a) (setAll env.slots (main a)) (by
      intro i hi
      apply setAll_get_other
      intro u hu heq
      have h1 := (hidx i (by simp [hi])).2
      exact h1 (hsub i (by rw [← hmain a, ← heq]; exact List.mem_map_of_mem hu)).1), setAll_append]
  rw [heq]
  apply inv_update hinv.2 (lib' a) _ (hlt a (epOf a)) (hndA a (epOf a))
  · have hn := epUpd_news hep hle
    rw [hidxA]
    simp only [news, List.flatMap_append] at hn h1 ⊢
    rw [hn]
    count_omega [h1]
  · intro n hn
    rcases hnm n hn with h | ⟨h, hni⟩
    · left
      simp only [List.mem_flatMap] at h
      rcases h with ⟨u, hu, hnu⟩
      exact ⟨u, List.mem_append_left _ hu, hnu⟩
    · refine .inr ⟨h, ?_⟩
      intro u hu
      rcases List.mem_append.1 hu with hu | hu
      · exact hown n hni u.1 (by rw [← hmain a]; exact List.mem_map_of_mem hu)
      · exact epUpd_old_owned hep (epOf a) n u hu

theorem ep_none (env : Env) (excl : List Nat) : env.ep none excl = some none := rfl

theorem olds_one {l : List (Option Obj)} {d : Nat} {o : Option Obj} (h : l[d]? = some o) : olds l [d] = optFoot o := by
  simp [olds, h]

/-- calls that only touch the library's own state -/
theorem step_lib {env : Env} {s : St} (hinv : Inv env s) (m : ResM (Char × LibO))
    (hm : Spec env.lib.foot m (fun r => r.2.foot)) (f : Nat → Bool) :
    wp (do let (cls, l) ← m; return (cls, { env with lib := l })) f s (fun r s' => Inv r.2 s') := by
  simp only [wp_bind, wp_pure]
  have := step_generic hinv none [] none (ep_none env []) [] (by simp) (by simp) (fun _ => []) (fun _ => rfl)
    (fun a : Char × LibO => a.2) (fun _ => none) m [] (by simp)
    (by simpa [olds, news, EP.foot] using (hm.toG [] (fun _ => []) (by simp)).toV fun _ => EPle.refl none) f
  exact wp_mono this (fun a s' h => by simpa [Env.putEP, setAll] using h)

theorem skip_inv {env : Env} {s : St} (hinv : Inv env s) (f : Nat → Bool) :
    wp (skip env) f s (fun r s' => Inv r.2 s') := by
  simpa [skip] using hinv

theorem set_eq_setAll1 (env : Env) (d : Nat) (o : Option Obj) : env.set d o = ⟨env.lib, setAll env.slots [(d, o)]⟩ := rfl

theorem stepCtor_inv {env : Env} {s : St} (hinv : Inv env s) (k : CtorK) (d : Nat) (e : Option Nat) (f : Nat → Bool) :
    wp (stepCtor env k d e) f s (fun r s' => Inv r.2 s') := by
  unfold stepCtor
  cases hd : env.isEmpty d
  · simp only [Bool.not_false, if_true]; exact skip_inv hinv f
  simp only [Bool.not_true, Bool.false_eq_true, if_false]
  cases hb : loaderBusy env k
  case true => simp; exact skip_inv hinv f
  simp only [Bool.false_eq_true, ↓reduceIte]
  split
  · exact skip_inv hinv f
  · rename_i ep hep
    obtain ⟨hdl, hds⟩ := isEmpty_spec hd
    simp only [wp_bind]
    have := step_generic hinv e [d] ep hep [d] (by simp [hdl]) (by simp)
      (fun a : Char × Option Obj × EP => [(d, a.2.1)]) (fun _ => rfl) (fun _ => env.lib) (fun a => a.2.2)
      (ctorRun k ep) [] (by intro n _ j hj; simp at hj; subst hj; simp [hds, optOwned])
      ((ctorRun_spec k ep).under env.lib.foot (by simp [olds_one hds, optFoot]) (fun a _ => by simp [news])
        (fun a => by simp) fun _ h => h)
      f
    exact wp_mono this (fun a s' h => by simpa [set_eq_setAll1] using h)

theorem stepMut_inv {env : Env} {s : St} (hinv : Inv env s) (k : MutK) (ty : Ty) (d : Nat) (e : Option Nat) (f : Nat → Bool) :
    wp (stepMut env k ty d e) f s (fun r s' => Inv r.2 s') := by
  unfold stepMut
  split
  · rename_i o ep hg hep
    split
    · exact skip_inv hinv f
    · split
      · exact skip_inv hinv f
      · rename_i m hm
        obtain ⟨hdl, hds⟩ := get_spec hg
        simp only [wp_bind]
        have := step_generic hinv e [d] ep hep [d] (by simp [hdl]) (by simp)
          (fun a : Char × Option Obj × EP => [(d, a.2.1)]) (fun _ => rfl) (fun _ => env.lib) (fun a => a.2.2)
          m o.owned (by intro n hn j hj; simp at hj; subst hj; simpa [hds, optOwned] using hn)
          ((mutRun_spec k o ep m hm).under env.lib.foot (by simp [olds_one hds, optFoot]) (fun a _ => by simp [news])
            (fun a => by simp) fun _ h => h)
          f
        exact wp_mono this (fun a s' h => by simpa [set_eq_setAll1] using h)
  · exact skip_inv hinv f

theorem stepDtor_inv {env : Env} {s : St} (hinv : Inv env s) (ty : Ty) (d : Nat) (f : Nat → Bool) :
    wp (stepDtor env ty d) f s (fun r s' => Inv r.2 s') := by
  unfold stepDtor
  split
  · rename_i o hg
    split
    · exact skip_inv hinv f
    · obtain ⟨hdl, hds⟩ := get_spec hg
      simp only [wp_bind, wp_pure]
      have := step_generic hinv none [d] none (ep_none env [d]) [d] (by simp [hdl]) (by simp)
        (fun _ : Unit => [(d, none)]) (fun _ => rfl) (fun _ => env.lib) (fun _ => none)
        (dtorRun o) o.owned (by intro n hn j hj; simp at hj; subst hj; simpa [hds, optOwned] using hn)
        (((dtorRun_spec o).toV fun _ => EPle.refl none).under env.lib.foot (by simp [olds_one hds, optFoot, EP.foot])
          (fun a _ => by simp [news, optFoot, EP.foot]) (fun a => by simp [optOwned]) fun _ h => h)
        f
      exact wp_mono this (fun a s' h => by simpa [set_eq_setAll1, Env.putEP] using h)
  · exact skip_inv hinv f

theorem olds_two {l : List (Option Obj)} {a b : Nat} {x y : Option Obj} (ha : l[a]? = some x) (hb : l[b]? = some y) :
    olds l [a, b] = optFoot x ++ optFoot y := by
  simp [olds, ha, hb]

theorem set_set_eq_setAll (env : Env) (a b : Nat) (x y : Option Obj) :
    (env.set a x).set b y = ⟨env.lib, setAll env.slots [(a, x), (b, y)]⟩ := rfl

theorem stepDerive_inv {env : Env} {s : St} (hinv : Inv env s) (k : DeriveK) (src d : Nat) (e : Option Nat) (f : Nat → Bool) :
    wp (stepDerive env k src d e) f s (fun r s' => Inv r.2 s') := by
  unfold stepDerive
  split
  · rename_i o ep hg hep
    cases hd : env.isEmpty d
    · simp; exact skip_inv hinv f
    simp only [Bool.not_true, Bool.false_eq_true, ↓reduceIte]
    split
    · exact skip_inv hinv f
    · rename_i m hm
      obtain ⟨hsl, hss⟩ := get_spec hg
      obtain ⟨hdl, hds⟩ := isEmpty_spec hd
      have hne : src ≠ d := by intro h; subst h; simp [hss] at hds
      simp only [wp_bind]
      have := step_generic hinv e [d, src] ep hep [src, d] (by simp [hdl, hsl]) (by simp [hne])
        (fun a : Char × Obj × Option Obj × EP => [(src, some a.2.1), (d, a.2.2.1)]) (fun _ => rfl) (fun _ => env.lib)
        (fun a => a.2.2.2) m o.owned
        (by
          intro n hn j hj
          simp at hj
          rcases hj with rfl | rfl
          · simpa [hss, optOwned] using hn
          · simp [hds, optOwned])
        ((deriveRun_spec k o ep m hm).under env.lib.foot (by simp [olds_two hss hds, optFoot])
          (fun a _ => by simp [news, optFoot]) (fun a => by simp [optOwned]) fun _ h => h)
        f
      exact wp_mono this (fun a s' h => by simpa [set_set_eq_setAll] using h)
  · exact skip_inv hinv f

theorem stepConnect_inv {env : Env} {s : St} (hinv : Inv env s) (d srv : Nat) (e : Option Nat) (f : Nat → Bool) :
    wp (stepConnect env d srv e) f s (fun r s' => Inv r.2 s') := by
  unfold stepConnect
  split
  · rename_i x sv ep hgd hgs hep
    split
    · exact skip_inv hinv f
    · rename_i hc
      have hne : d ≠ srv := fun h => hc (.inl h)
      obtain ⟨hdl, hds⟩ := get_spec hgd
      obtain ⟨hsl, hss⟩ := get_spec hgs
      simp only [wp_bind]
      have := step_generic hinv e [d, srv] ep hep [d, srv] (by simp [hdl, hsl]) (by simp [hne])
        (fun a : Char × SockO × SockO × EP => [(d, some (.sock a.2.1)), (srv, some (.sock a.2.2.1))]) (fun _ => rfl)
        (fun _ => env.lib) (fun a => a.2.2.2) (sockConnect x sv ep) []
        (by
          intro n _ j hj
          simp at hj
          rcases hj with rfl | rfl
          · simp [hds, optOwned, Obj.owned]
          · simp [hss, optOwned, Obj.owned])
        ((sockConnect_spec x sv ep).under env.lib.foot (by simp [olds_two hds hss, optFoot, Obj.foot])
          (fun a _ => by simp [news, optFoot, Obj.foot]) (fun a => by simp) fun _ h => h)
        f
      exact wp_mono this (fun a s' h => by simpa [set_set_eq_setAll] using h)
  · exact skip_inv hinv f

theorem stepSetErr_inv {env : Env} {s : St} (hinv : Inv env s) (e : Option Nat) (v : Bool) (f : Nat → Bool) :
    wp (stepSetErr env e v) f s (fun r s' => Inv r.2 s') := by
  unfold stepSetErr
  split
  · exact skip_inv hinv f
  · rename_i ep hep
    simp only [wp_bind, wp_pure]
    have := step_generic hinv e [] ep hep [] (by simp) (by simp)
      (fun _ : EP => []) (fun _ => rfl) (fun _ => env.lib) (fun a => a) (setErr ep) [] (by simp)
      ((setErr_spec ep).under env.lib.foot (by simp [olds]) (fun a _ => by simp [news]) (fun a => by simp) fun _ h => h)
      f
    exact wp_mono this (fun a s' h => by simpa [setAll] using h)

theorem stepThread_inv {env : Env} {s : St} (hinv : Inv env s) (d : Nat) (body : ThrOpt) (key : Option Nat) (f : Nat → Bool) :
    wp (stepThread env d body key) f s (fun r s' => Inv r.2 s') := by
  unfold stepThread
  cases hd : env.isEmpty d
  · simp; exact skip_inv hinv f
  simp only [Bool.not_true, Bool.false_eq_true, ↓reduceIte]
  obtain ⟨hdl, hds⟩ := isEmpty_spec hd
  split
  · -- no user key
    simp only [wp_bind]
    have := step_generic hinv none [d] none (ep_none env [d]) [d] (by simp [hdl]) (by simp)
      (fun a : Option ThreadO × LibO × Option TlsO => [(d, a.1.map Obj.thread)]) (fun _ => rfl) (fun a => a.2.1)
      (fun _ => none) (threadRun env.lib none body) []
      (by intro n _ j hj; simp at hj; subst hj; simp [hds, optOwned])
      ((threadRun_spec env.lib none body).under [] (by simp [olds_one hds, optFoot, EP.foot])
        (by rintro ⟨t, l, _ | tl⟩ hv <;> cases t <;> simp_all [news, optFoot, EP.foot, Obj.foot] <;> count_omega [])
        (fun a => by simp) fun _ _ => .refl none)
      f
    exact wp_mono this (fun a s' h => by simpa [Env.putEP, Env.set, setAll] using h)
  · rename_i k
    split
    · rename_i tl hg
      obtain ⟨hkl, hks⟩ := get_spec hg
      have hne : k ≠ d := by intro h; subst h; simp [hks] at hds
      simp only [wp_bind]
      have := step_generic hinv none [k, d] none (ep_none env [k, d]) [k, d] (by simp [hdl, hkl]) (by simp [hne])
        (fun a : Option ThreadO × LibO × Option TlsO => [(k, some (.tls (a.2.2.getD tl))), (d, a.1.map Obj.thread)])
        (fun _ => rfl) (fun a => a.2.1) (fun _ => none) (threadRun env.lib (some tl) body) []
        (by
          intro n _ j hj
          simp at hj
          rcases hj with rfl | rfl
          · simp [hks, optOwned, Obj.owned]
          · simp [hds, optOwned])
        ((threadRun_spec env.lib (some tl) body).under [] (by simp [olds_two hks hds, optFoot, EP.foot, Obj.foot])
          (by
            rintro ⟨t, l, _ | tl'⟩ hv <;> cases t <;> simp_all [news, optFoot, EP.foot, Obj.foot] <;> count_omega [])
          (fun a => by simp) fun _ _ => .refl none)
        f
      exact wp_mono this (fun a s' h => by simpa [Env.putEP, Env.set, setAll] using h)
    · exact skip_inv hinv f

theorem step_inv (c : Call) {env : Env} {s : St} (hinv : Inv env s) (f : Nat → Bool) :
    wp (step c env) f s (fun r s' => Inv r.2 s') := by
  unfold step
  split
  · -- lib_init
    have := step_lib hinv (do let l ← libInit env.lib; return ('S', l)) (by
      intro f s fr h
      simp only [wp_bind, wp_pure]
      exact libInit_spec env.lib f s fr h) f
    simpa using this
  · -- lib_shutdown
    have := step_lib hinv (do let l ← libShutdown env.lib; return ('S', l)) (by
      intro f s fr h
      simp only [wp_bind, wp_pure]
      exact libShutdown_spec env.lib f s fr h) f
    simpa using this
  · -- sysfail
    simp only [wp_bind, wp_arm, wp_pure]
    exact hinv
  · split
    · exact skip_inv hinv f
    · split
      · exact stepCtor_inv hinv _ _ _ f
      · exact stepMut_inv hinv _ _ _ _ f
      · exact stepDerive_inv hinv _ _ _ _ f
      · exact stepConnect_inv hinv _ _ _ f
      · exact stepDtor_inv hinv _ _ f
      · exact step_lib hinv _ (curThread_spec env.lib) f
      · simp only [wp_bind, wp_pure]
        have := strtod_spec f s (env.lib.foot ++ footL env.slots) (by simpa using hinv.1)
        refine wp_mono this ?_
        intro c s' ⟨h1, h2⟩
        exact ⟨by simpa using h1, by rw [h2]; exact hinv.2⟩
      · exact stepSetErr_inv hinv _ _ f
      · exact stepSetErr_inv hinv _ _ f
      · exact stepSetErr_inv hinv _ _ f
      · exact stepThread_inv hinv _ _ _ f
      · unfold stepLockCycle; split <;> simpa [skip] using hinv
      · exact skip_inv hinv f

end PV.Res
