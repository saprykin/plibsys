import PV.Lemmas.Res.Env
import PV.Lemmas.Res.Generic
/-! # C20 — sequences of calls: the invariant, neutrality -/
namespace PV.Res
open List

theorem runLine_inv (line : String) {env : Env} {s : St} (hinv : Inv env s) (f : Nat → Bool) :
    wp (runLine line env) f s (fun r s' => Inv r.2 s') := by
  unfold runLine
  simp only [wp_bind, wp_emit]
  have hinv' : Inv env { s with log := .call line :: s.log } := hinv
  split
  · simpa using hinv'
  · exact step_inv _ hinv' f

theorem runLines_inv (lines : List String) {env : Env} {s : St} (hinv : Inv env s) (f : Nat → Bool) :
    wp (runLines lines env) f s (fun r s' => Inv r.2 s') := by
  induction lines generalizing env s with
  | nil => simpa [runLines] using hinv
  | cons l ls ih =>
    simp only [runLines, wp_bind]
    refine wp_mono (runLine_inv l hinv f) ?_
    rintro ⟨c, env'⟩ s' h
    refine wp_mono (ih h) ?_
    rintro ⟨cs, env''⟩ s'' h'
    simpa using h'

theorem runCalls_inv (cs : List Call) {env : Env} {s : St} (hinv : Inv env s) (f : Nat → Bool) :
    wp (runCalls cs env) f s (fun r s' => Inv r.2 s') := by
  induction cs generalizing env s with
  | nil => simpa [runCalls] using hinv
  | cons c cs ih =>
    simp only [runCalls, wp_bind]
    refine wp_mono (step_inv c hinv f) ?_
    rintro ⟨r, env'⟩ s' h
    refine wp_mono (ih h) ?_
    rintro ⟨rs, env''⟩ s'' h'
    simpa using h'

/-- nothing is live: every slot is empty and the library is shut down -/
def Env.neutral (env : Env) : Prop := env.lib.foot = [] ∧ ∀ o ∈ env.slots, o = none

theorem footL_of_none {l : List (Option Obj)} (h : ∀ o ∈ l, o = none) : footL l = [] ∧ ownL l = [] := by
  induction l with
  | nil => exact ⟨rfl, rfl⟩
  | cons a l ih =>
    have ha := h a (by simp)
    subst ha
    have := ih (fun o ho => h o (by simp [ho]))
    simpa [footL, ownL, optFoot, optOwned] using this

theorem Inv_init : Inv {} {} := by
  refine ⟨?_, by simp⟩
  have : footL (List.replicate NSLOT (none : Option Obj)) = [] := (footL_of_none (by simp)).1
  simp [LibO.foot, this, optTls, ob]

/-- when nothing is live, nothing is held and no IPC name of the sequence exists -/
theorem neutral_of_inv {env : Env} {s : St} (hinv : Inv env s) (hn : env.neutral) : s.held = [] ∧ s.names = [] := by
  obtain ⟨h1, h2⟩ := footL_of_none hn.2
  constructor
  · have := hinv.1
    rw [hn.1, h1] at this
    simpa using this
  · have := hinv.2
    rw [h2] at this
    cases hs : s.names with
    | nil => rfl
    | cons a l => simpa [hs] using this a.1

end PV.Res
