import PV.Lemmas.Res.EP
/-! # C18 — specifications of the modelled functions (`Spec`/`SpecG` of `PV.Lemmas.Res.Wp`)

One lemma per function: from any state holding the arguments' footprints (and anything else), for every
failure predicate, the function does not fault and ends holding exactly the footprints of what it
returns.  Failure values return footprint `[]` (or the unchanged argument), which is what `clean_fail_ctor` of `PV.Props.C18` states. -/
namespace PV.Res
open List

theorem map_erase_perm [BEq α] [LawfulBEq α] {l : List α} {a : α} (g : α → β) (h : a ∈ l) :
    l.map g ~ g a :: (l.erase a).map g := by
  have := (List.perm_cons_erase h).map g
  simpa using this

theorem perm_mem {held L fr : List R} {x : R} (h : held ~ L ++ fr) (hx : x ∈ L) : x ∈ held := by grind

theorem errNewLiteral_spec : Spec [] errNewLiteral (optL ErrO.foot) := by
  intro f s fr h
  simp [errNewLiteral, ErrO.foot, ob]
  grind

/-- `p_error_set_error_p`: an error is made only for an empty cell; whatever the cell held is handed back -/
theorem setErr_spec (e : EP) : SpecV e.foot [] (setErr e) EP.foot (fun _ => []) (EPle e) := by
  intro f s fr h
  rcases e with _ | _ | x <;> simp [setErr, errNewLiteral, EP.foot, ErrO.foot, ob, EPle] at h ⊢ <;> grind

theorem errNew_spec : Spec [] errNew (optL ErrO.foot) := by
  intro f s fr h
  simp [errNew, ErrO.foot, ob]
  grind

theorem errCopy_spec (x : ErrO) : Spec x.foot (errCopy x) (fun r => optL ErrO.foot r ++ x.foot) := by
  intro f s fr h
  rcases x with ⟨a, _ | m⟩ <;> simp [errCopy, ErrO.foot, ob] at h ⊢ <;> grind

theorem errSetMsg_spec (x : ErrO) : Spec x.foot (errSetMsg x) ErrO.foot := by
  intro f s fr h
  rcases x with ⟨a, _ | m⟩ <;> simp [errSetMsg, ErrO.foot, ob] at h ⊢ <;> grind

theorem errClear_spec (x : ErrO) : Spec x.foot (errClear x) ErrO.foot := by
  intro f s fr h
  rcases x with ⟨a, _ | m⟩ <;> simp [errClear, ErrO.foot, ob] at h ⊢ <;> grind

theorem errFree_spec (x : ErrO) : Spec x.foot (errFree x) (fun _ => []) := by
  intro f s fr h
  rcases x with ⟨a, _ | m⟩ <;> simp [errFree, ErrO.foot, ob] at h ⊢ <;> grind

theorem strdup_spec : Spec [] strdup ob := by
  intro f s fr h
  simp [strdup]
  grind

theorem malloc_spec : Spec [] malloc ob := strdup_spec

theorem strtod_spec : Spec [] strtod (fun _ => []) := by
  intro f s fr h
  simp [strtod]
  grind

theorem listAdd_spec (l : ListO) (x : Nat) (pre : Bool) : Spec l.foot (listAdd l x pre) (fun r => r.2.foot) := by
  intro f s fr h
  cases pre <;> simp [listAdd, ListO.foot, ListO.blocks] at h ⊢ <;> grind

theorem listRemove_spec (l : ListO) (x : Nat) : Spec l.foot (listRemove l x) ListO.foot := by
  intro f s fr h
  unfold listRemove
  split
  · simpa using h
  · rename_i it hit
    have hp := map_erase_perm (R.blk ∘ fun (y : Nat × Blk) => y.2) (List.mem_of_find?_eq_some hit)
    simp [ListO.foot, ListO.blocks] at h ⊢
    exact (h.trans (hp.append_right _)).pop (p := []) id

theorem listFree_spec (l : ListO) : Spec l.foot (listFree l) (fun _ => []) := freeAll_spec _

theorem slistFree_spec (l : SListO) : Spec l.foot (slistFree l) (fun _ => []) := freeAll_spec _

theorem listAddCopy_spec (items : List (Option Blk × Blk)) (app : Bool) :
    Spec (SListO.foot ⟨items⟩) (listAddCopy items app) (fun r => SListO.foot ⟨r⟩) := by
  intro f s fr h
  cases app <;> simp [listAddCopy, SListO.foot, SListO.blocks] at h ⊢ <;> grind

theorem addCopies_spec (n : Nat) (app : Bool) (items : List (Option Blk × Blk)) :
    Spec (SListO.foot ⟨items⟩) (addCopies n app items) (fun r => SListO.foot ⟨r⟩) := by
  induction n generalizing items with
  | zero => intro f s fr h; simpa [addCopies] using h
  | succ n ih => exact (listAddCopy_spec items app).bind ih

theorem treeNew_spec : Spec [] treeNew (optL TreeO.foot) := by
  intro f s fr h
  simp [treeNew, TreeO.foot, TreeO.blocks]
  grind

theorem treeInsert_spec (t : TreeO) (k : Nat) : Spec t.foot (treeInsert t k) (fun r => r.2.foot) := by
  intro f s fr h
  simp only [treeInsert, wp_bind, wp_deref_some]
  refine ⟨by simp [TreeO.foot, TreeO.blocks] at h; grind, ?_⟩
  split
  · simpa using h
  · simp [TreeO.foot, TreeO.blocks] at h ⊢
    grind

theorem treeRemove_spec (t : TreeO) (k : Nat) : Spec t.foot (treeRemove t k) TreeO.foot := by
  intro f s fr h
  unfold treeRemove
  simp only [wp_bind, wp_deref_some]
  refine ⟨by simp [TreeO.foot, TreeO.blocks] at h; grind, ?_⟩
  split
  · simpa using h
  · rename_i it hit
    have hp := map_erase_perm (R.blk ∘ fun (y : Nat × Blk) => y.2) (List.mem_of_find?_eq_some hit)
    simp [TreeO.foot, TreeO.blocks] at h ⊢
    have h' : s.held ~ map (R.blk ∘ fun x => x.snd) t.nodes ++ (R.blk t.self :: fr) := h
    exact (h'.trans (hp.append_right _)).pop (p := []) id

theorem treeClear_spec (t : TreeO) : Spec t.foot (treeClear t) TreeO.foot := by
  intro f s fr h
  simp only [treeClear, wp_bind, wp_deref_some]
  refine ⟨by simp [TreeO.foot, TreeO.blocks] at h; grind, ?_⟩
  apply wp_spec (freeAll_spec (t.nodes.map (·.2))) (fr := .blk t.self :: fr)
  · simp [TreeO.foot, TreeO.blocks] at h ⊢; grind
  · intro _ s' h1 h2
    simp [TreeO.foot, TreeO.blocks] at h1 ⊢
    exact ⟨h1, h2⟩

theorem treeFree_spec (t : TreeO) : Spec t.foot (treeFree t) (fun _ => []) := freeAll_spec _

theorem htNew_spec : Spec [] htNew (optL HtO.foot) := by
  intro f s fr h
  simp [htNew, HtO.foot, HtO.blocks]
  grind

theorem htInsert_spec (t : HtO) (k v : Nat) : Spec t.foot (htInsert t k v) (fun r => r.2.foot) := by
  intro f s fr h
  simp only [htInsert, wp_bind, wp_deref_some]
  have hself : R.blk t.self ∈ s.held := by simp [HtO.foot, HtO.blocks] at h; grind
  have htbl : R.blk t.tbl ∈ s.held := by simp [HtO.foot, HtO.blocks] at h; grind
  refine ⟨hself, htbl, ?_⟩
  split
  · have : (t.nodes.map fun x => if x.1 = k then (x.1, v, x.2.2) else x).map (·.2.2) = t.nodes.map (·.2.2) := by
      rw [List.map_map]; apply List.map_congr_left; intro x _; simp only [Function.comp]; split <;> rfl
    simp only [wp_pure, HtO.foot, HtO.blocks, this]
    exact ⟨h, trivial⟩
  · simp [HtO.foot, HtO.blocks] at h ⊢
    grind

theorem htRemove_spec (t : HtO) (k : Nat) : Spec t.foot (htRemove t k) HtO.foot := by
  intro f s fr h
  unfold htRemove
  simp only [wp_bind, wp_deref_some]
  refine ⟨by simp [HtO.foot, HtO.blocks] at h; grind, ?_⟩
  split
  · simpa using h
  · rename_i it hit
    have hp := map_erase_perm (R.blk ∘ fun (y : Nat × Nat × Blk) => y.2.2) (List.mem_of_find?_eq_some hit)
    simp [HtO.foot, HtO.blocks] at h ⊢
    have h' : s.held ~ map (R.blk ∘ fun x => x.snd.snd) t.nodes ++ (R.blk t.tbl :: R.blk t.self :: fr) := h
    exact (h'.trans (hp.append_right _)).pop (p := []) id

theorem appendAll_spec (xs : List Nat) (l : ListO) : Spec l.foot (appendAll xs l) ListO.foot := by
  induction xs generalizing l with
  | nil => intro f s fr h; simpa [appendAll] using h
  | cons x xs ih => exact (listAdd_spec l x false).bind fun a => ih a.2

theorem htList_spec (t : HtO) (sel : List Nat) : Spec t.foot (htList t sel) (fun r => r.2.foot ++ t.foot) := by
  intro f s fr h
  simp only [htList, wp_bind, wp_deref_some]
  refine ⟨by simp [HtO.foot, HtO.blocks] at h; grind, by simp [HtO.foot, HtO.blocks] at h; grind, ?_⟩
  apply wp_spec (appendAll_spec sel ⟨[]⟩) (fr := t.foot ++ fr)
  · simpa [ListO.foot, ListO.blocks] using h
  · intro a s' h1 h2
    simp at h1 ⊢
    exact ⟨h1, h2⟩

theorem htFree_spec (t : HtO) : Spec t.foot (htFree t) (fun _ => []) := freeAll_spec _

theorem hashNew_spec : Spec [] hashNew (optL HashO.foot) := by
  intro f s fr h
  simp [hashNew, HashO.foot]
  grind

theorem hashString_spec (x : HashO) : Spec x.foot (hashString x) (fun r => ob r ++ x.foot) := by
  intro f s fr h
  simp [hashString, HashO.foot, ob] at h ⊢
  grind

theorem hashFree_spec (x : HashO) : Spec x.foot (hashFree x) (fun _ => []) :=
  (freeAll_spec [x.ctx, x.self]).perm_pre (by simp only [HashO.foot, List.map]; count_omega [])

theorem ipcTmpDir_spec : Spec [] ipcTmpDir ob := by
  intro f s fr h
  simp [ipcTmpDir, ob]
  grind

theorem ipcKey_spec (posix : Bool) : Spec [] (ipcKey posix) ob := by
  intro f s fr h
  cases posix <;> simp [ipcKey, hashNew, hashString, hashFree, ipcTmpDir, ob] <;> grind

theorem newInit_spec (nm : String) : Spec [] (newInit nm) ob := by
  intro f s fr h
  simp [newInit, ob]
  grind

theorem rwgNew_spec : Spec [] rwgNew (optL RwgO.foot) := by
  intro f s fr h
  simp [rwgNew, newInit, RwgO.foot]
  grind

theorem rwgFree_spec (l : RwgO) : Spec l.foot (rwgFree l) (fun _ => []) :=
  (freeAll_spec [l.m, l.r, l.w, l.self]).perm_pre (by simp only [RwgO.foot, List.map]; count_omega [])

theorem loaderNew_spec (w : Nat) : Spec [] (loaderNew w) (optL LoaderO.foot) := by
  intro f s fr h
  by_cases h1 : w = 1 <;> by_cases h0 : w = 0 <;>
    simp [loaderNew, LoaderO.foot, h1, h0] <;> grind

theorem loaderFree_spec (l : LoaderO) : Spec l.foot (loaderFree l) (fun _ => []) := by
  intro f s fr h
  simp [loaderFree, LoaderO.foot] at h ⊢
  grind

theorem loaderErr_spec : Spec [] loaderErr (fun r => ob r.2) := by
  intro f s fr h
  cases hp : s.dlPending <;> simp [loaderErr, ob, hp] <;> grind

theorem mmapNew_spec (len : Nat) (e : EP) :
    SpecV e.foot [] (mmapNew len e) (fun r => optL (fun x => [.map x.1 x.2]) r.1 ++ r.2.foot) (fun _ => [])
      (fun r => EPle e r.2) := by
  intro f s fr h
  simp only [mmapNew]
  wps
  split
  · exact wp_specV (setErr_spec e) h fun e' s' h1 hn hle => ⟨h1, hn, hle⟩
  · exact ⟨by count_omega [h], .rfl, .refl e⟩

theorem strRealloc_spec (b : Blk) : Spec [.blk b] (strRealloc b) (fun r => [.blk r.2]) := by
  intro f s fr h
  simp [strRealloc] at h ⊢
  grind

theorem mmapUnmap_spec (i len : Nat) (e : EP) :
    SpecV (.map i len :: e.foot) [] (mmapUnmap i len e) (fun r => (if r.1 then [] else [.map i len]) ++ r.2.foot)
      (fun _ => []) (fun r => EPle e r.2) := by
  intro f s fr h
  simp only [mmapUnmap]
  wps
  split
  · refine wp_specV (setErr_spec e) (fr := .map i len :: fr) (by count_omega [h]) fun e' s' h1 hn hle =>
      ⟨by count_omega [h1], hn, hle⟩
  · exact ⟨by count_omega [h], by count_omega [h], .rfl, .refl e⟩

end PV.Res
