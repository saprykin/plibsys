import PV.Spec.UThreadSteps
import PV.Lemmas.UThread
/-!
Refinement between the history machine and the independent executable reference `PV.Spec.UThread`:
an abstraction relation `Abs` between the two states, preserved by every event the machine accepts,
under which the API-visible answers (`Obs`) of both sides are equal.
-/
namespace PV.UThread
open PV.Generated.UThread
open PV.UThreadSpec

-- the reference's operations under a prefix (several share their names with the machine's)
namespace Sp
export PV.UThreadSpec (spawn create ref drop current exit join threadEnd keyNew keyFree setLocal replaceLocal)
end Sp

theorem lookup_store {α β : Type} [DecidableEq α] (l : List (α × β)) (a a' : α) (b : β) :
    lookup (store l a b) a' = if a' = a then some b else lookup l a' := by
  unfold lookup store
  by_cases e : a' = a
  · subst e; simp
  · simp only [e, if_false]
    rw [List.find?_cons_of_neg (by simpa using fun x => e x.symm)]
    congr 1
    induction l with
    | nil => rfl
    | cons x r ih =>
      by_cases hx : x.1 = a
      · rw [List.filter_cons_of_neg (by simpa using hx), ih, List.find?_cons_of_neg (by simp [hx]; exact fun x => e x.symm)]
      · rw [List.filter_cons_of_pos (by simpa using hx)]
        by_cases hx' : x.1 = a'
        · rw [List.find?_cons_of_pos (by simpa using hx'), List.find?_cons_of_pos (by simpa using hx')]
        · rw [List.find?_cons_of_neg (by simpa using hx'), List.find?_cons_of_neg (by simpa using hx'), ih]

theorem lookup_filter {α β : Type} [DecidableEq α] (l : List (α × β)) (p : α → Bool) (a : α) :
    lookup (l.filter fun c => p c.1) a = if p a then lookup l a else none := by
  unfold lookup
  induction l with
  | nil => simp
  | cons x r ih =>
    simp only [List.filter_cons]
    by_cases hp : p x.1 = true
    · simp only [hp, if_true, List.find?_cons]
      by_cases hx : x.1 = a
      · subst hx; simp [hp]
      · simp only [hx, decide_false]; exact ih
    · have hp' : p x.1 = false := by simpa using hp
      simp only [hp', Bool.false_eq_true, if_false, List.find?_cons]
      by_cases hx : x.1 = a
      · subst hx; rw [ih]; simp [hp']
      · simp only [hx, decide_false]; exact ih

/-- the order `sortD` sorts by -/
def leD (x y : Nat × Nat × Nat) : Prop := x.1 < y.1 ∨ (x.1 = y.1 ∧ (x.2.1 < y.2.1 ∨ (x.2.1 = y.2.1 ∧ x.2.2 ≤ y.2.2)))

theorem leD_total (x y : Nat × Nat × Nat) : leD x y ∨ leD y x := by unfold leD; omega

theorem leD_trans {x y z : Nat × Nat × Nat} (a : leD x y) (b : leD y z) : leD x z := by unfold leD at *; omega

theorem leD_antisymm {x y : Nat × Nat × Nat} (a : leD x y) (b : leD y x) : x = y := by
  unfold leD at *
  obtain ⟨x1, x2, x3⟩ := x; obtain ⟨y1, y2, y3⟩ := y
  simp only at a b
  have : x1 = y1 ∧ x2 = y2 ∧ x3 = y3 := by omega
  rw [this.1, this.2.1, this.2.2]

theorem insertSorted_perm (x : Nat × Nat × Nat) : ∀ l, (insertSorted x l).Perm (x :: l)
  | [] => List.Perm.refl _
  | y :: r => by
    unfold insertSorted
    split
    · exact List.Perm.refl _
    · exact ((insertSorted_perm x r).cons y).trans (List.Perm.swap x y r)

theorem insertSorted_sorted (x : Nat × Nat × Nat) : ∀ l, l.Pairwise leD → (insertSorted x l).Pairwise leD
  | [], _ => by simp [insertSorted]
  | y :: r, h => by
    unfold insertSorted
    have hy := List.pairwise_cons.mp h
    split
    · rename_i hxy
      refine List.pairwise_cons.mpr ⟨?_, h⟩
      intro z hz
      rcases List.mem_cons.mp hz with rfl | hz
      · exact hxy
      · exact leD_trans hxy (hy.1 z hz)
    · rename_i hxy
      refine List.pairwise_cons.mpr ⟨?_, insertSorted_sorted x r hy.2⟩
      intro z hz
      have := (insertSorted_perm x r).subset hz
      rcases List.mem_cons.mp this with rfl | hz'
      · rcases leD_total z y with h1 | h1
        · exact absurd h1 hxy
        · exact h1
      · exact hy.1 z hz'

theorem sortD_perm : ∀ l, (sortD l).Perm l
  | [] => List.Perm.refl _
  | x :: r => by
    show (insertSorted x (sortD r)).Perm (x :: r)
    exact (insertSorted_perm x _).trans ((sortD_perm r).cons x)

theorem sortD_sorted : ∀ l, (sortD l).Pairwise leD
  | [] => List.Pairwise.nil
  | x :: r => insertSorted_sorted x _ (sortD_sorted r)

/-- `sortD` is canonical: permutations sort to the same list -/
theorem sortD_eq_of_perm {l₁ l₂ : List (Nat × Nat × Nat)} (h : l₁.Perm l₂) : sortD l₁ = sortD l₂ :=
  List.Perm.eq_of_pairwise (le := leD) (fun _ _ _ _ a b => leD_antisymm a b) (sortD_sorted l₁) (sortD_sorted l₂)
    ((sortD_perm l₁).trans (h.trans (sortD_perm l₂).symm))

theorem drop_append_self {α : Type} (l d : List α) : (l ++ d).drop l.length = d := by simp

structure RInv (s : State) : Prop where
  /-- the library key has a notifier (`pp_uthread_cleanup`) and is never released by an event of the machine -/
  k0n : (s.key 0).notifier = true
  k0w : (s.key 0).wrapperFreed = false
  /-- a library thread that has left its function still has its handle in its library cell -/
  tF : ∀ t h, (s.thr t).phase = .finished → (s.thr t).handle = some h →
        ∃ n, (s.key 0).published = some n ∧ s.tls t n = h + 1

theorem RInv.init : RInv init := by
  refine ⟨by simp [PV.UThread.init], by simp [PV.UThread.init], ?_⟩
  intro t h hp; simp [PV.UThread.init] at hp; split at hp <;> cases hp

/-- events that keep the library key's record (up to publication), the thread records (up to `pend`) and the library cells -/
theorem RInv.frame {s s' : State} (hr : RInv s)
    (e1 : (s'.key 0).notifier = (s.key 0).notifier ∧ (s'.key 0).wrapperFreed = (s.key 0).wrapperFreed)
    (e2 : ∀ t, (s'.thr t).phase = (s.thr t).phase ∧ (s'.thr t).handle = (s.thr t).handle)
    (e3 : ∀ t n, (s.key 0).published = some n → (s'.key 0).published = some n ∧ s'.tls t n = s.tls t n) : RInv s' := by
  refine ⟨e1.1 ▸ hr.k0n, e1.2 ▸ hr.k0w, ?_⟩
  intro t h hp hh
  rw [(e2 t).1] at hp; rw [(e2 t).2] at hh
  obtain ⟨n, h1, h2⟩ := hr.tF t h hp hh
  exact ⟨n, (e3 t n h1).1, (e3 t n h1).2 ▸ h2⟩

theorem RInv.step {s s' : State} {e : Ev} (hr : RInv s) (hk : KInv s) (hi : HInv s) (hs : step s e = .ok s') : RInv s' := by
  have k0 := hi.k0
  cases step_ok hs with
  | spawn | createBegin =>
    refine ⟨hr.k0n, hr.k0w, ?_⟩
    intro t h hp hh; simp only at hp hh ⊢
    by_cases e : t = s.nT
    · subst e; simp at hp
    · rw [upd_ne _ _ e] at hp hh; exact hr.tF t h hp hh
  | start t' _ _ hph =>
    refine ⟨hr.k0n, hr.k0w, ?_⟩
    intro t h hp hh; simp only at hp hh ⊢
    have e : t ≠ t' := by intro e; subst e; simp at hp
    rw [upd_ne _ _ e] at hp hh
    obtain ⟨n, h1, h2⟩ := hr.tF t h hp hh
    exact ⟨n, h1, by rw [upd2_ne _ _ (by simp [e])]; exact h2⟩
  | current t' n0 hc | exitForeign t' n0 _ hc =>
    refine ⟨hr.k0n, hr.k0w, ?_⟩
    intro t h hp hh
    have e : t ≠ t' := by intro e; subst e; rw [hc.1] at hp; cases hp
    obtain ⟨n, h1, h2⟩ := hr.tF t h hp hh
    exact ⟨n, h1, by simp only; rw [currentCore_tls s t' n0 (by simp [e])]; exact h2⟩
  | exitOurs t' n0 c hc _ hp0 =>
    refine ⟨hr.k0n, hr.k0w, ?_⟩
    intro t h hp hh; simp only at hp hh ⊢
    by_cases e : t = t'
    · subst e; simp at hh
      obtain ⟨h2, hcur⟩ := hi.cell_of_running hc.1 hh hp0
      exact ⟨n0, hp0, by rw [hcur]; exact h2⟩
    · rw [upd_ne _ _ e] at hp hh
      obtain ⟨n, h1, h2⟩ := hr.tF t h hp hh
      exact ⟨n, h1, by rw [currentCore_tls s t' n0 (by simp [e])]; exact h2⟩
  | ret t' hc | retUnstored t' _ hc =>
    refine ⟨hr.k0n, hr.k0w, ?_⟩
    intro t h hp hh; simp only at hp hh ⊢
    by_cases e : t = t'
    · subst e; simp at hh; exact hi.tR t h hc.1 hh
    · rw [upd_ne _ _ e] at hp hh; exact hr.tF t h hp hh
  | threadEnd s1 t' hph hrd =>
    refine ⟨hr.k0n, hr.k0w, ?_⟩
    intro t h hp hh; simp only at hp hh ⊢
    have e : t ≠ t' := by intro e; subst e; simp at hp
    rw [upd_ne _ _ e] at hp hh
    obtain ⟨n, h1, h2⟩ := hr.tF t h hp hh
    exact ⟨n, h1, by rw [runDtors_tls hrd]; simp [e]; exact h2⟩
  | localNew =>
    have e : (0 : Nat) ≠ s.nK := by omega
    refine hr.frame ⟨by simp only; rw [upd_ne _ _ e], by simp only; rw [upd_ne _ _ e]⟩ (fun _ => ⟨rfl, rfl⟩) ?_
    intro t n hp; simp only; rw [upd_ne _ _ e]; exact ⟨hp, trivial⟩
  | localFreeUnused _ _ _ hk0 | localFree _ _ _ _ hk0 =>
    refine hr.frame ⟨by simp only; rw [upd_ne _ _ (Ne.symm hk0)], by simp only; rw [upd_ne _ _ (Ne.symm hk0)]⟩ (fun _ => ⟨rfl, rfl⟩) ?_
    intro t n hp; simp only; rw [upd_ne _ _ (Ne.symm hk0)]; exact ⟨hp, trivial⟩
  | keyCreate t' =>
    exact hr.frame ⟨rfl, rfl⟩ (fun t => ⟨(thr_upd_pend s t' _ t).1, (thr_upd_pend s t' _ t).2.1⟩) (fun _ _ hp => ⟨hp, rfl⟩)
  | keyCasWin t' k _ _ _ hpub =>
    refine hr.frame ?_ (fun t => ⟨(thr_upd_pend s t' _ t).1, (thr_upd_pend s t' _ t).2.1⟩) ?_
    · simp only; by_cases e : 0 = k
      · subst e; simp
      · rw [upd_ne _ _ e]; exact ⟨rfl, rfl⟩
    · intro t m hp; simp only
      have e : (0 : Nat) ≠ k := by intro e; subst e; rw [hpub] at hp; cases hp
      rw [upd_ne _ _ e]; exact ⟨hp, trivial⟩
  | keyCasLose t' k =>
    refine hr.frame ?_ (fun t => ⟨(thr_upd_pend s t' _ t).1, (thr_upd_pend s t' _ t).2.1⟩) ?_
    · simp only; by_cases e : 0 = k
      · subst e; simp
      · rw [upd_ne _ _ e]; exact ⟨rfl, rfl⟩
    · intro t m hp; simp only
      by_cases e : 0 = k
      · subst e; simp [hp]
      · rw [upd_ne _ _ e]; exact ⟨hp, trivial⟩
  | setLocal _ _ _ _ _ hk0 _ _ hp | replaceLocal _ _ _ _ _ hk0 _ _ hp =>
    refine hr.frame ⟨rfl, rfl⟩ (fun _ => ⟨rfl, rfl⟩) ?_
    intro t m hp0; simp only
    rw [upd2_ne _ _ (by intro x; exact hk.user_ne_lib hk0 hp hp0 x.2.symm)]; exact ⟨hp0, rfl⟩
  | startUnstored t' =>
    refine ⟨hr.k0n, hr.k0w, ?_⟩
    intro t h hp hh; simp only at hp hh ⊢
    by_cases e : t = t'
    · subst e; simp [upd] at hh
    · rw [upd_ne _ _ e] at hp hh; exact hr.tF t h hp hh
  | _ => exact ⟨hr.k0n, hr.k0w, hr.tF⟩

/-- what the reference knows of a handle -/
def absH (x : Handle) : H :=
  { refs := if x.freed then 0 else if x.written then holders x else 2
    joinable := x.joinable, code := x.retCode, live := !x.freed }

def hOf (s : State) (h : Nat) : Option H := if h < s.nH then some (absH (s.hdl h)) else none
def kOf (s : State) (k : Nat) : Option Bool := if k < s.nK then some (s.key k).notifier else none

/-- the handle that describes thread `t`, as the reference sees it: the handle a library thread was created
    with (until the thread has ended), otherwise whatever sits in the thread's library cell -/
def selfOf (s : State) (t : Nat) : Option Nat :=
  match (s.thr t).handle with
  | some h => if (s.thr t).phase = .ended then none else some h
  | none =>
    match (s.key 0).published with
    | some n => if s.tls t n = 0 then none else some (s.tls t n - 1)
    | none => none

/-- what thread `t` sees under key `k`; nothing once the key has been released -/
def cellOf (s : State) (t k : Nat) : Nat := if (s.key k).wrapperFreed then 0 else valueOf s t k

structure Abs (s : State) (sp : S) : Prop where
  aH : ∀ h, sp.handles[h]? = hOf s h
  aT : sp.nThreads = s.nT
  aS : ∀ t, lookup sp.threadHandle t = selfOf s t
  aO : ∀ t, t ∈ sp.ours ↔ (s.thr t).handle.isSome = true
  aK : ∀ k, sp.keys[k]? = kOf s k
  aC : ∀ t k, k ≠ 0 → sp.cell t k = cellOf s t k
  aF : ∀ k, k ∈ sp.freedKeys ↔ (s.key k).wrapperFreed = true

theorem len_of_getElem? {α : Type} {l : List α} {n : Nat} {f : Nat → α}
    (h : ∀ i, l[i]? = if i < n then some (f i) else none) : l.length = n := by
  have h1 : l.length ≤ n := by
    have := h n; simp at this; exact this
  apply Classical.byContradiction; intro hne
  have hlt : l.length < n := by omega
  have := h l.length
  rw [if_pos hlt] at this
  have h2 : l[l.length]? = none := by simp
  rw [h2] at this
  cases this

theorem Abs.hlen {s : State} {sp : S} (a : Abs s sp) : sp.handles.length = s.nH :=
  len_of_getElem? (f := fun h => absH (s.hdl h)) (fun i => by rw [a.aH i]; rfl)

theorem Abs.klen {s : State} {sp : S} (a : Abs s sp) : sp.keys.length = s.nK :=
  len_of_getElem? (f := fun k => (s.key k).notifier) (fun i => by rw [a.aK i]; rfl)

theorem Abs.live {s : State} {sp : S} (a : Abs s sp) : sp.live = liveOf s := by
  unfold S.live liveOf
  rw [a.hlen]
  apply List.filter_congr
  intro h hh
  have := List.mem_range.mp hh
  rw [a.aH h, hOf, if_pos this]; simp [absH]

theorem Abs.notif {s : State} {sp : S} (a : Abs s sp) (k : Nat) : sp.keys[k]?.getD false = (decide (k < s.nK) && (s.key k).notifier) := by
  rw [a.aK k, kOf]; split <;> simp [*]

/-- the machine changed nothing the reference can see -/
theorem Abs.same {s s' : State} {sp : S} (a : Abs s sp) (e1 : ∀ h, hOf s' h = hOf s h) (e2 : s'.nT = s.nT)
    (e3 : ∀ t, selfOf s' t = selfOf s t) (e4 : ∀ t, (s'.thr t).handle.isSome = (s.thr t).handle.isSome)
    (e5 : ∀ k, kOf s' k = kOf s k) (e6 : ∀ t k, k ≠ 0 → cellOf s' t k = cellOf s t k)
    (e7 : ∀ k, (s'.key k).wrapperFreed = (s.key k).wrapperFreed) : Abs s' sp :=
  ⟨fun h => (a.aH h).trans (e1 h).symm, a.aT.trans e2.symm, fun t => (a.aS t).trans (e3 t).symm,
   fun t => by rw [e4]; exact a.aO t, fun k => (a.aK k).trans (e5 k).symm,
   fun t k hk => (a.aC t k hk).trans (e6 t k hk).symm, fun k => by rw [e7]; exact a.aF k⟩

/-- while a creation is in progress the half-made handle already carries the requested `joinable` -/
def SJInv (s : State) : Prop := ∀ c, s.spin = some c → (s.hdl c.h).joinable = c.joinable ∧ c.h < s.nH

theorem SJInv.frame {s s' : State} (hj : SJInv s) (e1 : s'.spin = s.spin) (e2 : s.nH ≤ s'.nH)
    (e3 : ∀ h, h < s.nH → (s'.hdl h).joinable = (s.hdl h).joinable) : SJInv s' := by
  intro c hc; rw [e1] at hc
  have := hj c hc
  exact ⟨(e3 c.h this.2).trans this.1, by omega⟩

theorem currentCore_joinable (s : State) (t n : Nat) :
    s.nH ≤ (currentCore s t n).1.nH ∧ ∀ h, h < s.nH → ((currentCore s t n).1.hdl h).joinable = (s.hdl h).joinable := by
  unfold currentCore; split
  · exact ⟨Nat.le_refl _, fun _ _ => rfl⟩
  · refine ⟨by simp, fun h hh => ?_⟩
    simp only; rw [upd_ne _ _ (by omega)]

theorem SJInv.step {s s' : State} {e : Ev} (hj : SJInv s) (hs : step s e = .ok s') : SJInv s' := by
  cases step_ok hs with
  | createBegin => intro c hc; cases hc; simp
  | createEnd => intro c' hc'; cases hc'
  | current t n | exitForeign t n =>
    exact hj.frame rfl (currentCore_joinable s t n).1 (currentCore_joinable s t n).2
  | exitOurs t n =>
    refine hj.frame rfl (currentCore_joinable s t n).1 fun h hh => ?_
    refine Eq.trans ?_ ((currentCore_joinable s t n).2 h hh); apply upd_proj Handle.joinable; rfl
  | threadEnd _ _ _ hr => exact hj.frame rfl (Nat.le_refl _) (fun h _ => runDtors_proj (·.joinable) (fun _ => rfl) hr h)
  | ref | unref | joinEnded | startUnstored | retUnstored =>
    exact hj.frame rfl (Nat.le_refl _) (fun h' _ => by apply upd_proj Handle.joinable; rfl)
  | createFail | currentFail =>
    refine hj.frame rfl (Nat.le_succ _) (fun h hh => ?_)
    simp only; rw [upd_ne _ _ (by omega)]
  | _ => exact hj.frame rfl (Nat.le_refl _) (fun _ _ => rfl)

theorem Reach.rinv {s : State} (h : Reach s) : RInv s ∧ SJInv s := by
  induction h with
  | init => exact ⟨RInv.init, fun c hc => by simp [PV.UThread.init] at hc⟩
  | step e hr hs ih => exact ⟨ih.1.step hr.inv.1 hr.inv.2 hs, ih.2.step hs⟩

/-- the answer when neither a handle is freed nor a notifier called nor anything returned -/
theorem obsM_quiet {s s' : State} {e : Ev} (hret : (match e with
      | .spawn => False | .createBegin _ _ _ => False | .localNew _ _ => False | _ => True))
    (h1 : s'.joinLog = s.joinLog) (h2 : s'.getLog = s.getLog) (h3 : s'.curLog = s.curLog)
    (h4 : s'.freeLog = s.freeLog) (h5 : s'.dtorLog = s.dtorLog) :
    obsM s e s' = { live := liveOf s' } := by
  unfold obsM
  rw [h1, h2, h3, h4, h5]
  cases e <;> simp_all [sortD]

theorem selfOf_thr_eq {s s' : State} (t : Nat) (e1 : (s'.thr t).handle = (s.thr t).handle)
    (e2 : (s'.thr t).handle.isSome = true → ((s'.thr t).phase = .ended ↔ (s.thr t).phase = .ended))
    (e3 : (s'.thr t).handle = none → (s'.key 0).published = (s.key 0).published ∧
      ∀ n, (s.key 0).published = some n → s'.tls t n = s.tls t n) :
    selfOf s' t = selfOf s t := by
  unfold selfOf
  rw [e1]
  cases hh : (s.thr t).handle with
  | some h =>
    simp only
    have := e2 (by rw [e1, hh]; rfl)
    by_cases c : (s.thr t).phase = .ended
    · rw [if_pos c, if_pos (this.mpr c)]
    · rw [if_neg c, if_neg (fun x => c (this.mp x))]
  | none =>
    simp only
    have := e3 (by rw [e1, hh])
    rw [this.1]
    cases hp : (s.key 0).published with
    | none => rfl
    | some n => simp only; rw [this.2 n hp]

theorem cellOf_eq {s s' : State} {t k : Nat} (e1 : (s'.key k).wrapperFreed = (s.key k).wrapperFreed)
    (e2 : valueOf s' t k = valueOf s t k) : cellOf s' t k = cellOf s t k := by
  unfold cellOf; rw [e1, e2]

theorem Abs.setThread {s : State} {sp : S} (ab : Abs s sp) {t : Nat} (x : Thread) (hh : x.handle = (s.thr t).handle)
    (hp : x.phase = .ended ↔ (s.thr t).phase = .ended) : Abs { s with thr := upd s.thr t x } sp := by
  refine ab.same (fun _ => rfl) rfl ?_ ?_ (fun _ => rfl) (fun _ _ _ => rfl) (fun _ => rfl)
  · intro t'
    by_cases e : t' = t
    · subst e
      exact selfOf_thr_eq t' (by simp [hh]) (fun _ => by simpa using hp) (fun _ => ⟨rfl, fun _ _ => rfl⟩)
    · exact selfOf_thr_eq t' (by simp only; rw [upd_ne _ _ e]) (fun _ => by simp only; rw [upd_ne _ _ e]) (fun _ => ⟨rfl, fun _ _ => rfl⟩)
  · intro t'; simp only
    by_cases e : t' = t
    · subst e; simp [hh]
    · rw [upd_ne _ _ e]

theorem refine_createEnd {s s' : State} {sp : S} {a : Nat} (hi : HInv s) (hj : SJInv s) (ab : Abs s sp)
    (hs : step s (.createEnd a) = .ok s') : Abs s' sp ∧ obsM s (.createEnd a) s' = { live := liveOf s' } := by
  cases step_ok hs with | createEnd _ c hc => ?_
  refine ⟨?_, obsM_quiet trivial rfl rfl rfl rfl rfl⟩
  have hu := hi.hU c.h (hi.sC c hc).2.1
  refine ab.same ?_ rfl (fun t => selfOf_thr_eq t rfl (fun _ => Iff.rfl) (fun _ => ⟨rfl, fun _ _ => rfl⟩)) (fun _ => rfl)
    (fun _ => rfl) (fun _ _ _ => rfl) (fun _ => rfl)
  intro h; unfold hOf; simp only
  by_cases e : h = c.h
  · subst e
    simp only [upd_same, absH, holders, hu.1, (hi.sC c hc).2.1, hu.2.2.2.2.1, (hj c hc).1]
    simp
  · rw [upd_ne _ _ e]

theorem refine_start {s s' : State} {sp : S} {t : Nat} (hk : KInv s) (ab : Abs s sp)
    (hs : step s (.start t) = .ok s') : Abs s' sp ∧ obsM s (.start t) s' = { live := liveOf s' } := by
  have hv := fun t' k (hk0 : k ≠ 0) => valueOf_frame (t := t') (k := k) hk hs hk0 (fun _ => by simp) (fun _ => by simp) (by simp)
  cases step_ok hs with | start _ hd n hph _ hh _ hp => ?_
  refine ⟨?_, obsM_quiet trivial rfl rfl rfl rfl rfl⟩
  refine ab.same (fun _ => rfl) rfl ?_ ?_ (fun _ => rfl) (fun t' k hk0 => cellOf_eq rfl (hv t' k hk0)) (fun _ => rfl)
  · intro t'
    by_cases e : t' = t
    · subst e
      refine selfOf_thr_eq t' (by simp) ?_ ?_
      · intro _; simp [hph]
      · intro hn; simp [hh] at hn
    · refine selfOf_thr_eq t' (by simp only; rw [upd_ne _ _ e]) (fun _ => by simp only; rw [upd_ne _ _ e]) ?_
      intro _; exact ⟨rfl, fun m _ => by simp only; rw [upd2_ne _ _ (by simp [e])]⟩
  · intro t'; simp only
    by_cases e : t' = t
    · subst e; simp
    · rw [upd_ne _ _ e]

theorem refine_ret {s s' : State} {sp : S} {t : Nat} (ab : Abs s sp)
    (hs : step s (.ret t) = .ok s') : Abs s' sp ∧ obsM s (.ret t) s' = { live := liveOf s' } := by
  cases step_ok hs with | ret _ hc => ?_
  exact ⟨ab.setThread _ rfl (by simp [hc.1]), obsM_quiet trivial rfl rfl rfl rfl rfl⟩

theorem refine_keyCreate {s s' : State} {sp : S} {t k : Nat} (hk : KInv s) (ab : Abs s sp)
    (hs : step s (.keyCreate t k) = .ok s') : Abs s' sp ∧ obsM s (.keyCreate t k) s' = { live := liveOf s' } := by
  have hv := fun t' k' (hk0 : k' ≠ 0) => valueOf_frame (t := t') (k := k') hk hs hk0 (fun _ => by simp) (fun _ => by simp) (by simp)
  cases step_ok hs with | keyCreate => ?_
  refine ⟨?_, obsM_quiet trivial rfl rfl rfl rfl rfl⟩
  refine ab.same (fun _ => rfl) rfl ?_ (fun t' => by rw [(thr_upd_pend s t _ t').2.1]) (fun _ => rfl)
    (fun t' k' hk0 => cellOf_eq rfl (hv t' k' hk0)) (fun _ => rfl)
  intro t'
  exact selfOf_thr_eq t' (thr_upd_pend s t _ t').2.1 (fun _ => by rw [(thr_upd_pend s t _ t').1]) (fun _ => ⟨rfl, fun _ _ => rfl⟩)

theorem refine_keyCas {s s' : State} {sp : S} {t k : Nat} (hk : KInv s) (ab : Abs s sp)
    (hs : step s (.keyCas t k) = .ok s') : Abs s' sp ∧ obsM s (.keyCas t k) s' = { live := liveOf s' } := by
  have hv := fun t' k' (hk0 : k' ≠ 0) => valueOf_frame (t := t') (k := k') hk hs hk0 (fun _ => by simp) (fun _ => by simp) (by simp)
  cases step_ok hs with | keyCasWin _ _ n hpd _ hpub => ?_ | keyCasLose _ _ n m hpd _ hpub => ?_
  all_goals have hE := hk.kE t k n hpd
  · refine ⟨?_, obsM_quiet trivial rfl rfl rfl rfl rfl⟩
    have wf : ∀ j, (upd s.key k { s.key k with published := some n } j).wrapperFreed = (s.key j).wrapperFreed ∧
        (upd s.key k { s.key k with published := some n } j).notifier = (s.key j).notifier :=
      fun j => ⟨upd_proj Key.wrapperFreed (by rfl) j, upd_proj Key.notifier (by rfl) j⟩
    refine ab.same (fun _ => rfl) rfl ?_ (fun t' => by rw [(thr_upd_pend s t _ t').2.1])
      (fun j => by unfold kOf; simp only; rw [(wf j).2])
      (fun t' k' hk0 => cellOf_eq (wf k').1 (hv t' k' hk0)) (fun j => (wf j).1)
    intro t'
    unfold selfOf
    rw [(thr_upd_pend s t _ t').2.1, (thr_upd_pend s t _ t').1]
    cases (s.thr t').handle with
    | some h => rfl
    | none =>
      simp only
      by_cases e : 0 = k
      · subst e
        simp [hpub]
        -- the native key just published holds no value yet
        apply Classical.byContradiction; intro hv'
        have := hk.kV t' n hv'
        rw [hE.2.1, hpub] at this; cases this
      · rw [upd_ne _ _ e]
  · refine ⟨?_, obsM_quiet trivial rfl rfl rfl rfl rfl⟩
    have wf : ∀ j, (upd s.key k { s.key k with losers := (s.key k).losers ++ [n] } j).wrapperFreed = (s.key j).wrapperFreed ∧
        (upd s.key k { s.key k with losers := (s.key k).losers ++ [n] } j).notifier = (s.key j).notifier ∧
        (upd s.key k { s.key k with losers := (s.key k).losers ++ [n] } j).published = (s.key j).published :=
      fun j => ⟨upd_proj Key.wrapperFreed (by rfl) j, upd_proj Key.notifier (by rfl) j, upd_proj Key.published (by rfl) j⟩
    refine ab.same (fun _ => rfl) rfl ?_ (fun t' => by rw [(thr_upd_pend s t _ t').2.1])
      (fun j => by unfold kOf; simp only; rw [(wf j).2.1])
      (fun t' k' hk0 => cellOf_eq (wf k').1 (hv t' k' hk0)) (fun j => (wf j).1)
    intro t'
    exact selfOf_thr_eq t' (thr_upd_pend s t _ t').2.1 (fun _ => by rw [(thr_upd_pend s t _ t').1])
      (fun _ => ⟨(wf 0).2.2, fun _ _ => rfl⟩)

theorem hOf_upd_same_abs {s : State} {h0 : Nat} {x : Handle} {fl : List Nat} (hx : absH x = absH (s.hdl h0)) (h : Nat) :
    hOf { s with hdl := upd s.hdl h0 x, freeLog := fl } h = hOf s h := by
  unfold hOf; simp only
  by_cases e : h = h0
  · subst e; simp [hx]
  · rw [upd_ne _ _ e]

theorem refine_join {s s' : State} {sp : S} {a h : Nat} (ab : Abs s sp)
    (hs : step s (.join a h) = .ok s') :
    Abs s' sp ∧ obsM s (.join a h) s' = { ret := [Sp.join sp h], live := liveOf s' } := by
  cases step_ok hs with | joinDetached _ _ _ hlt hw hf hj => ?_ | joinEnded _ _ _ hlt hw hf hj => ?_
  all_goals have hsp : sp.handles[h]? = some (absH (s.hdl h)) := by rw [ab.aH h, hOf, if_pos hlt]
  · refine ⟨ab.same (fun _ => rfl) rfl (fun _ => rfl) (fun _ => rfl) (fun _ => rfl) (fun _ _ _ => rfl) (fun _ => rfl), ?_⟩
    simp [obsM, PV.UThreadSpec.join, hsp, absH, hj, sortD]
  · refine ⟨?_, ?_⟩
    · refine ab.same ?_ rfl (fun _ => rfl) (fun _ => rfl) (fun _ => rfl) (fun _ _ _ => rfl) (fun _ => rfl)
      intro h'
      have := hOf_upd_same_abs (s := s) (h0 := h) (x := { s.hdl h with joined := true }) (fl := s.freeLog) (by simp [absH, holders]) h'
      exact this
    · simp [obsM, PV.UThreadSpec.join, hsp, absH, hj, sortD]

theorem refine_joinFail {s s' : State} {sp : S} {a h : Nat} (ab : Abs s sp)
    (hs : step s (.joinFail a h) = .ok s') :
    Abs s' sp ∧ obsM s (.joinFail a h) s' = { ret := [Sp.join sp h], live := liveOf s' } := by
  cases step_ok hs with | joinFail _ _ _ hlt hw hf hj => ?_
  have hsp : sp.handles[h]? = some (absH (s.hdl h)) := by rw [ab.aH h, hOf, if_pos hlt]
  refine ⟨ab.same (fun _ => rfl) rfl (fun _ => rfl) (fun _ => rfl) (fun _ => rfl) (fun _ _ _ => rfl) (fun _ => rfl), ?_⟩
  simp [obsM, PV.UThreadSpec.join, hsp, absH, hj, sortD]

theorem refine_getLocal {s s' : State} {sp : S} {t k : Nat} (ab : Abs s sp)
    (hs : step s (.getLocal t k) = .ok s') :
    Abs s' sp ∧ obsM s (.getLocal t k) s' = { ret := [(sp.cell t k : Int)], live := liveOf s' } := by
  cases step_ok hs with | getLocal _ _ n _ hk0 _ hwf hp => ?_
  refine ⟨ab.same (fun _ => rfl) rfl (fun _ => rfl) (fun _ => rfl) (fun _ => rfl) (fun _ _ _ => rfl) (fun _ => rfl), ?_⟩
  have : sp.cell t k = s.tls t n := by rw [ab.aC t k hk0, cellOf, hwf]; simp [valueOf_pub hp]
  simp [obsM, this, sortD]

theorem refine_spawn {s s' : State} {sp : S} (hk : KInv s) (ab : Abs s sp)
    (hs : step s .spawn = .ok s') :
    Abs s' (Sp.spawn sp).1 ∧ obsM s .spawn s' = { ret := [((Sp.spawn sp).2 : Int)], live := liveOf s' } := by
  cases step_ok hs with | spawn => ?_
  have hnew := hk.tP s.nT (Nat.le_refl _)
  refine ⟨?_, by simp [obsM, PV.UThreadSpec.spawn, ab.aT, sortD]⟩
  have thr_h : ∀ t, (upd s.thr s.nT { phase := .running } t).handle = (s.thr t).handle := by
    intro t; by_cases e : t = s.nT
    · subst e; simp [hnew]
    · rw [upd_ne _ _ e]
  refine ⟨ab.aH, by simp [PV.UThreadSpec.spawn, ab.aT], ?_, ?_, ab.aK, ab.aC, ab.aF⟩
  · intro t
    rw [show lookup (PV.UThreadSpec.spawn sp).1.threadHandle t = lookup sp.threadHandle t from rfl, ab.aS t]
    symm
    refine selfOf_thr_eq t (thr_h t) ?_ (fun _ => ⟨rfl, fun _ _ => rfl⟩)
    intro hsome
    have e : t ≠ s.nT := by intro e; subst e; simp at hsome
    simp only; rw [upd_ne _ _ e]
  · intro t
    rw [show (PV.UThreadSpec.spawn sp).1.ours = sp.ours from rfl, ab.aO t]; simp only; rw [thr_h]

/-- a table that lists `g (f i)` for `i < n`, with one entry appended, lists `g` of `f` with the entry for `n` set -/
theorem getElem?_snoc_upd {β γ : Type} {l : List β} {n : Nat} {f : Nat → γ} {g : γ → β} {b : β} {y : γ}
    (hl : ∀ i, l[i]? = if i < n then some (g (f i)) else none) (hb : b = g y) (i : Nat) :
    (l ++ [b])[i]? = if i < n + 1 then some (g (upd f n y i)) else none := by
  have hlen : l.length = n := len_of_getElem? (f := fun i => g (f i)) hl
  by_cases h : i < n
  · rw [List.getElem?_append_left (hlen ▸ h), hl i, if_pos h, if_pos (by omega), upd_ne _ _ (by omega)]
  · by_cases e : i = n
    · subst e; rw [List.getElem?_append_right (by omega), hlen, Nat.sub_self, if_pos (by omega), upd_same, hb]; rfl
    · rw [if_neg (by omega), List.getElem?_eq_none (by simp; omega)]

theorem refine_createBegin {s s' : State} {sp : S} {a : Nat} {j n : Bool} (ab : Abs s sp)
    (hs : step s (.createBegin a j n) = .ok s') :
    Abs s' (Sp.create sp j).1 ∧
    obsM s (.createBegin a j n) s' = { ret := [((Sp.create sp j).2.1 : Int), ((Sp.create sp j).2.2 : Int)], live := liveOf s' } := by
  cases step_ok hs with | createBegin => ?_
  refine ⟨?_, by simp [obsM, create, ab.aT, ab.hlen, sortD]⟩
  refine ⟨?_, by simp [create, ab.aT], ?_, ?_, ab.aK, ab.aC, ab.aF⟩
  · exact getElem?_snoc_upd (g := absH) ab.aH rfl
  · intro t
    simp only [create]
    rw [lookup_store, ab.aT, ab.hlen]
    by_cases e : t = s.nT
    · subst e; simp [selfOf]
    · rw [if_neg e, ab.aS t]
      symm
      exact selfOf_thr_eq t (by simp only; rw [upd_ne _ _ e]) (fun _ => by simp only; rw [upd_ne _ _ e]) (fun _ => ⟨rfl, fun _ _ => rfl⟩)
  · intro t
    simp only [create, List.mem_cons, ab.aT]
    by_cases e : t = s.nT
    · subst e; simp
    · rw [upd_ne _ _ e, ← ab.aO t]; simp [e]

/-- both sides when a block takes the next handle id and is released at once -/
theorem refine_allocFreed {s : State} {sp : S} (e : Ev) (ab : Abs s sp)
    (he : match e with | .createFail _ => True | .currentFail _ => True | _ => False) :
    let s' : State := { s with nH := s.nH + 1, hdl := upd s.hdl s.nH { freed := true, written := true }, freeLog := s.freeLog ++ [s.nH] }
    Abs s' (createFailed sp).1 ∧ obsM s e s' = { live := liveOf s', freed := [(createFailed sp).2] } := by
  intro s'
  refine ⟨?_, ?_⟩
  · refine ⟨?_, by simp [createFailed, ab.aT, s'], ?_, ?_, ab.aK, ab.aC, ab.aF⟩
    · exact getElem?_snoc_upd (g := absH) ab.aH rfl
    · intro t
      rw [show lookup (createFailed sp).1.threadHandle t = lookup sp.threadHandle t from rfl, ab.aS t]
      symm
      exact selfOf_thr_eq t rfl (fun _ => Iff.rfl) (fun _ => ⟨rfl, fun _ _ => rfl⟩)
    · intro t
      rw [show (createFailed sp).1.ours = sp.ours from rfl, ab.aO t]
  · cases e <;> simp at he <;> simp [obsM, createFailed, ab.hlen, sortD, s']

theorem refine_createFail {s s' : State} {sp : S} {a : Nat} (ab : Abs s sp)
    (hs : step s (.createFail a) = .ok s') :
    Abs s' (createFailed sp).1 ∧
    obsM s (.createFail a) s' = { live := liveOf s', freed := [(createFailed sp).2] } := by
  cases step_ok hs with | createFail => ?_
  exact refine_allocFreed (.createFail a) ab trivial

theorem refine_currentFail {s s' : State} {sp : S} {t : Nat} (ab : Abs s sp)
    (hs : step s (.currentFail t) = .ok s') :
    Abs s' (createFailed sp).1 ∧
    obsM s (.currentFail t) s' = { live := liveOf s', freed := [(createFailed sp).2] } := by
  cases step_ok hs with | currentFail => ?_
  exact refine_allocFreed (.currentFail t) ab trivial

theorem refine_tlsFail {s s' : State} {sp : S} {t k : Nat} {g : Bool} (ab : Abs s sp)
    (hs : step s (.tlsFail t k g) = .ok s') :
    Abs s' sp ∧ obsM s (.tlsFail t k g) s' = { ret := if g then [(sp.cell t k : Int)] else [], live := liveOf s' } := by
  cases step_ok hs with | tlsFail _ _ _ _ hk0 _ hwf hp => ?_
  refine ⟨ab.same (fun _ => rfl) rfl (fun _ => rfl) (fun _ => rfl) (fun _ => rfl) (fun _ _ _ => rfl) (fun _ => rfl), ?_⟩
  have : sp.cell t k = 0 := by rw [ab.aC t k hk0, cellOf, hwf]; simp [valueOf, hp]
  cases g <;> simp [obsM, this, sortD]

theorem refine_localNew {s s' : State} {sp : S} {a : Nat} {nf : Bool} (hk : KInv s) (hi : HInv s) (ab : Abs s sp)
    (hs : step s (.localNew a nf) = .ok s') :
    Abs s' (Sp.keyNew sp nf).1 ∧ obsM s (.localNew a nf) s' = { ret := [((Sp.keyNew sp nf).2 : Int)], live := liveOf s' } := by
  have hv := fun t' k' (hk0 : k' ≠ 0) => valueOf_frame (t := t') (k := k') hk hs hk0 (fun _ => by simp) (fun _ => by simp) (by simp)
  cases step_ok hs with | localNew => ?_
  have k0 := hi.k0
  have hnewK := hk.kB s.nK (Nat.le_refl _)
  refine ⟨?_, by simp [obsM, keyNew, ab.klen, sortD]⟩
  have wf : ∀ j, (upd s.key s.nK { notifier := nf } j).wrapperFreed = (s.key j).wrapperFreed := by
    intro j; by_cases e : j = s.nK
    · subst e; simp [hnewK]
    · rw [upd_ne _ _ e]
  refine ⟨ab.aH, ab.aT, ?_, ab.aO, ?_, ?_, ?_⟩
  · intro t
    rw [show lookup (keyNew sp nf).1.threadHandle t = lookup sp.threadHandle t from rfl, ab.aS t]
    symm
    exact selfOf_thr_eq t rfl (fun _ => Iff.rfl) (fun _ => ⟨by simp only; rw [upd_ne _ _ (by omega)], fun _ _ => rfl⟩)
  · exact getElem?_snoc_upd (g := Key.notifier) ab.aK rfl
  · intro t k hk0
    rw [show (keyNew sp nf).1.cell t k = sp.cell t k from rfl, ab.aC t k hk0]
    exact (cellOf_eq (wf k) (hv t k hk0)).symm
  · intro k
    rw [show (keyNew sp nf).1.freedKeys = sp.freedKeys from rfl, ab.aF k]; simp only; rw [wf]

theorem cell_def (sp : S) (t k : Nat) : sp.cell t k = (lookup sp.cells (t, k)).getD 0 := rfl

theorem refine_localFree {s s' : State} {sp : S} {a k : Nat} (hk : KInv s) (ab : Abs s sp)
    (hs : step s (.localFree a k) = .ok s') :
    Abs s' (Sp.keyFree sp k) ∧ obsM s (.localFree a k) s' = { live := liveOf s' } := by
  have hv := fun t' k' (hk0 : k' ≠ 0) => valueOf_frame (t := t') (k := k') hk hs hk0 (fun _ => by simp) (fun _ => by simp) (by simp)
  have wf : ∀ j, (upd s.key k { s.key k with wrapperFreed := true } j).wrapperFreed = (if j = k then true else (s.key j).wrapperFreed) ∧
      (upd s.key k { s.key k with wrapperFreed := true } j).notifier = (s.key j).notifier ∧
      (upd s.key k { s.key k with wrapperFreed := true } j).published = (s.key j).published := by
    intro j; by_cases e : j = k
    · subst e; simp
    · rw [upd_ne _ _ e]; simp [e]
  -- both shapes of the machine's post-state agree on everything the reference sees
  have main : ∀ s'', s''.key = upd s.key k { s.key k with wrapperFreed := true } → s''.nH = s.nH → s''.hdl = s.hdl →
      s''.nT = s.nT → s''.thr = s.thr → s''.tls = s.tls → s''.nK = s.nK →
      (∀ t' k', k' ≠ 0 → valueOf s'' t' k' = valueOf s t' k') → Abs s'' (Sp.keyFree sp k) := by
    intro s'' e1 e2 e3 e4 e5 e6 e7 e8
    refine ⟨?_, ab.aT.trans e4.symm, ?_, ?_, ?_, ?_, ?_⟩
    · intro h; rw [show (Sp.keyFree sp k).handles = sp.handles from rfl, ab.aH h]; unfold hOf; rw [e2, e3]
    · intro t
      rw [show (Sp.keyFree sp k).threadHandle = sp.threadHandle from rfl, ab.aS t]
      symm
      exact selfOf_thr_eq t (by rw [e5]) (fun _ => by rw [e5]) (fun _ => ⟨by rw [e1, (wf 0).2.2], fun _ _ => by rw [e6]⟩)
    · intro t; rw [show (Sp.keyFree sp k).ours = sp.ours from rfl, ab.aO t, e5]
    · intro j; rw [show (Sp.keyFree sp k).keys = sp.keys from rfl, ab.aK j]; unfold kOf; rw [e7, e1, (wf j).2.1]
    · intro t j hj0
      rw [cell_def]
      simp only [PV.UThreadSpec.keyFree]
      rw [lookup_filter sp.cells (fun c => decide (c.2 ≠ k)) (t, j)]
      unfold cellOf; rw [e1, (wf j).1, e8 t j hj0]
      by_cases e : j = k
      · subst e; simp
      · simp only [e, ne_eq, not_false_eq_true, decide_true, if_true, if_false]
        have := ab.aC t j hj0; rw [cell_def] at this; rw [this]; rfl
    · intro j
      simp only [PV.UThreadSpec.keyFree, List.mem_cons]
      rw [e1, (wf j).1, ab.aF j]
      by_cases e : j = k
      · subst e; simp
      · simp [e]
  cases step_ok hs with
  | _ => exact ⟨main _ rfl rfl rfl rfl rfl rfl rfl (fun t' k' h0 => hv t' k' h0), obsM_quiet trivial rfl rfl rfl rfl rfl⟩

/-- a store by `t` through the user key `k` on both sides -/
theorem Abs.store {s : State} {sp : S} (hk : KInv s) (ab : Abs s sp) {t k n v : Nat} (hk0 : k ≠ 0)
    (hwf : (s.key k).wrapperFreed = false) (hp : (s.key k).published = some n) (d : List (Nat × Nat × Nat)) :
    Abs { s with dtorLog := d, tls := upd2 s.tls t n v } { sp with cells := PV.UThreadSpec.store sp.cells (t, k) v } := by
  have vs := valueOf_store hk (t := t) (v := v) hp d
  refine ⟨ab.aH, ab.aT, ?_, ab.aO, ab.aK, ?_, ab.aF⟩
  · intro t'
    rw [show lookup ({ sp with cells := PV.UThreadSpec.store sp.cells (t, k) v } : S).threadHandle t' = lookup sp.threadHandle t' from rfl, ab.aS t']
    symm
    refine selfOf_thr_eq t' rfl (fun _ => Iff.rfl) (fun _ => ⟨rfl, ?_⟩)
    intro m hm; simp only
    rw [upd2_ne _ _ (by intro x; exact hk.user_ne_lib hk0 hp hm x.2.symm)]
  · intro t' k' hk0'
    rw [cell_def]; simp only
    rw [lookup_store]
    by_cases e : t' = t ∧ k' = k
    · obtain ⟨rfl, rfl⟩ := e
      simp [cellOf, hwf, vs.1]
    · have : ¬ ((t', k') = (t, k)) := by intro x; injection x with x1 x2; exact e ⟨x1, x2⟩
      rw [if_neg this]
      have := ab.aC t' k' hk0'; rw [cell_def] at this; rw [this]
      unfold cellOf; rw [vs.2 t' k' e]

theorem liveOf_logs (s : State) (d : List (Nat × Nat × Nat)) (tls : Nat → Nat → Nat) :
    liveOf { s with dtorLog := d, tls := tls } = liveOf s := rfl

theorem refine_setLocal {s s' : State} {sp : S} {t k v : Nat} (hk : KInv s) (ab : Abs s sp)
    (hs : step s (.setLocal t k v) = .ok s') :
    Abs s' (Sp.setLocal sp t k v) ∧ obsM s (.setLocal t k v) s' = { live := liveOf s' } := by
  cases step_ok hs with | setLocal _ _ _ n _ hk0 _ hwf hp => ?_
  refine ⟨ab.store hk hk0 hwf hp _, ?_⟩
  simp [obsM, notifyOld, setCallsNotifier, sortD]

theorem refine_replaceLocal {s s' : State} {sp : S} {t k v : Nat} (hk : KInv s) (ab : Abs s sp)
    (hs : step s (.replaceLocal t k v) = .ok s') :
    Abs s' (Sp.replaceLocal sp t k v).1 ∧
    obsM s (.replaceLocal t k v) s' = { live := liveOf s', dtor := sortD (Sp.replaceLocal sp t k v).2.dtor } := by
  cases step_ok hs with | replaceLocal _ _ _ n _ hk0 hlt hwf hp => ?_
  refine ⟨ab.store hk hk0 hwf hp _, ?_⟩
  have hcell : sp.cell t k = s.tls t n := by rw [ab.aC t k hk0, cellOf, hwf]; simp [valueOf_pub hp]
  have hnot : sp.keys[k]?.getD false = (s.key k).notifier := by rw [ab.notif k]; simp [hlt]
  simp only [obsM, PV.UThreadSpec.replaceLocal, notifyOld, replaceCallsNotifier, hcell, hnot, List.drop_append_length]
  by_cases c : s.tls t n ≠ 0 ∧ (s.key k).notifier = true
  · simp [c, hk0, liveOf]
  · simp [c, liveOf]

theorem refine_storeFail {s s' : State} {sp : S} {t k : Nat} {r : Bool} (ab : Abs s sp)
    (hs : step s (.storeFail t k r) = .ok s') :
    Abs s' sp ∧
    obsM s (.storeFail t k r) s' = { live := liveOf s', dtor := if r then sortD (Sp.replaceLocal sp t k 0).2.dtor else [] } := by
  cases step_ok hs with | storeFail _ _ n _ _ hk0 hlt hwf hp => ?_
  refine ⟨ab.same (fun _ => rfl) rfl (fun _ => rfl) (fun _ => rfl) (fun _ => rfl) (fun _ _ _ => rfl) (fun _ => rfl), ?_⟩
  have hcell : sp.cell t k = s.tls t n := by rw [ab.aC t k hk0, cellOf, hwf]; simp [valueOf_pub hp]
  have hnot : sp.keys[k]?.getD false = (s.key k).notifier := by rw [ab.notif k]; simp [hlt]
  cases r with
  | false => simp [obsM, notifyOld, setCallsNotifier, sortD, liveOf]
  | true =>
    simp only [obsM, PV.UThreadSpec.replaceLocal, notifyOld, replaceCallsNotifier, hcell, hnot, List.drop_append_length, if_true]
    by_cases c : s.tls t n ≠ 0 ∧ (s.key k).notifier = true
    · simp [c, hk0, liveOf]
    · simp [c, liveOf]

/-- the reference's record of a live, fully created handle -/
theorem absH_live {x : Handle} (hf : x.freed = false) (hw : x.written = true) :
    absH x = { refs := holders x, joinable := x.joinable, code := x.retCode, live := true } := by
  simp [absH, hf, hw]

theorem modH_get (sp : S) (h : Nat) (f : H → H) (j : Nat) :
    (sp.modH h f).handles[j]? = if h = j then f <$> sp.handles[j]? else sp.handles[j]? := by
  unfold S.modH; simp only
  rw [List.getElem?_modify]
  by_cases e : h = j
  · simp [e]
  · simp [e]

/-- one handle record replaced on both sides -/
theorem Abs.updH {s : State} {sp : S} (ab : Abs s sp) {h : Nat} {x : Handle} {f : H → H} {fl : List Nat}
    (hx : absH x = f (absH (s.hdl h))) : Abs { s with hdl := upd s.hdl h x, freeLog := fl } (sp.modH h f) := by
  refine ⟨?_, ab.aT, ?_, ab.aO, ab.aK, ab.aC, ab.aF⟩
  · intro j
    rw [modH_get, ab.aH j]
    unfold hOf; simp only
    by_cases e : h = j
    · subst e; by_cases hlt : h < s.nH <;> simp [hlt, hx]
    · rw [if_neg e, upd_ne _ _ (Ne.symm e)]
  · intro t
    rw [show lookup (sp.modH h f).threadHandle t = lookup sp.threadHandle t from rfl, ab.aS t]
    exact (selfOf_thr_eq t rfl (fun _ => Iff.rfl) (fun _ => ⟨rfl, fun _ _ => rfl⟩)).symm

theorem refine_ref {s s' : State} {sp : S} {a h : Nat} (ab : Abs s sp)
    (hs : step s (.ref a h) = .ok s') : Abs s' (Sp.ref sp h) ∧ obsM s (.ref a h) s' = { live := liveOf s' } := by
  cases step_ok hs with | ref _ _ _ hlt hw hf => ?_
  refine ⟨?_, obsM_quiet trivial rfl rfl rfl rfl rfl⟩
  have := ab.updH (h := h) (fl := s.freeLog)
    (x := { s.hdl h with refCount := (s.hdl h).refCount + refIncrement, userRefs := (s.hdl h).userRefs + 1 })
    (f := fun x => { x with refs := x.refs + 1 })
    (by rw [absH_live hf hw]; simp [absH, hf, hw, holders]; omega)
  exact this

/-- one reference given up on both sides: the machine's count at its last is the reference's count at 1 -/
theorem Abs.unref {s : State} {sp : S} (hi : HInv s) (ab : Abs s sp) {h : Nat} {own : Bool}
    (hw : (s.hdl h).written = true) (hf : (s.hdl h).freed = false) (hown : own = true → (s.hdl h).threadRef = true) :
    Abs { s with
        hdl := upd s.hdl h (unrefd (s.hdl h) own)
        freeLog := if (s.hdl h).refCount = unrefFreesWhenOldIs then s.freeLog ++ [h] else s.freeLog } (Sp.drop sp h).1 ∧
    (Sp.drop sp h).2 = (if (s.hdl h).refCount = unrefFreesWhenOldIs then [h] else []) := by
  have hlt := hi.lt_of_written hw
  have hR := hi.hR h hf
  have hL := hi.hL h hw hf
  have hsp : sp.handles[h]? = some (absH (s.hdl h)) := by rw [ab.aH h, hOf, if_pos hlt]
  have hrefs : (absH (s.hdl h)).refs = holders (s.hdl h) := by rw [absH_live hf hw]
  have hone : ((s.hdl h).refCount = unrefFreesWhenOldIs) ↔ (absH (s.hdl h)).refs = 1 := by
    rw [hrefs, hR]; simp only [unrefFreesWhenOldIs]; omega
  by_cases hc : (s.hdl h).refCount = unrefFreesWhenOldIs
  · simp only [PV.UThreadSpec.drop, hsp, hone.mp hc, if_true, hc]
    exact ⟨ab.updH (by simp [absH, unrefd, hc]), trivial⟩
  · have h1 : ¬ (absH (s.hdl h)).refs = 1 := fun x => hc (hone.mpr x)
    simp only [PV.UThreadSpec.drop, hsp, h1, if_false, hc]
    refine ⟨ab.updH (f := fun x => { x with refs := x.refs - 1 }) ?_, trivial⟩
    rw [absH_live hf hw]
    simp only [holders] at hL hrefs h1 ⊢
    simp only [absH, unrefd, hw, holders, hc]
    cases own with
    | false => by_cases htr : (s.hdl h).threadRef = true <;> simp [htr] at hL h1 hrefs ⊢ <;> omega
    | true => simp [hown rfl] at h1 hrefs ⊢

theorem refine_unref {s s' : State} {sp : S} {a h : Nat} (hi : HInv s) (ab : Abs s sp)
    (hs : step s (.unref a h) = .ok s') :
    Abs s' (Sp.drop sp h).1 ∧ obsM s (.unref a h) s' = { live := liveOf s', freed := (Sp.drop sp h).2 } := by
  cases step_ok hs with | unref _ _ _ hlt hw hf => ?_
  obtain ⟨a1, a2⟩ := ab.unref hi (own := false) hw hf (fun h => by cases h)
  refine ⟨a1, ?_⟩
  rw [a2]
  by_cases hc : (s.hdl h).refCount = unrefFreesWhenOldIs <;> simp [obsM, sortD, liveOf, hc]

theorem refine_startUnstored {s s' : State} {sp : S} {t : Nat} (ab : Abs s sp)
    (hs : step s (.startUnstored t) = .ok s') :
    Abs s' (unstored sp t) ∧ obsM s (.startUnstored t) s' = { live := liveOf s' } := by
  cases step_ok hs with | startUnstored _ h0 _ _ hh _ hv => ?_
  refine ⟨?_, obsM_quiet trivial rfl rfl rfl rfl rfl⟩
  refine ⟨?_, ab.aT, ?_, ?_, ab.aK, ab.aC, ab.aF⟩
  · intro h
    show sp.handles[h]? = _
    have := hOf_upd_same_abs (s := s) (h0 := h0) (x := { s.hdl h0 with orphan := true }) (fl := s.freeLog) (by simp [absH, holders]) h
    rw [ab.aH h, ← this]; rfl
  · intro t'
    simp only [unstored]
    rw [lookup_filter (p := fun a => decide (a ≠ t))]
    by_cases e : t' = t
    · subst e
      simp only [ne_eq, not_true_eq_false, decide_false, Bool.false_eq_true, if_false]
      unfold selfOf; simp only [upd, if_true]
      simp only [valueOf] at hv
      cases hp : (s.key 0).published with
      | none => rfl
      | some n => simp only [hp] at hv; simp [hv]
    · simp only [ne_eq, e, not_false_eq_true, decide_true, if_true]
      rw [ab.aS t']; symm
      exact selfOf_thr_eq t' (by simp only; rw [upd_ne _ _ e]) (fun _ => by simp only; rw [upd_ne _ _ e]) (fun _ => ⟨rfl, fun _ _ => rfl⟩)
  · intro t'
    simp only [unstored, List.mem_filter, ab.aO t']
    by_cases e : t' = t
    · subst e; simp [upd]
    · rw [upd_ne _ _ e]; simp [e]

theorem refine_retUnstored {s s' : State} {sp : S} {t h : Nat} (hi : HInv s) (hp : PInv s) (ab : Abs s sp)
    (hs : step s (.retUnstored t h) = .ok s') :
    Abs s' (Sp.drop sp h).1 ∧ obsM s (.retUnstored t h) s' = { live := liveOf s', freed := (Sp.drop sp h).2 } := by
  cases step_ok hs with | retUnstored _ _ hc hpx hf => ?_
  obtain ⟨p1, _, _, _, _, _, hw, _, _, p10⟩ := hp.pP t h hpx
  obtain ⟨a1, a2⟩ := ab.unref hi (own := true) hw hf (fun _ => p10 hc.1)
  -- the thread record only moves on to `finished`
  refine ⟨a1.setThread { s.thr t with phase := .finished } rfl (by simp [hc.1]), ?_⟩
  · rw [a2]
    by_cases c : (s.hdl h).refCount = unrefFreesWhenOldIs <;> simp [obsM, sortD, liveOf, c]

/-- `p_uthread_current` on both sides: the same handle, made on the spot for a thread that has none -/
theorem Abs.current {s : State} {sp : S} (hk : KInv s) (hi : HInv s) (ab : Abs s sp) {t n : Nat} (hc : canAct s t)
    (hp : (s.key 0).published = some n) :
    Abs (currentCore s t n).1 (Sp.current sp t).1 ∧ (Sp.current sp t).2 = (currentCore s t n).2 := by
  by_cases hv : s.tls t n = 0
  · -- no handle yet: a thread the library did not create
    have hnone := hi.no_handle_of_empty_cell hc.1 hp hv
    have hself : lookup sp.threadHandle t = none := by rw [ab.aS t]; simp [selfOf, hnone, hp, hv]
    have hcc : currentCore s t n = ({ s with
        nH := s.nH + 1
        hdl := upd s.hdl s.nH { refCount := currentInitRefCount, thread := t, written := true, threadRef := true }
        tls := upd2 s.tls t n (s.nH + 1) }, s.nH) := by unfold currentCore; simp [hv]
    rw [hcc]
    simp only [PV.UThreadSpec.current, hself]
    refine ⟨?_, ab.hlen⟩
    refine ⟨?_, ab.aT, ?_, ab.aO, ab.aK, ?_, ab.aF⟩
    · exact getElem?_snoc_upd (g := absH) ab.aH (by simp [absH, holders])
    · intro t'
      rw [lookup_store, ab.hlen]
      by_cases e : t' = t
      · subst e; simp [selfOf, hnone, hp]
      · rw [if_neg e, ab.aS t']
        symm
        refine selfOf_thr_eq t' rfl (fun _ => Iff.rfl) (fun _ => ⟨rfl, fun m _ => ?_⟩)
        simp only; rw [upd2_ne _ _ (by simp [e])]
    · intro t' k hk0
      rw [show ({ sp with handles := sp.handles ++ [{ refs := 1, joinable := false }],
                          threadHandle := PV.UThreadSpec.store sp.threadHandle t sp.handles.length } : S).cell t' k = sp.cell t' k from rfl,
          ab.aC t' k hk0]
      unfold cellOf valueOf; simp only
      cases hpk : (s.key k).published with
      | none => rfl
      | some m =>
        simp only
        rw [upd2_ne _ _ (by intro x; exact hk.user_ne_lib hk0 hpk hp x.2)]
  · have hcc : currentCore s t n = (s, s.tls t n - 1) := by unfold currentCore; simp [hv]
    have hself : lookup sp.threadHandle t = some (s.tls t n - 1) := by
      rw [ab.aS t]; unfold selfOf
      cases hh : (s.thr t).handle with
      | none => simp [hp, hv]
      | some h => simp [hc.1, (hi.cell_of_running hc.1 hh hp).1]
    rw [hcc]
    simp only [PV.UThreadSpec.current, hself]
    exact ⟨ab, trivial⟩

theorem refine_current {s s' : State} {sp : S} {t : Nat} (hk : KInv s) (hi : HInv s) (ab : Abs s sp)
    (hs : step s (.current t) = .ok s') :
    Abs s' (Sp.current sp t).1 ∧ obsM s (.current t) s' = { ret := [((Sp.current sp t).2 : Int)], live := liveOf s' } := by
  cases step_ok hs with | current _ n hc _ hp => ?_
  obtain ⟨ab1, hret⟩ := ab.current hk hi hc hp
  rw [← currentCore_eq] at ab1
  refine ⟨ab1.same (fun _ => rfl) rfl (fun _ => rfl) (fun _ => rfl) (fun _ => rfl) (fun _ _ _ => rfl) (fun _ => rfl), ?_⟩
  simp [obsM, hret, sortD, liveOf]

theorem refine_exit {s s' : State} {sp : S} {t : Nat} {c : Int} (hk : KInv s) (hi : HInv s) (hpi : PInv s) (ab : Abs s sp)
    (hs : step s (.exit t c) = .ok s') :
    Abs s' (Sp.exit (Sp.current sp t).1 t c) ∧ obsM s (.exit t c) s' = { live := liveOf s' } := by
  cases step_ok hs with | exitForeign _ n _ hc _ hp _ ho => ?_ | exitOurs _ n _ hc _ hp _ ho => ?_
  all_goals
    obtain ⟨ab1, hret⟩ := ab.current hk hi hc hp
    rw [← currentCore_eq] at ab1
    have hi1 := hi.currentCore_inv hk hc hp
    obtain ⟨hw, _, hth⟩ := currentCore_handle hi hk (t := t) hp
  · -- not a library thread: `p_uthread_exit` returns
    refine ⟨?_, obsM_quiet trivial rfl rfl rfl rfl rfl⟩
    have : t ∉ (Sp.current sp t).1.ours := by
      intro hm
      have := (ab1.aO t).mp hm
      cases hh : (s.thr t).handle with
      | none => rw [show (s.withCurrent (currentCore s t n).1).thr = s.thr from rfl, hh] at this; cases this
      | some h =>
        -- the thread's cell holds its own handle, which is `ours`
        have ho' := hi.hW t h hh (hi.written_of_started hh (by rw [hc.1]; simp))
        rw [(hi.cell_of_running hc.1 hh hp).2] at ho; simp only at ho; rw [ho'] at ho; cases ho
    simp only [PV.UThreadSpec.exit, this, if_false]; exact ab1
  · have hlink := hi1.hO _ ho (currentCore_orphan hpi hk hp)
    rw [hth] at hlink
    have hmem : t ∈ (Sp.current sp t).1.ours := (ab1.aO t).mpr (by rw [hlink]; rfl)
    have hself : lookup (Sp.current sp t).1.threadHandle t = some (currentCore s t n).2 := by
      rw [ab1.aS t]; unfold selfOf; rw [hlink]; simp [hc.1]
    simp only [PV.UThreadSpec.exit, hmem, if_true, hself]
    refine ⟨?_, obsM_quiet trivial rfl rfl rfl rfl rfl⟩
    have a2 := ab1.updH (h := (currentCore s t n).2) (fl := s.freeLog)
      (x := { (currentCore s t n).1.hdl (currentCore s t n).2 with retCode := c })
      (f := fun x => { x with code := c }) (by simp [absH, holders])
    exact a2.setThread { s.thr t with phase := .finished, exitArg := some c } rfl (by simp [hc.1])

/-- the notifier calls of a terminating thread, as the reference lists them -/
def owedSpec (sp : S) (t : Nat) : List (Nat × Nat × Nat) :=
  (List.range sp.keys.length).filterMap fun k =>
    if k ≠ 0 ∧ k ∉ sp.freedKeys ∧ sp.keys[k]?.getD false ∧ sp.cell t k ≠ 0 then some (t, k, sp.cell t k) else none

theorem threadEnd_dtor_eq (sp : S) (t : Nat) : (Sp.threadEnd sp t).2.dtor = sortD (owedSpec sp t) := by
  unfold PV.UThreadSpec.threadEnd owedSpec
  simp only
  split <;> rfl

/-- the machine's notifier calls for user keys at thread end are a permutation of the reference's list -/
theorem owed_perm {s : State} {sp : S} (hk : KInv s) (ab : Abs s sp) {t : Nat} {L : List (Nat × Nat × Nat)} (hn : L.Nodup)
    (hm : ∀ t' k v, (t', k, v) ∈ L ↔
      t' = t ∧ (s.key k).notifier = true ∧ (s.key k).wrapperFreed = false ∧ v ≠ 0 ∧ valueOf s t k = v) :
    (L.filter fun x => x.2.1 ≠ 0).Perm (owedSpec sp t) := by
  refine (List.perm_ext_iff_of_nodup (hn.filter _) ?_).mpr ?_
  · unfold owedSpec
    refine List.Pairwise.filterMap _ (fun a b hne c ha c' hb e => hne ?_) List.nodup_range
    subst e
    split at ha
    · split at hb
      · injection ha with ha; injection hb with hb
        have e := ha.trans hb.symm
        injection e with _ e; injection e with e _
      · cases hb
    · cases ha
  · rintro ⟨t', k, v⟩
    rw [List.mem_filter, hm t' k v]
    unfold owedSpec
    rw [List.mem_filterMap]
    simp only [List.mem_range, ne_eq, decide_not, Bool.not_eq_eq_eq_not, Bool.not_true, decide_eq_false_iff_not]
    constructor
    · rintro ⟨⟨rfl, hnot, hwf, hv, hval⟩, hk0⟩
      have hlt : k < s.nK := by
        apply Classical.byContradiction; intro hge
        have := hk.kB k (by omega); rw [this] at hnot; cases hnot
      have hcell : sp.cell t' k = v := by rw [ab.aC t' k hk0, cellOf, hwf]; simpa using hval
      have c1 : k ∉ sp.freedKeys := by
        intro x; rw [(ab.aF k).mp x] at hwf; cases hwf
      have c2 : sp.keys[k]?.getD false = true := by rw [ab.notif k]; simp [hlt, hnot]
      have c3 : ¬ sp.cell t' k = 0 := by rw [hcell]; exact hv
      refine ⟨k, by rw [ab.klen]; exact hlt, ?_⟩
      rw [if_pos ⟨hk0, c1, c2, c3⟩, hcell]
    · rintro ⟨k', hk', ho⟩
      split at ho
      · rename_i hc
        injection ho with ho; injection ho with e1 ho; injection ho with e2 e3
        subst e1 e2
        obtain ⟨hk0, hnf, hnot, hv⟩ := hc
        have hlt : k' < s.nK := by rw [← ab.klen]; exact hk'
        have hwf : (s.key k').wrapperFreed = false := by
          cases hw : (s.key k').wrapperFreed with
          | false => rfl
          | true => exact absurd ((ab.aF k').mpr hw) hnf
        have hcell : sp.cell t k' = valueOf s t k' := by rw [ab.aC t k' hk0, cellOf, hwf]; simp
        rw [ab.notif k'] at hnot
        have hnot' : (s.key k').notifier = true := by simpa [hlt] using hnot
        exact ⟨⟨rfl, hnot', hwf, by rw [← e3]; exact hv, by rw [← e3, hcell]⟩, hk0⟩
      · cases ho

/-- the reference's state after the cells of a terminating thread were cleared -/
def clearedSp (sp : S) (t : Nat) : S :=
  { sp with cells := sp.cells.filter fun c => ¬ (c.1.1 = t ∧ (sp.keys[c.1.2]?.getD false)) }

theorem threadEnd_unfold (sp : S) (t : Nat) :
    Sp.threadEnd sp t =
      match lookup sp.threadHandle t with
      | some h => ({ (Sp.drop (clearedSp sp t) h).1 with threadHandle := (Sp.drop (clearedSp sp t) h).1.threadHandle.filter (·.1 ≠ t) },
                   { freed := (Sp.drop (clearedSp sp t) h).2, dtor := sortD (owedSpec sp t) })
      | none => (clearedSp sp t, { dtor := sortD (owedSpec sp t) }) := by
  unfold PV.UThreadSpec.threadEnd owedSpec clearedSp
  rfl

theorem clearedSp_cell (sp : S) (t t' k : Nat) :
    (clearedSp sp t).cell t' k = if t' = t ∧ sp.keys[k]?.getD false = true then 0 else sp.cell t' k := by
  rw [cell_def, cell_def]
  have : (clearedSp sp t).cells = sp.cells.filter (fun c => (fun a : Nat × Nat => decide (¬ (a.1 = t ∧ sp.keys[a.2]?.getD false = true))) c.1) := rfl
  rw [this, lookup_filter sp.cells (fun a : Nat × Nat => decide (¬ (a.1 = t ∧ sp.keys[a.2]?.getD false = true))) (t', k)]
  by_cases c : t' = t ∧ sp.keys[k]?.getD false = true
  · simp [c]
  · simp [c]

/-- `drop` reads and writes the handle table only -/
theorem drop_clearedSp (sp : S) (t h : Nat) :
    Sp.drop (clearedSp sp t) h = ({ clearedSp sp t with handles := (Sp.drop sp h).1.handles }, (Sp.drop sp h).2) := by
  unfold PV.UThreadSpec.drop
  show (match sp.handles[h]? with | none => _ | some x => _) = _
  cases sp.handles[h]? with
  | none => rfl
  | some x => simp only; split <;> rfl

/-- cells and library cells after the machine's thread end, seen through the abstraction -/
theorem threadEnd_cells {s s1 : State} {sp : S} {t : Nat} (hk : KInv s) (ab : Abs s sp)
    (hrd : runDtors t s (List.range s.nN) = .ok s1) (t' k : Nat) (hk0 : k ≠ 0) :
    (clearedSp sp t).cell t' k = (if (s1.key k).wrapperFreed then 0 else valueOf s1 t' k) := by
  have a5 := runDtors_tls hrd
  have a2 : s1.key = s.key := by rw [runDtors_eq hrd]
  rw [clearedSp_cell, ab.aC t' k hk0, ab.notif k, a2]
  unfold cellOf valueOf
  rw [a2]
  cases hw : (s.key k).wrapperFreed with
  | true => simp
  | false =>
    simp only [Bool.false_eq_true, if_false]
    cases hp : (s.key k).published with
    | none => simp
    | some m =>
      simp only
      rw [a5]
      have hP := hk.kP k m hp
      have hlive := hP.2.2 hw
      have hlt : k < s.nK := by have := hk.kO m hP.1; rw [hP.2.1] at this; exact this
      have hdt : (s.nkey m).dtor = (s.key k).notifier := by rw [hk.kD m hP.1, hP.2.1]
      by_cases ht : t' = t
      · subst ht
        by_cases hn : (s.key k).notifier = true
        · by_cases hv : s.tls t' m = 0
          · simp [hlt, hn, hv]
          · have d : dtorDue s t' m := ⟨hlive.1, by rw [hdt]; exact hn, hv⟩
            simp [hlt, hn, d, List.mem_range, hP.1]
        · have d : ¬ dtorDue s t' m := fun x => hn (by rw [← hdt]; exact x.2.1)
          simp [hn, d]
      · simp [ht]

theorem refine_threadEnd {s s' : State} {sp : S} {t : Nat} (hk : KInv s) (hi : HInv s) (hr : RInv s) (ab : Abs s sp)
    (hs : step s (.threadEnd t) = .ok s') :
    Abs s' (Sp.threadEnd sp t).1 ∧
    obsM s (.threadEnd t) s' = { live := liveOf s', freed := (Sp.threadEnd sp t).2.freed, dtor := (Sp.threadEnd sp t).2.dtor } := by
  obtain ⟨L, hL1, hL2, hL3, _⟩ := threadEnd_dtor hk hs
  obtain ⟨hph, s1, hrd, rfl⟩ : (s.thr t).phase = .finished ∧ ∃ s1, runDtors t s (List.range s.nN) = .ok s1 ∧
      s' = { s1 with thr := upd s1.thr t { s1.thr t with phase := .ended } } := by
    cases step_ok hs with | threadEnd s1 _ hph hrd => ?_
    refine ⟨hph, s1, hrd, ?_⟩
    rw [runDtors_eq hrd]
  obtain ⟨a5, a6⟩ := runDtors_frame List.nodup_range hrd
  have e := runDtors_eq hrd
  have a2 : s1.key = s.key := by rw [e]
  have a4 : s1.nK = s.nK := by rw [e]
  have b1 : s1.thr = s.thr := by rw [e]
  have b2 : s1.nT = s.nT := by rw [e]
  have c1 : s1.joinLog = s.joinLog := by rw [e]
  have c2 : s1.getLog = s.getLog := by rw [e]
  have c3 : s1.curLog = s.curLog := by rw [e]
  have c4 : s1.nH = s.nH := by rw [e]
  have hH := runDtors_lib hk List.nodup_range hrd
  have hcells := fun t' k hk0 => threadEnd_cells hk ab hrd t' k hk0
  -- the notifier column
  have hdt : sortD ((({ s1 with thr := upd s1.thr t { s1.thr t with phase := .ended } } : State).dtorLog.drop s.dtorLog.length).filter
      fun x => x.2.1 ≠ 0) = sortD (owedSpec sp t) := by
    simp only at hL1 ⊢
    rw [hL1, List.drop_append_length]
    exact sortD_eq_of_perm (owed_perm hk ab hL2 hL3)
  -- everything except the handles, for the final machine state against a reference state `spx` that has the
  -- cleared cells, the reference's other tables and no entry for `t` in `threadHandle`
  have rest : ∀ spx : S, spx.nThreads = sp.nThreads → spx.ours = sp.ours → spx.keys = sp.keys → spx.freedKeys = sp.freedKeys →
      spx.cells = (clearedSp sp t).cells →
      (∀ t', lookup spx.threadHandle t' = if t' = t then none else lookup sp.threadHandle t') →
      (∀ h, spx.handles[h]? = hOf { s1 with thr := upd s1.thr t { s1.thr t with phase := .ended } } h) →
      Abs { s1 with thr := upd s1.thr t { s1.thr t with phase := .ended } } spx := by
    intro spx e1 e2 e3 e4 e5 e6 e7
    refine ⟨e7, by rw [e1, ab.aT]; exact b2.symm, ?_, ?_, ?_, ?_, ?_⟩
    · intro t'
      rw [e6 t']
      by_cases e : t' = t
      · subst e
        rw [if_pos rfl]
        unfold selfOf; simp only [upd_same]
        rw [b1]
        cases hh : (s.thr t').handle with
        | some h => simp
        | none =>
          simp only
          rw [a2]
          cases hp : (s.key 0).published with
          | none => rfl
          | some n0 =>
            simp only
            rw [a5]
            by_cases hv : s.tls t' n0 = 0
            · simp [hv]
            · have hP := hk.kP 0 n0 hp
              have d : dtorDue s t' n0 := ⟨(hP.2.2 hr.k0w).1, by rw [hk.kD n0 hP.1, hP.2.1]; exact hr.k0n, hv⟩
              simp [d, List.mem_range, hP.1]
      · rw [if_neg e, ab.aS t']
        symm
        refine selfOf_thr_eq t' (by simp only; rw [upd_ne _ _ e, b1]) (fun _ => by simp only; rw [upd_ne _ _ e, b1])
          (fun _ => ⟨by simp only; rw [a2], fun m _ => by simp only; rw [a5]; simp [e]⟩)
    · intro t'
      rw [e2, ab.aO t']; simp only
      by_cases e : t' = t
      · subst e; simp [b1]
      · rw [upd_ne _ _ e, b1]
    · intro k; rw [e3, ab.aK k]; unfold kOf; simp only; rw [a4, a2]
    · intro t' k hk0
      have : spx.cell t' k = (clearedSp sp t).cell t' k := by rw [cell_def, cell_def, e5]
      rw [this, hcells t' k hk0]; rfl
    · intro k; rw [e4, ab.aF k]; simp only; rw [a2]
  have hlogs : ({ s1 with thr := upd s1.thr t { s1.thr t with phase := .ended } } : State).joinLog = s.joinLog ∧
      ({ s1 with thr := upd s1.thr t { s1.thr t with phase := .ended } } : State).getLog = s.getLog ∧
      ({ s1 with thr := upd s1.thr t { s1.thr t with phase := .ended } } : State).curLog = s.curLog := ⟨c1, c2, c3⟩
  rw [threadEnd_unfold]
  by_cases hcell : ∃ n0, (s.key 0).published = some n0 ∧ s.tls t n0 ≠ 0
  · -- the thread's library cell holds a handle: its own reference goes
    obtain ⟨n0, hp0, hv0⟩ := hcell
    have hP := hk.kP 0 n0 hp0
    have d : dtorDue s t n0 := ⟨(hP.2.2 hr.k0w).1, by rw [hk.kD n0 hP.1, hP.2.1]; exact hr.k0n, hv0⟩
    obtain ⟨hfr, hhdl, hfl⟩ := hH.2 n0 (List.mem_range.mpr hP.1) hP.2.1 d
    obtain ⟨hw, htr, hth⟩ := hi.lT t n0 hP.2.1 hv0
    have hself : lookup sp.threadHandle t = some (s.tls t n0 - 1) := by
      rw [ab.aS t]; unfold selfOf
      cases hh : (s.thr t).handle with
      | none => simp [hp0, hv0]
      | some h =>
        obtain ⟨m, g1, g2⟩ := hr.tF t h hph hh
        rw [hp0] at g1; injection g1 with g1; subst g1
        simp [hph, g2]
    simp only [hself]
    obtain ⟨au, ad⟩ := ab.unref hi (own := true) hw hfr (fun _ => htr)
    rw [drop_clearedSp]
    constructor
    · refine rest _ rfl rfl rfl rfl rfl ?_ (fun h => (au.aH h).trans (by unfold hOf; simp only; rw [c4, hhdl]))
      intro t'
      have : sp.threadHandle.filter (·.1 ≠ t) = sp.threadHandle.filter (fun c => (fun a : Nat => decide (a ≠ t)) c.1) := rfl
      show lookup (sp.threadHandle.filter (·.1 ≠ t)) t' = _
      rw [this, lookup_filter sp.threadHandle (fun a : Nat => decide (a ≠ t)) t']
      by_cases e : t' = t <;> simp [e]
    · simp only [obsM, hdt]
      rw [hfl, ad]
      by_cases c : (s.hdl (s.tls t n0 - 1)).refCount = unrefFreesWhenOldIs <;> simp [c, liveOf, c1, c2, c3]
  · -- nothing in the library cell: no handle is involved
    have nodue : ∀ n, n ∈ List.range s.nN → ¬ ((s.nkey n).owner = 0 ∧ dtorDue s t n) := by
      intro n _ x
      have p := hk.kV t n x.2.2.2
      rw [x.1] at p
      exact hcell ⟨n, p, x.2.2.2⟩
    obtain ⟨hhdl, hfl⟩ := hH.1 nodue
    have hself : lookup sp.threadHandle t = none := by
      rw [ab.aS t]; unfold selfOf
      cases hh : (s.thr t).handle with
      | some h =>
        obtain ⟨m, g1, g2⟩ := hr.tF t h hph hh
        exact absurd ⟨m, g1, by rw [g2]; omega⟩ hcell
      | none =>
        simp only
        cases hp : (s.key 0).published with
        | none => rfl
        | some n0 =>
          simp only
          by_cases hv : s.tls t n0 = 0
          · simp [hv]
          · exact absurd ⟨n0, hp, hv⟩ hcell
    simp only [hself]
    constructor
    · refine rest _ rfl rfl rfl rfl rfl ?_ ?_
      · intro t'
        rw [show (clearedSp sp t).threadHandle = sp.threadHandle from rfl]
        by_cases e : t' = t
        · subst e; rw [hself]; simp
        · rw [if_neg e]
      · intro h
        rw [show (clearedSp sp t).handles = sp.handles from rfl, ab.aH h]
        unfold hOf; simp only; rw [c4, hhdl]
    · simp only [obsM, hdt]
      rw [hfl]
      simp [liveOf, c1, c2, c3]

theorem Abs.init : Abs init {} := by
  refine ⟨?_, rfl, ?_, ?_, ?_, ?_, ?_⟩
  · intro h; simp [hOf, PV.UThread.init]
  · intro t; unfold selfOf; simp only [lookup, PV.UThread.init]
    by_cases e : t = 0 <;> simp [e]
  · intro t; simp [PV.UThread.init]; split <;> rfl
  · intro k; unfold kOf; simp only [PV.UThread.init]
    cases k with
    | zero => simp
    | succ k => simp
  · intro t k _; simp [S.cell, lookup, cellOf, valueOf, PV.UThread.init]; split <;> simp
  · intro k; simp [PV.UThread.init]; split <;> simp

/-- one event: the abstraction relation is kept and both sides give the same answer -/
theorem refine_step {s s' : State} {sp : S} {e : Ev} (hr : Reach s) (ab : Abs s sp) (hs : step s e = .ok s') :
    Abs s' (specStep sp e).1 ∧ obsM s e s' = (specStep sp e).2 := by
  obtain ⟨hk, hi⟩ := hr.inv
  obtain ⟨hri, hj⟩ := hr.rinv
  -- each event's lemma names the reference's new state and the answer; under `Abs` the machine's live handles are the reference's
  have fin : ∀ {sp' : S} {o : Obs}, Abs s' sp' ∧ obsM s e s' = o → (Abs s' sp' → (sp', o) = specStep sp e) →
      Abs s' (specStep sp e).1 ∧ obsM s e s' = (specStep sp e).2 := by
    rintro sp' o ⟨a, ho⟩ h; rw [← h a]; exact ⟨a, ho⟩
  cases e with
  | spawn => exact fin (refine_spawn hk ab hs) fun a => by simp [specStep, a.live]
  | createBegin a' j n => exact fin (refine_createBegin ab hs) fun a => by simp [specStep, a.live]
  | createEnd a' => exact fin (refine_createEnd hi hj ab hs) fun a => by simp [specStep, a.live]
  | start t => exact fin (refine_start hk ab hs) fun a => by simp [specStep, a.live]
  | exit t c => exact fin (refine_exit hk hi hr.pinv ab hs) fun a => by simp [specStep, a.live]
  | ret t => exact fin (refine_ret ab hs) fun a => by simp [specStep, a.live]
  | threadEnd t => exact fin (refine_threadEnd hk hi hri ab hs) fun a => by simp [specStep, a.live]
  | ref a' h => exact fin (refine_ref ab hs) fun a => by simp [specStep, a.live]
  | unref a' h => exact fin (refine_unref hi ab hs) fun a => by simp [specStep, a.live]
  | join a' h => exact fin (refine_join ab hs) fun a => by simp [specStep, a.live]
  | current t => exact fin (refine_current hk hi ab hs) fun a => by simp [specStep, a.live]
  | localNew a' n => exact fin (refine_localNew hk hi ab hs) fun a => by simp [specStep, a.live]
  | localFree a' k => exact fin (refine_localFree hk ab hs) fun a => by simp [specStep, a.live]
  | keyCreate t k => exact fin (refine_keyCreate hk ab hs) fun a => by simp [specStep, a.live]
  | keyCas t k => exact fin (refine_keyCas hk ab hs) fun a => by simp [specStep, a.live]
  | setLocal t k v => exact fin (refine_setLocal hk ab hs) fun a => by simp [specStep, a.live]
  | replaceLocal t k v => exact fin (refine_replaceLocal hk ab hs) fun a => by simp [specStep, a.live]
  | getLocal t k => exact fin (refine_getLocal ab hs) fun a => by simp [specStep, a.live]
  | createFail a' => exact fin (refine_createFail ab hs) fun a => by simp [specStep, a.live]
  | joinFail a' h => exact fin (refine_joinFail ab hs) fun a => by simp [specStep, a.live]
  | tlsFail t k g => exact fin (refine_tlsFail ab hs) fun a => by simp [specStep, a.live]
  | currentFail t => exact fin (refine_currentFail ab hs) fun a => by simp [specStep, a.live]
  | storeFail t k r => exact fin (refine_storeFail ab hs) fun a => by simp [specStep, a.live]
  | startUnstored t => exact fin (refine_startUnstored ab hs) fun a => by simp [specStep, a.live]
  | retUnstored t h => exact fin (refine_retUnstored hi hr.pinv ab hs) fun a => by simp [specStep, a.live]

/-- over any history: as long as the machine accepts the events, the reference gives the same answers -/
theorem refine_run : ∀ (es : List Ev) {s : State} {sp : S}, Reach s → Abs s sp →
    obsRun s es = (specRun sp es).take (obsRun s es).length ∧
    (∀ s', run s es = .ok s' → obsRun s es = specRun sp es ∧ ∃ sp', Abs s' sp')
  | [], s, sp, _, ab => ⟨by simp [obsRun, specRun], fun s' hs => by
      unfold run at hs; injection hs with hs; subst hs; exact ⟨by simp [obsRun, specRun], sp, ab⟩⟩
  | e :: r, s, sp, hr, ab => by
    cases hs : step s e with
    | error x => exact ⟨by simp [obsRun, hs], fun s' h => by unfold run at h; rw [hs] at h; cases h⟩
    | ok s1 =>
      obtain ⟨ab1, ho⟩ := refine_step hr ab hs
      have ih := refine_run r (.step e hr hs) ab1
      refine ⟨?_, ?_⟩
      · simp only [obsRun, hs, specRun, List.length_cons, List.take_succ_cons]
        rw [ho]; congr 1; exact ih.1
      · intro s' h
        unfold run at h; rw [hs] at h
        have := ih.2 s' h
        exact ⟨by simp only [obsRun, hs, specRun]; rw [ho, this.1], this.2⟩

end PV.UThread
