import PV.Lemmas.RWLock.Pack
import PV.Lemmas.RWLock.Step
import PV.Lemmas.RWLock.Count
import PV.Lemmas.RWLock.Fail
import PV.Lemmas.RWLock.Inv
import PV.Lemmas.RWLock.Live
import PV.Lemmas.RWLock.Api
