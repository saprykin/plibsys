import PV.Model.HashX.Sha3
import PV.Spec.HashX
import PV.Lemmas.HashX.Stream
/-!
# SHA-3: the streaming context computes the FIPS 202 sponge

Everything is proved for an arbitrary rate `R` with `0 < R ≤ 200`, `8 ∣ R` and instantiated for the
four variants in `Props/C11x.lean`.
-/
namespace PV.HashX.Sha3
open PV.HashX PV.HashX.Keccak PV.HashX.Spec PV.Generated.HashX

theorem foldl_xor_eq_mapIdx (f : Nat → UInt64) (q : Nat) (S : Array UInt64) :
    (List.range q).foldl (fun h i => h.set! i (h[i]! ^^^ f i)) S
      = S.mapIdx (fun i x => if i < q then x ^^^ f i else x) := by
  induction q with
  | zero =>
    apply Array.ext_getElem?
    intro i
    by_cases hi : i < S.size <;> simp [hi]
  | succ q ih =>
    rw [List.range_succ, List.foldl_append, ih]
    simp only [List.foldl_cons, List.foldl_nil]
    apply Array.ext_getElem?
    intro i
    simp only [Array.set!_eq_setIfInBounds, Array.getElem?_setIfInBounds, Array.getElem?_mapIdx, Array.size_mapIdx]
    by_cases hi : i < S.size
    · by_cases hq : q = i
      · subst hq
        simp [hi]
      · have : ¬ i = q := fun e => hq e.symm
        simp [hq, hi]
        by_cases h1 : i < q
        · have : i < q + 1 := by omega
          simp [h1, this]
        · have : ¬ i < q + 1 := by omega
          simp [h1, this]
    · simp [hi]
      intro h; omega

theorem lane_congr (a a' : Array UInt8) (i : Nat)
    (h : ∀ k, k < 8 → a[8 * i + k]?.getD 0 = a'[8 * i + k]?.getD 0) : lane a i = lane a' i := by
  simp only [lane]
  rw [h 0 (by omega), h 1 (by omega), h 2 (by omega), h 3 (by omega), h 4 (by omega), h 5 (by omega),
    h 6 (by omega), h 7 (by omega)]

theorem lane_append_zeros (P : Bytes) (hP : P.length % 8 = 0) (n i : Nat) :
    lane (P ++ List.replicate n 0).toArray i = if i < P.length / 8 then lane P.toArray i else 0 := by
  split
  · apply lane_congr
    intro k hk
    have : 8 * i + k < P.length := by omega
    simp only [List.getElem?_toArray, List.getElem?_append_left this]
  · have e : lane #[] i = 0 := by simp only [lane, Array.getElem?_empty]; rfl
    rw [← e]
    apply lane_congr
    intro k hk
    have : P.length ≤ 8 * i + k := by omega
    simp only [List.getElem?_toArray, List.getElem?_append_right this, List.getElem?_replicate]
    split <;> rfl

/-- the C loop `for (i < block_size / 8) hash[i] ^= data[i]` followed by the permutation is the
    standard's `f (S ⊕ (P ‖ 0^c))` -/
theorem process_eq_absorbBlock (R : Nat) (hR : R ≤ 200) (h8 : R % 8 = 0) (S : Lanes) (P : Bytes)
    (hP : P.length = R) : process R.toUInt32 S P = absorbBlock R S P := by
  have hq : (R.toUInt32 / 8).toNat = R / 8 := by simp [UInt32.toNat_div]; omega
  unfold process absorbBlock
  simp only [hq]
  rw [foldl_xor_eq_mapIdx]
  congr 2
  funext i x
  rw [lane_append_zeros P (hP ▸ h8), hP]
  split
  · rfl
  · exact UInt64.xor_zero.symm

/-- state of the context after the bytes `m` (rate `R`) -/
structure SInv (R : Nat) (ctx : Ctx) (m : Bytes) : Prop where
  bs : ctx.blockSize = R.toUInt32
  len : ctx.len.toNat = m.length % R
  inv : Inv R (process R.toUInt32) zeroState ⟨ctx.hash, ctx.buf⟩ m

theorem new_inv {R : Nat} (hR : R ≤ 200) : SInv R (new R) [] :=
  ⟨rfl, by simp [new], Inv.nil _ _ (Nat.le_trans hR (Nat.le_of_eq List.length_replicate.symm))⟩

theorem reset_eq_new {R : Nat} {ctx : Ctx} (h : ctx.blockSize = R.toUInt32) : reset ctx = new R := by
  simp [reset, new, h]

theorem updateHead_spec {R : Nat} (hR0 : 0 < R) (hR : R ≤ 200) (ctx : Ctx) (hbs : ctx.blockSize = R.toUInt32)
    (k : Nat) (hlen : ctx.len.toNat = k % R) (n : Nat) (hn : n < 2 ^ 63) :
    ∃ r : UInt32, updateHead ctx n = (k % R, decide (k % R ≠ 0 ∧ R - k % R ≤ n), r) ∧ r.toNat = (k + n) % R := by
  have hkl : k % R < R := Nat.mod_lt _ hR0
  have hbsn : ctx.blockSize.toNat = R := by rw [hbs]; simp; omega
  have hle : ctx.len ≤ ctx.blockSize := by rw [UInt32.le_iff_toNat_le, hbsn, hlen]; omega
  refine ⟨_, Prod.ext hlen (Prod.ext ?_ rfl), ?_⟩
  · simp only [updateHead]
    rw [topup_test hle (by omega), hbsn, hlen]
  · simp only [updateHead]
    have : n.toUInt64.toNat = n := by simp; omega
    simp only [UInt64.toNat_toUInt32, UInt64.toNat_mod, UInt64.toNat_add, UInt32.toNat_toUInt64, this, hbsn, hlen]
    have h1 : (k % R + n) % 2 ^ 64 = k % R + n := Nat.mod_eq_of_lt (by omega)
    rw [h1, Nat.mod_add_mod]
    have : (k + n) % R < R := Nat.mod_lt _ hR0
    exact Nat.mod_eq_of_lt (by omega)

theorem update_inv {R : Nat} (hR0 : 0 < R) (hR : R ≤ 200) {ctx : Ctx} {m : Bytes} (h : SInv R ctx m)
    (data : Bytes) (hn : data.length < 2 ^ 63) : SInv R (update ctx data) (m ++ data) := by
  obtain ⟨r, hh, hr⟩ := updateHead_spec hR0 hR ctx h.bs m.length h.len data.length hn
  have hbsn : R.toUInt32.toNat = R := by simp; omega
  simp only [update, hh, h.bs, hbsn]
  exact ⟨rfl, by simp only [hr, List.length_append], feed_inv hR0 h.inv data⟩

theorem updateZeros_eq (ctx : Ctx) (n : Nat) : updateZeros ctx n = update ctx (List.replicate n 0) := by
  simp only [updateZeros, update, List.length_replicate, feedZ_eq]

theorem orAt_length (b : Bytes) (i : Nat) (v : UInt8) : (orAt b i v).length = b.length := by
  induction b generalizing i with
  | nil => rfl
  | cons x b ih => cases i <;> simp [orAt, ih]

theorem orAt_append_left (a b : Bytes) (i : Nat) (v : UInt8) (h : i < a.length) :
    orAt (a ++ b) i v = orAt a i v ++ b := by
  induction a generalizing i with
  | nil => simp at h
  | cons x a ih =>
    cases i with
    | zero => rfl
    | succ i => simp only [List.cons_append, orAt]; rw [ih i (by simpa using h)]

theorem orAt_append_right (a b : Bytes) (i : Nat) (v : UInt8) (h : a.length ≤ i) :
    orAt (a ++ b) i v = a ++ orAt b (i - a.length) v := by
  induction a generalizing i with
  | nil => simp
  | cons x a ih =>
    cases i with
    | zero => simp at h
    | succ i =>
      simp only [List.cons_append, orAt, List.length_cons, Nat.add_sub_add_right]
      rw [ih i (by simpa using h)]

/-- the `q ≥ 1` bytes that FIPS 202 padding appends -/
def padBytes (q : Nat) : Bytes :=
  if q = 1 then [0x86] else [0x06] ++ List.replicate (q - 2) 0 ++ [0x80]

theorem padBytes_length {q : Nat} (hq : 0 < q) : (padBytes q).length = q := by
  unfold padBytes; split <;> simp <;> omega

theorem pad_eq (R : Nat) (m : Bytes) : pad R m = m ++ padBytes (R - m.length % R) := by
  unfold pad padBytes
  simp only
  split <;> simp

/-- the two `|=` of `finish` on the zeroed tail of the buffered block -/
theorem orAt_zeros (q : Nat) :
    orAt (orAt (List.replicate (q + 1) 0) 0 sha3PadFirst) q sha3PadLast = padBytes (q + 1) := by
  cases q with
  | zero => rfl
  | succ q =>
    rw [List.replicate_succ, orAt, orAt, List.replicate_succ', orAt_append_right _ _ _ _ (by simp)]
    simp [padBytes, orAt, sha3PadFirst, sha3PadLast]

theorem finish_buf {R k : Nat} (hk : k < R) (buf : Bytes) (hb : R ≤ buf.length) :
    (orAt (orAt (memcpyAt buf k (List.replicate (R - k) 0)) k sha3PadFirst) (R - 1) sha3PadLast).take R
      = buf.take k ++ padBytes (R - k) := by
  have hkl : (buf.take k).length = k := by simp; omega
  obtain ⟨q, hq⟩ : ∃ q, R - k = q + 1 := ⟨R - k - 1, by omega⟩
  have hl : (buf.take k ++ padBytes (R - k)).length = R := by
    rw [List.length_append, hkl, padBytes_length (by omega)]; omega
  unfold memcpyAt
  rw [List.append_assoc, orAt_append_right _ _ _ _ (by omega), orAt_append_right _ _ _ _ (by omega), hkl, Nat.sub_self,
    orAt_append_left _ _ _ _ (by simp; omega), orAt_append_left _ _ _ _ (by rw [orAt_length]; simp; omega),
    show R - 1 - k = q by omega, hq, orAt_zeros, ← hq, ← List.append_assoc]
  exact List.take_left' hl

theorem finish_spec {R : Nat} (hR0 : 0 < R) (hR : R ≤ 200) (h8 : R % 8 = 0) {ctx : Ctx} {m : Bytes}
    (h : SInv R ctx m) : (finish ctx).hash = (blocks R (pad R m)).foldl (absorbBlock R) zeroState := by
  have hbsn : R.toUInt32.toNat = R := by simp; omega
  have hk : m.length % R < R := Nat.mod_lt _ hR0
  have hrl : (rest R m).length = m.length % R := rest_length R m
  have hlast : (rest R m ++ padBytes (R - m.length % R)).length = R := by
    rw [List.length_append, hrl, padBytes_length (by omega)]; omega
  have hfb := finish_buf hk ctx.buf h.inv.cap
  rw [← hrl, h.inv.buf, hrl] at hfb
  have hf : (finish ctx).hash = process R.toUInt32 ctx.hash (rest R m ++ padBytes (R - m.length % R)) := by
    simp only [finish, h.len, h.bs, hbsn, hfb]
  have hst : ctx.hash = (blocks R m).foldl (absorbBlock R) zeroState :=
    h.inv.st.trans (List.foldl_rel (r := Eq) rfl fun b hb a _ e =>
      e ▸ process_eq_absorbBlock R hR h8 a b (blocks_length R m b hb))
  rw [hf, process_eq_absorbBlock R hR h8 _ _ hlast, pad_eq, (blocks_append R m _).1, (rest_exact hR0 hlast).2,
    List.foldl_append, List.foldl_cons, List.foldl_nil, ← hst]

theorem stateBytes_length (S : Lanes) (n : Nat) : (stateBytes S n).length = n := by
  simp [stateBytes]

theorem squeeze_length (r d : Nat) : ∀ S : Lanes, (squeeze r S d).length = d := by
  induction d using Nat.strongRecOn with
  | _ d ih =>
    intro S
    rw [squeeze]
    split
    · next h => rw [List.length_append, stateBytes_length, ih (d - r) (by omega)]; omega
    · exact stateBytes_length S d

/-- **chunking, SHA-3 with rate `R` and digest length `d ≤ R`**: any way of splitting the input into
    `update` calls (each chunk below `2^63` bytes — the C object-size limit) gives the sponge of the
    concatenation -/
theorem chunking {R d : Nat} (hR0 : 0 < R) (hR : R ≤ 200) (h8 : R % 8 = 0) (hd : d ≤ R)
    (chunks : List Bytes) (hc : ∀ c ∈ chunks, c.length < 2 ^ 63) :
    digest (finish (chunks.foldl update (new R))) d = sponge R d chunks.flatten := by
  have inv := foldl_update_inv (I := SInv R) (update_inv hR0 hR) chunks hc (new_inv hR)
  rw [List.nil_append] at inv
  unfold digest sponge
  rw [finish_spec hR0 hR h8 inv, squeeze]
  have : ¬ (0 < R ∧ R < d) := by omega
  simp [this]

end PV.HashX.Sha3
