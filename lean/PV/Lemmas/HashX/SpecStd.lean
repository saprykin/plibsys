import PV.Spec.HashXStd
import PV.Lemmas.HashX.KeccakStd
import PV.Lemmas.HashX.GostStd
/-!
# The one-shot specs over the models' compression functions = the fully standard-structured ones
-/
namespace PV.HashX.SpecStdProof
open PV.HashX PV.HashX.Keccak PV.HashX.Spec PV.HashX.KeccakProof PV.HashX.GostProof

theorem zeroState_size : zeroState.size = 25 := by simp [zeroState]

theorem absorbBlock_eq (r : Nat) (S : Lanes) (hs : S.size = 25) (P : Bytes) :
    Spec.absorbBlock r S P = SpecStd.absorbBlock r S P ∧ (SpecStd.absorbBlock r S P).size = 25 := by
  unfold Spec.absorbBlock SpecStd.absorbBlock
  have h : (S.mapIdx fun i x => x ^^^ lane (P ++ List.replicate (200 - r) 0).toArray i).size = 25 := by
    rw [Array.size_mapIdx]; exact hs
  exact ⟨keccakF_eq _ h, stdKeccakF_size _⟩

theorem foldl_absorb_eq (r : Nat) (bs : List Bytes) (S : Lanes) (hs : S.size = 25) :
    bs.foldl (Spec.absorbBlock r) S = bs.foldl (SpecStd.absorbBlock r) S ∧
    (bs.foldl (SpecStd.absorbBlock r) S).size = 25 := by
  induction bs generalizing S with
  | nil => simp only [List.foldl_nil]; exact ⟨trivial, hs⟩
  | cons b bs ih =>
    simp only [List.foldl_cons]
    rw [(absorbBlock_eq r S hs b).1]
    exact ih _ (absorbBlock_eq r S hs b).2

theorem squeeze_eq (r : Nat) (d : Nat) : ∀ (S : Lanes), S.size = 25 → Spec.squeeze r S d = SpecStd.squeeze r S d := by
  induction d using Nat.strongRecOn with
  | _ d ih =>
    intro S hs
    rw [Spec.squeeze, SpecStd.squeeze]
    by_cases h : 0 < r ∧ r < d
    · simp only [h, and_self, dite_true]
      rw [keccakF_eq S hs, ih (d - r) (by omega) _ (stdKeccakF_size S)]
    · simp only [h, dite_false]

/-- the sponge over the C code's permutation is the sponge over Keccak-f[1600] of FIPS 202 -/
theorem sponge_eq (r d : Nat) (m : Bytes) : Spec.sponge r d m = SpecStd.sponge r d m := by
  unfold Spec.sponge SpecStd.sponge
  obtain ⟨h1, h2⟩ := foldl_absorb_eq r (blocks r (pad r m)) zeroState zeroState_size
  rw [h1, squeeze_eq r d _ h2]

theorem sha3_eq (n : Nat) (m : Bytes) : Spec.sha3 n m = SpecStd.sha3 n m := sponge_eq _ _ m

/-- the GOST one-shot hash over the C code's step function is the one over the standard's χ -/
theorem gost_eq (m : Bytes) : Spec.gost m = SpecStd.gost m := by
  have h : Gost.step = GostStd.chi := by funext a b; exact step_eq_chi a b
  unfold Spec.gost SpecStd.gost
  rw [h]

end PV.HashX.SpecStdProof
