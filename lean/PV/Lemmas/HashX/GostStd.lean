import PV.Lemmas.HashX.Linear
import PV.Lemmas.HashX.Gost
/-!
# The step function of `pcryptohash-gost3411.c` is χ of GOST R 34.11-94

`Gost.step` (transliteration of the C code: in-place key generation, `P_GOST_3411_P`, the unrolled
32 rounds of `P_GOST_28147_E`, the three blocks of unrolled XOR formulas) equals `GostStd.chi`
(A, P, C2…C4, E, ψ^12 / ψ / ψ^61 as the standard defines them).
* the LFSR blocks: both sides are XOR-additive (proved symbolically), so it is enough to compare them
  on unit blocks (`decide +kernel`): all 256 for one step of ψ (`Linear.ext256`),
  sixteen for ψ^12 and ψ^61, since ψ treats the bit positions of its 16-bit parts alike (`Linear.ext256_halves`);
* `P`: byte by byte; key generation: word-by-word equality of XOR expressions;
* the cipher: unfolding of the round loop.
-/
namespace PV.HashX.GostProof
open PV.HashX PV.HashX.Gost PV.HashX.GostStd PV.HashX.Linear PV.HashX.Spec PV.Generated.HashX

/-! ## the model's step function cut into its source-order pieces

`Gost.step` is one straight-line definition (as the C function).  The pieces below repeat its text
(key generation; the three LFSR blocks); `step_parts` checks by `rfl` that composing them is `step`. -/

/-- key generation of `pp_crypto_hash_gost3411_process`: the four vectors `W` that are passed to
    `P_GOST_3411_P` (the in-place updates of `U[]`, `V[]` in source order) -/
def keyGenW (hash data : W8) : W8 × W8 × W8 × W8 :=
  let H0 := hash.w0; let H1 := hash.w1; let H2 := hash.w2; let H3 := hash.w3
  let H4 := hash.w4; let H5 := hash.w5; let H6 := hash.w6; let H7 := hash.w7
  let M0 := data.w0; let M1 := data.w1; let M2 := data.w2; let M3 := data.w3
  let M4 := data.w4; let M5 := data.w5; let M6 := data.w6; let M7 := data.w7
  -- memcpy (U, ctx->hash, 32); memcpy (V, data, 32);
  let U0 := H0; let U1 := H1; let U2 := H2; let U3 := H3; let U4 := H4; let U5 := H5; let U6 := H6; let U7 := H7
  let V0 := M0; let V1 := M1; let V2 := M2; let V3 := M3; let V4 := M4; let V5 := M5; let V6 := M6; let V7 := M7
  -- first key: P (U xor V)
  let W_0 : W8 := ⟨U0 ^^^ V0, U1 ^^^ V1, U2 ^^^ V2, U3 ^^^ V3, U4 ^^^ V4, U5 ^^^ V5, U6 ^^^ V6, U7 ^^^ V7⟩
  -- second key: P (A (U) xor A^2 (V))
  let W0 := U2 ^^^ V4
  let W1 := U3 ^^^ V5
  let W2 := U4 ^^^ V6
  let W3 := U5 ^^^ V7
  let V0 := V0 ^^^ V2; let W4 := U6 ^^^ V0
  let V1 := V1 ^^^ V3; let W5 := U7 ^^^ V1
  let U0 := U0 ^^^ U2; let V2 := V2 ^^^ V4; let W6 := U0 ^^^ V2
  let U1 := U1 ^^^ U3; let V3 := V3 ^^^ V5; let W7 := U1 ^^^ V3
  let W_1 : W8 := ⟨W0, W1, W2, W3, W4, W5, W6, W7⟩
  -- third key: P ((A^2 (U) + C3) xor A^4 (V))
  let U2 := U2 ^^^ (U4 ^^^ c3 0)
  let U3 := U3 ^^^ (U5 ^^^ c3 1)
  let U4 := U4 ^^^ c3 2
  let U5 := U5 ^^^ c3 3
  let U6 := U6 ^^^ c3 4
  let U7 := U7 ^^^ c3 5
  let U0 := U0 ^^^ c3 6
  let U1 := U1 ^^^ c3 7
  let W0 := U4 ^^^ V0
  let W2 := U6 ^^^ V2
  let V4 := V4 ^^^ V6; let W4 := U0 ^^^ V4
  let V6 := V6 ^^^ V0; let W6 := U2 ^^^ V6
  let W1 := U5 ^^^ V1
  let W3 := U7 ^^^ V3
  let V5 := V5 ^^^ V7; let W5 := U1 ^^^ V5
  let V7 := V7 ^^^ V1; let W7 := U3 ^^^ V7
  let W_2 : W8 := ⟨W0, W1, W2, W3, W4, W5, W6, W7⟩
  -- fourth key: P (A (A^2 (U) xor C3) xor A^6 (V))
  let W0 := U6 ^^^ V4
  let W1 := U7 ^^^ V5
  let W2 := U0 ^^^ V6
  let W3 := U1 ^^^ V7
  let V0 := V0 ^^^ V2; let W4 := U2 ^^^ V0
  let V1 := V1 ^^^ V3; let W5 := U3 ^^^ V1
  let U4 := U4 ^^^ U6; let V2 := V2 ^^^ V4; let W6 := U4 ^^^ V2
  let U5 := U5 ^^^ U7; let V3 := V3 ^^^ V5; let W7 := U5 ^^^ V3
  let W_3 : W8 := ⟨W0, W1, W2, W3, W4, W5, W6, W7⟩
  (W_0, W_1, W_2, W_3)

/-- "(12 rounds of LFSR) xor M": the new `U[]` -/
def lfsr12 (S data : W8) : W8 :=
  let S0 := S.w0
  let S1 := S.w1
  let S2 := S.w2
  let S3 := S.w3
  let S4 := S.w4
  let S5 := S.w5
  let S6 := S.w6
  let S7 := S.w7
  let M0 := data.w0
  let M1 := data.w1
  let M2 := data.w2
  let M3 := data.w3
  let M4 := data.w4
  let M5 := data.w5
  let M6 := data.w6
  let M7 := data.w7
  let U0 : UInt32 := M0 ^^^ S6
  let U1 : UInt32 := M1 ^^^ S7
  let U2 : UInt32 := M2 ^^^ (S0 &&& (0x0000FFFF : UInt32)) ^^^ (S0 >>> 16) ^^^ (S0 <<< 16) ^^^ (S1 &&& (0x0000FFFF : UInt32)) ^^^ (S1 >>> 16) ^^^ (S2 <<< 16) ^^^ (S7 &&& (0xFFFF0000 : UInt32)) ^^^ (S6 <<< 16) ^^^ (S7 >>> 16) ^^^ S6
  let U3 : UInt32 := M3 ^^^ (S0 &&& (0x0000FFFF : UInt32)) ^^^ (S0 <<< 16) ^^^ (S2 <<< 16) ^^^ (S1 &&& (0x0000FFFF : UInt32)) ^^^ (S1 <<< 16) ^^^ (S1 >>> 16) ^^^ (S7 &&& (0x0000FFFF : UInt32)) ^^^ (S2 >>> 16) ^^^ (S3 <<< 16) ^^^ (S6 <<< 16) ^^^ (S6 >>> 16) ^^^ (S7 <<< 16) ^^^ (S7 >>> 16) ^^^ S6
  let U4 : UInt32 := M4 ^^^ (S0 &&& (0xFFFF0000 : UInt32)) ^^^ (S0 <<< 16) ^^^ (S0 >>> 16) ^^^ (S1 &&& (0xFFFF0000 : UInt32)) ^^^ (S1 >>> 16) ^^^ (S2 <<< 16) ^^^ (S7 &&& (0x0000FFFF : UInt32)) ^^^ (S3 <<< 16) ^^^ (S3 >>> 16) ^^^ (S4 <<< 16) ^^^ (S6 <<< 16) ^^^ (S6 >>> 16) ^^^ (S2 >>> 16) ^^^ (S7 <<< 16) ^^^ (S7 >>> 16)
  let U5 : UInt32 := M5 ^^^ (S0 &&& (0xFFFF0000 : UInt32)) ^^^ (S0 >>> 16) ^^^ (S0 <<< 16) ^^^ (S1 &&& (0x0000FFFF : UInt32)) ^^^ (S7 >>> 16) ^^^ (S2 >>> 16) ^^^ (S7 &&& (0xFFFF0000 : UInt32)) ^^^ (S3 >>> 16) ^^^ (S4 <<< 16) ^^^ (S4 >>> 16) ^^^ (S5 <<< 16) ^^^ (S6 <<< 16) ^^^ (S6 >>> 16) ^^^ (S3 <<< 16) ^^^ (S7 <<< 16) ^^^ S2
  let U6 : UInt32 := M6 ^^^ (S4 >>> 16) ^^^ (S1 >>> 16) ^^^ (S2 <<< 16) ^^^ (S7 <<< 16) ^^^ (S3 >>> 16) ^^^ (S4 <<< 16) ^^^ (S5 <<< 16) ^^^ (S5 >>> 16) ^^^ (S6 <<< 16) ^^^ (S6 >>> 16) ^^^ S6 ^^^ S0 ^^^ S3
  let U7 : UInt32 := M7 ^^^ (S0 &&& (0xFFFF0000 : UInt32)) ^^^ (S0 <<< 16) ^^^ (S1 <<< 16) ^^^ (S1 &&& (0x0000FFFF : UInt32)) ^^^ (S2 >>> 16) ^^^ (S3 <<< 16) ^^^ (S7 &&& (0x0000FFFF : UInt32)) ^^^ (S4 >>> 16) ^^^ (S5 <<< 16) ^^^ (S5 >>> 16) ^^^ (S6 >>> 16) ^^^ (S7 <<< 16) ^^^ (S7 >>> 16) ^^^ S4
  ⟨U0, U1, U2, U3, U4, U5, U6, U7⟩

/-- "(1 round of LFSR) xor Hprev": the new `V[]` -/
def lfsr1 (U hash : W8) : W8 :=
  let U0 := U.w0
  let U1 := U.w1
  let U2 := U.w2
  let U3 := U.w3
  let U4 := U.w4
  let U5 := U.w5
  let U6 := U.w6
  let U7 := U.w7
  let H0 := hash.w0
  let H1 := hash.w1
  let H2 := hash.w2
  let H3 := hash.w3
  let H4 := hash.w4
  let H5 := hash.w5
  let H6 := hash.w6
  let H7 := hash.w7
  let V0 : UInt32 := H0 ^^^ (U1 <<< 16) ^^^ (U0 >>> 16)
  let V1 : UInt32 := H1 ^^^ (U2 <<< 16) ^^^ (U1 >>> 16)
  let V2 : UInt32 := H2 ^^^ (U3 <<< 16) ^^^ (U2 >>> 16)
  let V3 : UInt32 := H3 ^^^ (U4 <<< 16) ^^^ (U3 >>> 16)
  let V4 : UInt32 := H4 ^^^ (U5 <<< 16) ^^^ (U4 >>> 16)
  let V5 : UInt32 := H5 ^^^ (U6 <<< 16) ^^^ (U5 >>> 16)
  let V6 : UInt32 := H6 ^^^ (U7 <<< 16) ^^^ (U6 >>> 16)
  let V7 : UInt32 := H7 ^^^ (U7 >>> 16) ^^^ (U0 <<< 16) ^^^ (U1 &&& (0xFFFF0000 : UInt32)) ^^^ (U1 <<< 16) ^^^ (U7 &&& (0xFFFF0000 : UInt32)) ^^^ (U6 <<< 16) ^^^ (U0 &&& (0xFFFF0000 : UInt32))
  ⟨V0, V1, V2, V3, V4, V5, V6, V7⟩

/-- "Final 61 rounds of LFSR": the new `ctx->hash` -/
def lfsr61 (V : W8) : W8 :=
  let V0 := V.w0
  let V1 := V.w1
  let V2 := V.w2
  let V3 := V.w3
  let V4 := V.w4
  let V5 := V.w5
  let V6 := V.w6
  let V7 := V.w7
  let R0 : UInt32 := (V0 &&& (0xFFFF0000 : UInt32)) ^^^ (V0 <<< 16) ^^^ (V0 >>> 16) ^^^ (V1 &&& (0xFFFF0000 : UInt32)) ^^^ (V1 >>> 16) ^^^ (V2 <<< 16) ^^^ (V7 &&& (0x0000FFFF : UInt32)) ^^^ (V3 >>> 16) ^^^ (V4 <<< 16) ^^^ (V5 >>> 16) ^^^ (V6 >>> 16) ^^^ (V7 <<< 16) ^^^ (V7 >>> 16) ^^^ V5
  let R1 : UInt32 := (V0 &&& (0xFFFF0000 : UInt32)) ^^^ (V0 <<< 16) ^^^ (V0 >>> 16) ^^^ (V1 &&& (0x0000FFFF : UInt32)) ^^^ (V2 >>> 16) ^^^ (V3 <<< 16) ^^^ (V7 &&& (0xFFFF0000 : UInt32)) ^^^ (V4 >>> 16) ^^^ (V5 <<< 16) ^^^ (V6 <<< 16) ^^^ (V7 >>> 16) ^^^ V6 ^^^ V2
  let R2 : UInt32 := (V0 &&& (0x0000FFFF : UInt32)) ^^^ (V0 <<< 16) ^^^ (V1 <<< 16) ^^^ (V7 &&& (0x0000FFFF : UInt32)) ^^^ (V1 >>> 16) ^^^ (V2 <<< 16) ^^^ (V1 &&& (0xFFFF0000 : UInt32)) ^^^ (V3 >>> 16) ^^^ (V4 <<< 16) ^^^ (V5 >>> 16) ^^^ (V6 >>> 16) ^^^ (V7 <<< 16) ^^^ (V7 >>> 16) ^^^ V3 ^^^ V6
  let R3 : UInt32 := (V0 &&& (0xFFFF0000 : UInt32)) ^^^ (V0 <<< 16) ^^^ (V0 >>> 16) ^^^ (V1 &&& (0xFFFF0000 : UInt32)) ^^^ (V1 >>> 16) ^^^ (V2 <<< 16) ^^^ (V7 &&& (0x0000FFFF : UInt32)) ^^^ (V2 >>> 16) ^^^ (V3 <<< 16) ^^^ (V4 >>> 16) ^^^ (V5 <<< 16) ^^^ (V6 <<< 16) ^^^ (V7 >>> 16) ^^^ V2 ^^^ V4
  let R4 : UInt32 := (V0 >>> 16) ^^^ (V1 <<< 16) ^^^ (V2 >>> 16) ^^^ (V3 <<< 16) ^^^ (V3 >>> 16) ^^^ (V4 <<< 16) ^^^ (V5 >>> 16) ^^^ (V6 <<< 16) ^^^ (V6 >>> 16) ^^^ (V7 <<< 16) ^^^ V1 ^^^ V2 ^^^ V3 ^^^ V5
  let R5 : UInt32 := (V0 &&& (0xFFFF0000 : UInt32)) ^^^ (V0 <<< 16) ^^^ (V1 <<< 16) ^^^ (V1 &&& (0xFFFF0000 : UInt32)) ^^^ (V1 >>> 16) ^^^ (V2 <<< 16) ^^^ (V7 &&& (0xFFFF0000 : UInt32)) ^^^ (V3 >>> 16) ^^^ (V4 <<< 16) ^^^ (V4 >>> 16) ^^^ (V5 <<< 16) ^^^ (V6 <<< 16) ^^^ (V6 >>> 16) ^^^ (V7 <<< 16) ^^^ (V7 >>> 16) ^^^ V2 ^^^ V3 ^^^ V4 ^^^ V6
  let R6 : UInt32 := (V2 >>> 16) ^^^ (V3 <<< 16) ^^^ (V4 >>> 16) ^^^ (V5 <<< 16) ^^^ (V5 >>> 16) ^^^ (V6 <<< 16) ^^^ (V6 >>> 16) ^^^ (V7 <<< 16) ^^^ V7 ^^^ V0 ^^^ V2 ^^^ V3 ^^^ V4 ^^^ V5 ^^^ V6
  let R7 : UInt32 := (V0 >>> 16) ^^^ (V1 <<< 16) ^^^ (V1 >>> 16) ^^^ (V2 <<< 16) ^^^ (V3 >>> 16) ^^^ (V4 <<< 16) ^^^ (V5 >>> 16) ^^^ (V6 <<< 16) ^^^ (V6 >>> 16) ^^^ (V7 <<< 16) ^^^ V7 ^^^ V0 ^^^ V3 ^^^ V4 ^^^ V5
  ⟨R0, R1, R2, R3, R4, R5, R6, R7⟩

def stepParts (hash data : W8) : W8 :=
  let W := keyGenW hash data
  let K0 := transP W.1
  let K1 := transP W.2.1
  let K2 := transP W.2.2.1
  let K3 := transP W.2.2.2
  let (S0, S1) := encrypt hash.w0 hash.w1 K0
  let (S2, S3) := encrypt hash.w2 hash.w3 K1
  let (S4, S5) := encrypt hash.w4 hash.w5 K2
  let (S6, S7) := encrypt hash.w6 hash.w7 K3
  lfsr61 (lfsr1 (lfsr12 ⟨S0, S1, S2, S3, S4, S5, S6, S7⟩ data) hash)

theorem step_parts (hash data : W8) : Gost.step hash data = stepParts hash data := by
  cases hash; cases data
  simp only [Gost.step, stepParts, keyGenW, lfsr12, lfsr1, lfsr61]

/-! ## the unrolled XOR formulas as term tables

Every word of the three LFSR blocks is a XOR of terms `x`, `x & 0x0000FFFF`, `x & 0xFFFF0000`,
`x << 16`, `x >> 16` of input words.  The tables below list the terms in source order; `rfl` checks
that evaluating a table *is* the model's formula, and additivity is proved once for all tables. -/

inductive Op where
  | id | lo | hi | shl | shr

def Op.ev : Op → UInt32 → UInt32
  | .id, x => x
  | .lo, x => x &&& (0x0000FFFF : UInt32)
  | .hi, x => x &&& (0xFFFF0000 : UInt32)
  | .shl, x => x <<< 16
  | .shr, x => x >>> 16

def word (v : W8) : Nat → UInt32
  | 0 => v.w0 | 1 => v.w1 | 2 => v.w2 | 3 => v.w3 | 4 => v.w4 | 5 => v.w5 | 6 => v.w6 | _ => v.w7

abbrev Row := List (Nat × Op)
abbrev Tab := List Row

/-- `init ^ t1 ^ t2 ^ …` (left-nested, as the C expression) -/
def evalRow (init : UInt32) (row : Row) (v : W8) : UInt32 :=
  row.foldl (fun acc t => acc ^^^ t.2.ev (word v t.1)) init

/-- `t1 ^ t2 ^ …` -/
def evalRow1 (row : Row) (v : W8) : UInt32 :=
  match row with
  | [] => 0
  | t :: ts => evalRow (t.2.ev (word v t.1)) ts v

def evalTab (init : W8) (tab : Tab) (v : W8) : W8 :=
  ⟨evalRow init.w0 (tab.getD 0 []) v, evalRow init.w1 (tab.getD 1 []) v, evalRow init.w2 (tab.getD 2 []) v,
   evalRow init.w3 (tab.getD 3 []) v, evalRow init.w4 (tab.getD 4 []) v, evalRow init.w5 (tab.getD 5 []) v,
   evalRow init.w6 (tab.getD 6 []) v, evalRow init.w7 (tab.getD 7 []) v⟩

def evalTab1 (tab : Tab) (v : W8) : W8 :=
  ⟨evalRow1 (tab.getD 0 []) v, evalRow1 (tab.getD 1 []) v, evalRow1 (tab.getD 2 []) v, evalRow1 (tab.getD 3 []) v,
   evalRow1 (tab.getD 4 []) v, evalRow1 (tab.getD 5 []) v, evalRow1 (tab.getD 6 []) v, evalRow1 (tab.getD 7 []) v⟩

def t12 : Tab :=
  [[(6, .id)],
   [(7, .id)],
   [(0, .lo), (0, .shr), (0, .shl), (1, .lo), (1, .shr), (2, .shl), (7, .hi), (6, .shl), (7, .shr), (6, .id)],
   [(0, .lo), (0, .shl), (2, .shl), (1, .lo), (1, .shl), (1, .shr), (7, .lo), (2, .shr), (3, .shl), (6, .shl), (6, .shr), (7, .shl), (7, .shr), (6, .id)],
   [(0, .hi), (0, .shl), (0, .shr), (1, .hi), (1, .shr), (2, .shl), (7, .lo), (3, .shl), (3, .shr), (4, .shl), (6, .shl), (6, .shr), (2, .shr), (7, .shl), (7, .shr)],
   [(0, .hi), (0, .shr), (0, .shl), (1, .lo), (7, .shr), (2, .shr), (7, .hi), (3, .shr), (4, .shl), (4, .shr), (5, .shl), (6, .shl), (6, .shr), (3, .shl), (7, .shl), (2, .id)],
   [(4, .shr), (1, .shr), (2, .shl), (7, .shl), (3, .shr), (4, .shl), (5, .shl), (5, .shr), (6, .shl), (6, .shr), (6, .id), (0, .id), (3, .id)],
   [(0, .hi), (0, .shl), (1, .shl), (1, .lo), (2, .shr), (3, .shl), (7, .lo), (4, .shr), (5, .shl), (5, .shr), (6, .shr), (7, .shl), (7, .shr), (4, .id)]]

def t1 : Tab :=
  [[(1, .shl), (0, .shr)],
   [(2, .shl), (1, .shr)],
   [(3, .shl), (2, .shr)],
   [(4, .shl), (3, .shr)],
   [(5, .shl), (4, .shr)],
   [(6, .shl), (5, .shr)],
   [(7, .shl), (6, .shr)],
   [(7, .shr), (0, .shl), (1, .hi), (1, .shl), (7, .hi), (6, .shl), (0, .hi)]]

def t61 : Tab :=
  [[(0, .hi), (0, .shl), (0, .shr), (1, .hi), (1, .shr), (2, .shl), (7, .lo), (3, .shr), (4, .shl), (5, .shr), (6, .shr), (7, .shl), (7, .shr), (5, .id)],
   [(0, .hi), (0, .shl), (0, .shr), (1, .lo), (2, .shr), (3, .shl), (7, .hi), (4, .shr), (5, .shl), (6, .shl), (7, .shr), (6, .id), (2, .id)],
   [(0, .lo), (0, .shl), (1, .shl), (7, .lo), (1, .shr), (2, .shl), (1, .hi), (3, .shr), (4, .shl), (5, .shr), (6, .shr), (7, .shl), (7, .shr), (3, .id), (6, .id)],
   [(0, .hi), (0, .shl), (0, .shr), (1, .hi), (1, .shr), (2, .shl), (7, .lo), (2, .shr), (3, .shl), (4, .shr), (5, .shl), (6, .shl), (7, .shr), (2, .id), (4, .id)],
   [(0, .shr), (1, .shl), (2, .shr), (3, .shl), (3, .shr), (4, .shl), (5, .shr), (6, .shl), (6, .shr), (7, .shl), (1, .id), (2, .id), (3, .id), (5, .id)],
   [(0, .hi), (0, .shl), (1, .shl), (1, .hi), (1, .shr), (2, .shl), (7, .hi), (3, .shr), (4, .shl), (4, .shr), (5, .shl), (6, .shl), (6, .shr), (7, .shl), (7, .shr), (2, .id), (3, .id), (4, .id), (6, .id)],
   [(2, .shr), (3, .shl), (4, .shr), (5, .shl), (5, .shr), (6, .shl), (6, .shr), (7, .shl), (7, .id), (0, .id), (2, .id), (3, .id), (4, .id), (5, .id), (6, .id)],
   [(0, .shr), (1, .shl), (1, .shr), (2, .shl), (3, .shr), (4, .shl), (5, .shr), (6, .shl), (6, .shr), (7, .shl), (7, .id), (0, .id), (3, .id), (4, .id), (5, .id)]]

theorem lfsr12_tab (S M : W8) : lfsr12 S M = evalTab M t12 S := rfl
theorem lfsr1_tab (U H : W8) : lfsr1 U H = evalTab H t1 U := rfl
theorem lfsr61_tab (V : W8) : lfsr61 V = evalTab1 t61 V := rfl

theorem Op.ev_xor (op : Op) (p q : UInt32) : op.ev (p ^^^ q) = op.ev p ^^^ op.ev q := by
  cases op <;> simp only [Op.ev, and_xor, UInt32.shiftLeft_xor, UInt32.shiftRight_xor]

theorem word_xor8 (x y : W8) (i : Nat) : word (xor8 x y) i = word x i ^^^ word y i := by
  unfold word; split <;> rfl

theorem xor4 (a b c d : UInt32) : (a ^^^ b) ^^^ (c ^^^ d) = (a ^^^ c) ^^^ (b ^^^ d) := by ac_rfl

theorem evalRow_cons (a : UInt32) (t : Nat × Op) (ts : Row) (v : W8) :
    evalRow a (t :: ts) v = evalRow (a ^^^ t.2.ev (word v t.1)) ts v := rfl

theorem evalRow1_eq (row : Row) (v : W8) : evalRow1 row v = evalRow 0 row v := by
  cases row with
  | nil => rfl
  | cons t ts => rw [evalRow1, evalRow_cons, UInt32.zero_xor]

theorem evalTab1_eq (tab : Tab) (v : W8) : evalTab1 tab v = evalTab W8.zero tab v := by
  simp only [evalTab1, evalRow1_eq]
  rfl

theorem evalRow_add (a b : UInt32) (row : Row) (x y : W8) :
    evalRow (a ^^^ b) row (xor8 x y) = evalRow a row x ^^^ evalRow b row y := by
  induction row generalizing a b with
  | nil => rfl
  | cons t ts ih =>
    rw [evalRow_cons, evalRow_cons, evalRow_cons, word_xor8, Op.ev_xor, xor4]
    exact ih _ _

theorem evalRow_init (a c : UInt32) (row : Row) (v : W8) : evalRow (a ^^^ c) row v = a ^^^ evalRow c row v := by
  induction row generalizing c with
  | nil => rfl
  | cons t ts ih => rw [evalRow_cons, evalRow_cons, UInt32.xor_assoc]; exact ih _

theorem evalTab_split (init : W8) (tab : Tab) (v : W8) : evalTab init tab v = xor8 init (evalTab W8.zero tab v) := by
  have h : ∀ (a : UInt32) (row : Row), evalRow a row v = a ^^^ evalRow 0 row v := by
    intro a row
    have := evalRow_init a 0 row v
    rwa [UInt32.xor_zero] at this
  simp only [evalTab, xor8, W8.zero]
  rw [h init.w0, h init.w1, h init.w2, h init.w3, h init.w4, h init.w5, h init.w6, h init.w7]

theorem evalTab0_add (tab : Tab) (x y : W8) :
    evalTab W8.zero tab (xor8 x y) = xor8 (evalTab W8.zero tab x) (evalTab W8.zero tab y) := by
  have h : ∀ row : Row, evalRow 0 row (xor8 x y) = evalRow 0 row x ^^^ evalRow 0 row y := by
    intro row
    have := evalRow_add 0 0 row x y
    rwa [UInt32.xor_zero] at this
  simp only [evalTab, W8.zero, h]
  rfl

theorem Op.ev_up (op : Op) : ∀ x : UInt32, op.ev (up x) = up (op.ev x) :=
  ext32w (fun a b => by simp only [up_xor, Op.ev_xor]) (fun a b => by simp only [up_xor, Op.ev_xor])
    (by cases op <;> decide)

theorem word_up8 (v : W8) (i : Nat) : word (up8 v) i = up (word v i) := by
  unfold word; split <;> rfl

theorem evalRow_up (a : UInt32) (row : Row) (v : W8) : evalRow (up a) row (up8 v) = up (evalRow a row v) := by
  induction row generalizing a with
  | nil => rfl
  | cons t ts ih => rw [evalRow_cons, evalRow_cons, word_up8, Op.ev_up, ← up_xor]; exact ih _

theorem evalTab0_up (tab : Tab) (v : W8) : evalTab W8.zero tab (up8 v) = up8 (evalTab W8.zero tab v) := by
  have h : ∀ row : Row, evalRow 0 row (up8 v) = up (evalRow 0 row v) := fun row => evalRow_up 0 row v
  simp only [evalTab, W8.zero, h]
  rfl

theorem wordsOfNat_xor (a b : Nat) : wordsOfNat (a ^^^ b) = xor8 (wordsOfNat a) (wordsOfNat b) := by
  simp only [wordsOfNat, xor8, Nat.xor_div_two_pow, UInt32.ofNat_xor]

theorem toNat_xor8 (x y : W8) : (xor8 x y).toNat = x.toNat ^^^ y.toNat := by
  have h : xor8 x y = wordsOfNat (x.toNat ^^^ y.toNat) := by
    rw [wordsOfNat_xor, wordsOfNat_toNat, wordsOfNat_toNat]
  rw [h, toNat_wordsOfNat]
  exact Nat.mod_eq_of_lt (Nat.xor_lt_two_pow (W8.toNat_lt x) (W8.toNat_lt y))

theorem eta_xor (a b k : Nat) : eta (a ^^^ b) k = eta a k ^^^ eta b k := by
  unfold eta
  rw [Nat.shiftRight_xor_distrib, Nat.and_xor_distrib_right]

theorem xor4N (a b c d : Nat) : (a ^^^ b) ^^^ (c ^^^ d) = (a ^^^ c) ^^^ (b ^^^ d) := by ac_rfl

theorem psi_xor (a b : Nat) : psi (a ^^^ b) = psi a ^^^ psi b := by
  simp only [psi, eta_xor, Nat.shiftRight_xor_distrib]
  -- the six parts are regrouped pair by pair (`ac_rfl` on the whole term does not get past `<<< 240`)
  rw [xor4N (eta a 1), xor4N (eta a 1 ^^^ _), xor4N (eta a 1 ^^^ _ ^^^ _), xor4N (eta a 1 ^^^ _ ^^^ _ ^^^ _),
    xor4N (eta a 1 ^^^ _ ^^^ _ ^^^ _ ^^^ _), Nat.shiftLeft_xor_distrib, xor4N]

theorem repeat_psi_xor (k a b : Nat) : Nat.repeat psi k (a ^^^ b) = Nat.repeat psi k a ^^^ Nat.repeat psi k b := by
  induction k with
  | zero => rfl
  | succ k ih => simp only [Nat.repeat, ih, psi_xor]

theorem psiPow_add (k : Nat) (x y : W8) : psiPow k (xor8 x y) = xor8 (psiPow k x) (psiPow k y) := by
  simp only [psiPow, toNat_xor8, repeat_psi_xor, wordsOfNat_xor]

theorem psi_lt {Y : Nat} (h : Y < 2 ^ 256) : psi Y < 2 ^ 256 := by
  have e (k : Nat) : eta Y k < 2 ^ 16 := Nat.lt_succ_of_le Nat.and_le_right
  have hx : eta Y 1 ^^^ eta Y 2 ^^^ eta Y 3 ^^^ eta Y 4 ^^^ eta Y 13 ^^^ eta Y 16 < 2 ^ 16 := by
    repeat apply Nat.xor_lt_two_pow
    all_goals exact e _
  refine Nat.xor_lt_two_pow (Nat.lt_of_le_of_lt (Nat.shiftRight_le _ _) h) ?_
  rw [Nat.shiftLeft_eq]
  exact Nat.lt_of_lt_of_le (Nat.mul_lt_mul_of_pos_right hx (by decide)) (by decide)

theorem repeat_psi_lt (k : Nat) {Y : Nat} (h : Y < 2 ^ 256) : Nat.repeat psi k Y < 2 ^ 256 := by
  induction k with
  | zero => exact h
  | succ k ih => exact psi_lt ih

theorem psiPow_succ (k : Nat) (V : W8) : psiPow (k + 1) V = psiPow 1 (psiPow k V) := by
  simp only [psiPow, Nat.repeat, toNat_wordsOfNat, Nat.mod_eq_of_lt (repeat_psi_lt k (W8.toNat_lt V))]

/-! ## the three LFSR blocks are ψ^12, ψ, ψ^61

One step of ψ is compared with the C formulas on all 256 unit blocks.  It then acts on the sixteen
bit positions of the 16-bit parts in parallel, as every table does, hence so do its powers; for
ψ^12 and ψ^61 the sixteen unit blocks with bit 0 of one part set are enough (`ext256_halves`). -/

theorem lfsr1_zero (U : W8) : lfsr1 U W8.zero = psiPow 1 U :=
  ext256 (fun U => lfsr1 U W8.zero) (psiPow 1) (fun x y => by simp only [lfsr1_tab, evalTab0_add]) (psiPow_add 1)
    (by decide +kernel) U

/-- "(1 round of LFSR) xor Hprev" -/
theorem lfsr1_eq (U H : W8) : lfsr1 U H = xor8 H (psiPow 1 U) := by
  rw [lfsr1_tab, evalTab_split, ← lfsr1_tab, lfsr1_zero]

theorem psiPow_up (k : Nat) (V : W8) : psiPow k (up8 V) = up8 (psiPow k V) := by
  induction k with
  | zero => simp only [psiPow, Nat.repeat, wordsOfNat_toNat]
  | succ k ih => rw [psiPow_succ k, psiPow_succ k, ih, ← lfsr1_zero, ← lfsr1_zero, lfsr1_tab, lfsr1_tab, evalTab0_up]

/-- "Final 61 rounds of LFSR" -/
theorem lfsr61_eq (V : W8) : lfsr61 V = psiPow 61 V := by
  rw [lfsr61_tab, evalTab1_eq]
  exact ext256_halves (evalTab W8.zero t61) (psiPow 61) (evalTab0_add t61) (psiPow_add 61) (evalTab0_up t61)
    (psiPow_up 61) (by decide +kernel) V

/-- "(12 rounds of LFSR) xor M" -/
theorem lfsr12_eq (S M : W8) : lfsr12 S M = xor8 M (psiPow 12 S) := by
  rw [lfsr12_tab, evalTab_split]
  congr 1
  exact ext256_halves (evalTab W8.zero t12) (psiPow 12) (evalTab0_add t12) (psiPow_add 12) (evalTab0_up t12)
    (psiPow_up 12) (by decide +kernel) S

theorem mod256_and (x : UInt32) : x % (256 : UInt32) = x &&& (0x000000FF : UInt32) :=
  UInt32.toNat_inj.mp (by rw [UInt32.toNat_mod, and_ff]; rfl)

/-- byte `i ≥ 1` of a word put at byte `j ≥ 1`: extracted and shifted (as `bytesOfWord` and `le32` do),
    or shifted and masked in place (as `P_GOST_3411_P` does) -/
theorem byte_move (x : UInt32) :
    ((x >>> 8) &&& (0x000000FF : UInt32)) <<< 8 = x &&& (0x0000FF00 : UInt32) ∧
    ((x >>> 8) &&& (0x000000FF : UInt32)) <<< 16 = (x <<< 8) &&& (0x00FF0000 : UInt32) ∧
    ((x >>> 8) &&& (0x000000FF : UInt32)) <<< 24 = (x <<< 16) &&& (0xFF000000 : UInt32) ∧
    ((x >>> 16) &&& (0x000000FF : UInt32)) <<< 8 = (x >>> 8) &&& (0x0000FF00 : UInt32) ∧
    ((x >>> 16) &&& (0x000000FF : UInt32)) <<< 16 = x &&& (0x00FF0000 : UInt32) ∧
    ((x >>> 16) &&& (0x000000FF : UInt32)) <<< 24 = (x <<< 8) &&& (0xFF000000 : UInt32) ∧
    ((x >>> 24) &&& (0x000000FF : UInt32)) <<< 8 = (x >>> 16) &&& (0x0000FF00 : UInt32) ∧
    ((x >>> 24) &&& (0x000000FF : UInt32)) <<< 16 = (x >>> 8) &&& (0x00FF0000 : UInt32) ∧
    ((x >>> 24) &&& (0x000000FF : UInt32)) <<< 24 = x &&& (0xFF000000 : UInt32) := by
  refine ⟨?_, ?_, ?_, ?_, ?_, ?_, ?_, ?_, ?_⟩ <;> revert x <;>
    exact ext32w (fun a b => by simp only [and_xor, UInt32.shiftLeft_xor, UInt32.shiftRight_xor])
      (fun a b => by simp only [and_xor, UInt32.shiftLeft_xor, UInt32.shiftRight_xor]) (by decide)

/-- the same for byte 0 -/
theorem byte0_move (x : UInt32) :
    (x &&& (0x000000FF : UInt32)) <<< 8 = (x <<< 8) &&& (0x0000FF00 : UInt32) ∧
    (x &&& (0x000000FF : UInt32)) <<< 16 = (x <<< 16) &&& (0x00FF0000 : UInt32) ∧
    (x &&& (0x000000FF : UInt32)) <<< 24 = (x <<< 24) &&& (0xFF000000 : UInt32) := by
  refine ⟨?_, ?_, ?_⟩ <;> revert x <;>
    exact ext32w (fun a b => by simp only [and_xor, UInt32.shiftLeft_xor])
      (fun a b => by simp only [and_xor, UInt32.shiftLeft_xor]) (by decide)

theorem range32 : List.range 32 = [0,1,2,3,4,5,6,7,8,9,10,11,12,13,14,15,16,17,18,19,20,21,22,23,24,25,26,27,28,29,30,31] := by decide

theorem transP_eq (d : W8) : transP d = P d := by
  cases d
  symm
  -- the 32 bytes of `d` picked at the positions φ (j), then the words they make up
  simp only [P, range32, List.map_cons, List.map_nil, phi, Nat.reduceMod, Nat.reduceDiv, Nat.reduceMul, Nat.reduceAdd,
    bytesOfW8, W8.toList, List.flatMap_cons, List.flatMap_nil, bytesOfWord, List.cons_append, List.nil_append,
    List.getD_eq_getElem?_getD, List.getElem?_cons_succ, List.getElem?_cons_zero, Option.getD_some,
    w8OfBytes, le32, List.getElem?_toArray, UInt32.toUInt32_toUInt8, mod256_and]
  simp only [byte_move]
  simp only [byte0_move]
  rfl

theorem getD_flatten {α : Type} (n : Nat) (d : α) (l : List (List α)) (hl : ∀ r ∈ l, r.length = n) (i v : Nat)
    (hv : v < n) : l.flatten.getD (n * i + v) d = (l.getD i []).getD v d := by
  induction l generalizing i with
  | nil => simp
  | cons r l ih =>
    have hr : r.length = n := hl r List.mem_cons_self
    cases i with
    | zero => simp [List.getElem?_append_left (hr ▸ hv)]
    | succ i =>
      have := ih (fun r hr => hl r (List.mem_cons_of_mem _ hr)) i
      simp only [List.getD_eq_getElem?_getD] at this ⊢
      rw [List.flatten_cons, List.getElem?_append_right (by rw [hr, Nat.mul_succ]; omega), hr,
        show n * (i + 1) + v - n = n * i + v by rw [Nat.mul_succ]; omega, this]
      simp

theorem sb_eq (i : Nat) (x : UInt32) : sb i x = sbox i (x &&& (0xF : UInt32)) := by
  have hv : (x &&& (0xF : UInt32)).toNat < 16 := Nat.lt_succ_of_le (UInt32.toNat_and .. ▸ Nat.and_le_right)
  unfold sb sbox kBlock
  rw [← getD_flatten 16 0 gostKBlock (by decide) i _ hv]
  simp only [List.getD_eq_getElem?_getD, getElem!_def, List.getElem?_toArray, List.getElem?_map]
  cases gostKBlock.flatten[16 * i + (x &&& 0xF).toNat]? <;> rfl

theorem range8 : List.range 8 = [0,1,2,3,4,5,6,7] := by decide

theorem subst_eq (x : UInt32) : subst x =
    sb 0 x ||| (sb 1 (x >>> 4) <<< 4) ||| (sb 2 (x >>> 8) <<< 8) ||| (sb 3 (x >>> 12) <<< 12)
    ||| (sb 4 (x >>> 16) <<< 16) ||| (sb 5 (x >>> 20) <<< 20) ||| (sb 6 (x >>> 24) <<< 24) ||| (sb 7 (x >>> 28) <<< 28) := by
  simp only [sb_eq]
  simp [subst, range8]

theorem round_eq (n0 n1 k : UInt32) : Gost.round n0 n1 k = roundE (n0, n1) k := by
  simp only [Gost.round, roundE, rotl11, subst_eq]

theorem encrypt_eq (d0 d1 : UInt32) (k : W8) : encrypt d0 d1 k = E k d0 d1 := by
  have hk : keyOrder.map (fun i => k.toList.getD i 0) =
      [k.w0, k.w1, k.w2, k.w3, k.w4, k.w5, k.w6, k.w7, k.w0, k.w1, k.w2, k.w3, k.w4, k.w5, k.w6, k.w7,
       k.w0, k.w1, k.w2, k.w3, k.w4, k.w5, k.w6, k.w7, k.w7, k.w6, k.w5, k.w4, k.w3, k.w2, k.w1, k.w0] := by
    cases k; rfl
  have hE : E k d0 d1 =
      (let r := (keyOrder.map fun i => k.toList.getD i 0).foldl (fun n key => Gost.round n.1 n.2 key) (d0, d1)
       (r.2, r.1)) := by
    simp only [E, List.foldl_map, round_eq]
  -- with the key order written out both sides unroll to the same 32 nested rounds
  rw [hE, hk]
  simp only [encrypt, List.foldl_cons, List.foldl_nil]

theorem C3_words : C3 = ⟨0xff00ff00, 0xff00ff00, 0x00ff00ff, 0x00ff00ff, 0x00ffff00, 0xff0000ff, 0x000000ff, 0xff00ffff⟩ := by decide
theorem c3_vals : c3 0 = 0x000000FF ∧ c3 1 = 0xFF00FFFF ∧ c3 2 = 0xFF00FF00 ∧ c3 3 = 0xFF00FF00 ∧ c3 4 = 0x00FF00FF ∧
    c3 5 = 0x00FF00FF ∧ c3 6 = 0x00FFFF00 ∧ c3 7 = 0xFF0000FF := by decide

theorem keyGenW_eq (h m : W8) : keyGenW h m = keyW h m := by
  cases h; cases m
  simp only [keyGenW, keyW, A, xor8, C2, C4, C3_words, W8.zero, c3_vals, UInt32.xor_zero, Prod.mk.injEq, W8.mk.injEq]
  simp only [UInt32.xor_assoc, and_self]

/-- **the step function of the C code is the standard's χ** -/
theorem step_eq_chi (h m : W8) : Gost.step h m = GostStd.chi h m := by
  rw [step_parts]
  unfold stepParts GostStd.chi
  simp only [keyGenW_eq, transP_eq, encrypt_eq, lfsr12_eq, lfsr1_eq, lfsr61_eq]

end PV.HashX.GostProof
