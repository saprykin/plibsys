import PV.Spec.GostStd
/-!
# XOR-additive maps on 32-bit words / 256-bit blocks are determined by the unit vectors

`ext32`: two maps `UInt32 → α` that turn `^^^` into the same operation `op` and agree on
the 32 words `2^n` agree everywhere.  `ext256`: the same for maps on 256-bit blocks (`W8`) and the
256 unit blocks.  `ext256_halves`: maps that moreover commute with `up8` (a shift inside every 16-bit
half, i.e. they treat the sixteen bit positions of the halves alike) are determined by sixteen unit blocks.
Used to identify the C code's unrolled GF(2)-linear formulas with the standard's
structural definitions: linearity of both sides is proved symbolically, the unit vectors by evaluation.
-/
namespace PV.HashX.Linear
open PV.HashX.Gost PV.HashX.GostStd

theorem two_pow_xor_of_lt {n r : Nat} (h : r < 2 ^ n) : 2 ^ n ^^^ r = 2 ^ n + r := by
  apply Nat.eq_of_testBit_eq
  intro i
  rw [Nat.testBit_xor, Nat.testBit_two_pow]
  by_cases hi : n = i
  · subst hi
    rw [Nat.testBit_two_pow_add_eq, Nat.testBit_lt_two_pow h]
    simp
  · simp only [hi, decide_false, Bool.false_xor]
    by_cases hlt : i < n
    · rw [Nat.testBit_two_pow_add_gt hlt]
    · have hgt : n < i := by omega
      have h1 : r < 2 ^ i := Nat.lt_trans h (Nat.pow_lt_pow_right (by omega) hgt)
      have h2 : 2 ^ n + r < 2 ^ i := by
        have : 2 ^ (n + 1) ≤ 2 ^ i := Nat.pow_le_pow_right (by omega) (by omega)
        rw [Nat.pow_succ] at this
        omega
      rw [Nat.testBit_lt_two_pow h1, Nat.testBit_lt_two_pow h2]

theorem ext32 {α : Type} (op : α → α → α) (f g : UInt32 → α)
    (hf : ∀ x y, f (x ^^^ y) = op (f x) (f y)) (hg : ∀ x y, g (x ^^^ y) = op (g x) (g y))
    (hb : ∀ n, n < 32 → f (UInt32.ofNat (2 ^ n)) = g (UInt32.ofNat (2 ^ n))) :
    ∀ x, f x = g x := by
  have h0 : f 0 = g 0 := by
    rw [← UInt32.xor_self (a := UInt32.ofNat (2 ^ 0)), hf, hg, hb 0 (by decide)]
  have key : ∀ n, n ≤ 32 → ∀ x : UInt32, x.toNat < 2 ^ n → f x = g x := by
    intro n
    induction n with
    | zero =>
      intro _ x hx
      have : x = 0 := UInt32.toNat_inj.mp (by simp at hx ⊢; omega)
      rw [this, h0]
    | succ n ih =>
      intro hn x hx
      by_cases hlt : x.toNat < 2 ^ n
      · exact ih (by omega) x hlt
      · have hr : x.toNat - 2 ^ n < 2 ^ n := by rw [Nat.pow_succ] at hx; omega
        have hp : 2 ^ n < 2 ^ 32 := Nat.pow_lt_pow_right (by omega) (by omega)
        have hx' : x = UInt32.ofNat (2 ^ n) ^^^ UInt32.ofNat (x.toNat - 2 ^ n) := by
          apply UInt32.toNat_inj.mp
          rw [UInt32.toNat_xor, UInt32.toNat_ofNat', UInt32.toNat_ofNat', Nat.mod_eq_of_lt hp,
            Nat.mod_eq_of_lt (by omega), two_pow_xor_of_lt hr]
          omega
        rw [hx', hf, hg, hb n (by omega), ih (by omega) _ (by rw [UInt32.toNat_ofNat', Nat.mod_eq_of_lt (by omega)]; exact hr)]
  intro x
  exact key 32 (Nat.le_refl _) x x.toNat_lt

/-- `ext32` for maps into words -/
theorem ext32w {f g : UInt32 → UInt32} (hf : ∀ x y, f (x ^^^ y) = f x ^^^ f y) (hg : ∀ x y, g (x ^^^ y) = g x ^^^ g y)
    (hb : ∀ n, n < 32 → f (UInt32.ofNat (2 ^ n)) = g (UInt32.ofNat (2 ^ n))) : ∀ x, f x = g x :=
  ext32 (· ^^^ ·) f g hf hg hb

theorem and_xor (a b m : UInt32) : (a ^^^ b) &&& m = (a &&& m) ^^^ (b &&& m) := by
  apply UInt32.toNat_inj.mp
  simp only [UInt32.toNat_and, UInt32.toNat_xor, Nat.and_xor_distrib_right]

/-- the block whose only non-zero word is word `m` -/
def inj (m : Nat) (w : UInt32) : W8 :=
  match m with
  | 0 => ⟨w, 0, 0, 0, 0, 0, 0, 0⟩ | 1 => ⟨0, w, 0, 0, 0, 0, 0, 0⟩ | 2 => ⟨0, 0, w, 0, 0, 0, 0, 0⟩
  | 3 => ⟨0, 0, 0, w, 0, 0, 0, 0⟩ | 4 => ⟨0, 0, 0, 0, w, 0, 0, 0⟩ | 5 => ⟨0, 0, 0, 0, 0, w, 0, 0⟩
  | 6 => ⟨0, 0, 0, 0, 0, 0, w, 0⟩ | _ => ⟨0, 0, 0, 0, 0, 0, 0, w⟩

theorem inj_xor (m : Nat) (a b : UInt32) : inj m (a ^^^ b) = xor8 (inj m a) (inj m b) := by
  unfold inj; split <;> simp [xor8]

theorem xor8_self_zero : xor8 W8.zero W8.zero = W8.zero := by decide

theorem decompose (x : W8) : x = xor8 (inj 0 x.w0) (xor8 (inj 1 x.w1) (xor8 (inj 2 x.w2) (xor8 (inj 3 x.w3)
    (xor8 (inj 4 x.w4) (xor8 (inj 5 x.w5) (xor8 (inj 6 x.w6) (inj 7 x.w7))))))) := by
  cases x; simp [inj, xor8]

/-- **two XOR-additive maps on 256-bit blocks that agree on the 256 unit blocks are equal** -/
theorem ext256 (F G : W8 → W8)
    (hF : ∀ x y, F (xor8 x y) = xor8 (F x) (F y)) (hG : ∀ x y, G (xor8 x y) = xor8 (G x) (G y))
    (hb : ∀ m, m < 8 → ∀ n, n < 32 → F (inj m (UInt32.ofNat (2 ^ n))) = G (inj m (UInt32.ofNat (2 ^ n)))) :
    ∀ x, F x = G x := by
  have hw : ∀ m, m < 8 → ∀ w, F (inj m w) = G (inj m w) := by
    intro m hm
    apply ext32 xor8 (fun w => F (inj m w)) (fun w => G (inj m w))
    · intro a b; simp only [inj_xor, hF]
    · intro a b; simp only [inj_xor, hG]
    · exact hb m hm
  intro x
  rw [decompose x]
  simp only [hF, hG, hw 0 (by omega), hw 1 (by omega), hw 2 (by omega), hw 3 (by omega), hw 4 (by omega),
    hw 5 (by omega), hw 6 (by omega), hw 7 (by omega)]

/-- every 16-bit half of the word moves one bit up (the top bit of each half is dropped) -/
def up (w : UInt32) : UInt32 := (w <<< 1) &&& 0xFFFEFFFE

def up8 (x : W8) : W8 := ⟨up x.w0, up x.w1, up x.w2, up x.w3, up x.w4, up x.w5, up x.w6, up x.w7⟩

theorem up_xor (a b : UInt32) : up (a ^^^ b) = up a ^^^ up b := by
  simp only [up, UInt32.shiftLeft_xor, and_xor]

theorem up8_inj (m : Nat) (w : UInt32) : up8 (inj m w) = inj m (up w) := by
  have u0 : up 0 = 0 := by decide
  unfold inj; split <;> simp only [up8, u0]

theorem up_two_pow : ∀ n, n < 32 → n % 16 ≠ 15 → up (UInt32.ofNat (2 ^ n)) = UInt32.ofNat (2 ^ (n + 1)) := by decide

/-- `ext256` for maps that act on the sixteen bit positions of the 16-bit halves in parallel (they
    commute with `up8`): the unit blocks with bit 0 of one half set are enough -/
theorem ext256_halves (F G : W8 → W8)
    (hF : ∀ x y, F (xor8 x y) = xor8 (F x) (F y)) (hG : ∀ x y, G (xor8 x y) = xor8 (G x) (G y))
    (uF : ∀ x, F (up8 x) = up8 (F x)) (uG : ∀ x, G (up8 x) = up8 (G x))
    (hb : ∀ m, m < 8 → ∀ h, h < 2 → F (inj m (UInt32.ofNat (2 ^ (16 * h)))) = G (inj m (UInt32.ofNat (2 ^ (16 * h))))) :
    ∀ x, F x = G x := by
  apply ext256 F G hF hG
  intro m hm n hn
  have key : ∀ j, j < 16 → ∀ h, h < 2 →
      F (inj m (UInt32.ofNat (2 ^ (16 * h + j)))) = G (inj m (UInt32.ofNat (2 ^ (16 * h + j)))) := by
    intro j
    induction j with
    | zero => exact fun _ => hb m hm
    | succ j ih =>
      intro hj h hh
      rw [← Nat.add_assoc, ← up_two_pow (16 * h + j) (by omega) (by omega), ← up8_inj, uF, uG, ih (by omega) h hh]
  have := key (n % 16) (Nat.mod_lt _ (by decide)) (n / 16) (by omega)
  rwa [Nat.div_add_mod] at this

end PV.HashX.Linear
