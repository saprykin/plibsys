import PV.Model.HashX.Dispatch
/-!
# The dispatcher: every history of update / reset / get_string / get_digest

`specStep` is what the user relies on: the visible digest is `F` of the chunks updated since
creation or the last reset *before the first read*; reads are repeatable; updates after a read are
ignored until reset; a `get_digest` into a buffer that is too small returns length 0 and is not a read.
-/
namespace PV.HashX

inductive Op where
  | upd (d : Bytes)
  | reset
  | str
  | dig (cap : Nat)

inductive Out where
  | ok
  | hex (s : String)
  | bytes (n : Nat) (b : Bytes)
deriving DecidableEq

namespace Hash
variable {A : Impl}

def step (h : Hash A) : Op → Hash A × Out
  | .upd d => (h.update d, .ok)
  | .reset => (h.reset, .ok)
  | .str => ((h.getString).1, .hex (h.getString).2)
  | .dig cap => ((h.getDigest cap).1, .bytes (h.getDigest cap).2.1 (h.getDigest cap).2.2)

def run (h : Hash A) : List Op → List Out
  | [] => []
  | op :: ops => (h.step op).2 :: run (h.step op).1 ops

end Hash

/-- the user's view: the non-empty chunks since creation / last reset before the first read -/
structure SpecSt where
  chunks : List Bytes
  closed : Bool

def specStep (hashLen : Nat) (F : List Bytes → Bytes) (s : SpecSt) : Op → SpecSt × Out
  | .upd d => (if d.length = 0 ∨ s.closed = true then s else { s with chunks := s.chunks ++ [d] }, .ok)
  | .reset => (⟨[], false⟩, .ok)
  | .str => ({ s with closed := true }, .hex (Hash.toHex (F s.chunks)))
  | .dig cap => if hashLen > cap then (s, .bytes 0 []) else ({ s with closed := true }, .bytes hashLen (F s.chunks))

def specRun (hashLen : Nat) (F : List Bytes → Bytes) (s : SpecSt) : List Op → List Out
  | [] => []
  | op :: ops => (specStep hashLen F s op).2 :: specRun hashLen F (specStep hashLen F s op).1 ops

/-- what the dispatcher needs from an algorithm: `reset` brings every reachable context back to `create ()` -/
structure ImplOK (A : Impl) where
  P : A.σ → Prop
  create : P A.create
  update : ∀ c d, P c → P (A.update c d)
  finish : ∀ c, P c → P (A.finish c)
  reset : ∀ c, P c → A.reset c = A.create

/-- the digest the streaming functions produce for a list of chunks -/
def streamDigest (A : Impl) (cs : List Bytes) : Bytes :=
  A.digest (A.finish (cs.foldl A.update A.create)) A.hashLen

/-- how a dispatcher state and the user's view correspond -/
structure Rel {A : Impl} (ok : ImplOK A) (h : Hash A) (s : SpecSt) : Prop where
  closed : h.closed = s.closed
  p : ok.P h.ctx
  open_ : s.closed = false → h.ctx = s.chunks.foldl A.update A.create
  shut : s.closed = true → A.digest h.ctx A.hashLen = streamDigest A s.chunks

theorem close_rel {A : Impl} {ok : ImplOK A} {h : Hash A} {s : SpecSt} (r : Rel ok h s) :
    Rel ok h.close { s with closed := true } := by
  have hc := r.closed
  cases hs : s.closed
  · rw [hs] at hc
    have hd : A.digest (A.finish h.ctx) A.hashLen = streamDigest A s.chunks := by rw [r.open_ hs]; rfl
    simp only [Hash.close, hc, Bool.not_false, if_true]
    exact ⟨rfl, ok.finish _ r.p, fun h' => by simp at h', fun _ => hd⟩
  · rw [hs] at hc
    simp only [Hash.close, hc, Bool.not_true, Bool.false_eq_true, if_false]
    exact ⟨hc, r.p, fun h' => by simp at h', fun _ => r.shut hs⟩

theorem step_rel {A : Impl} (ok : ImplOK A) {h : Hash A} {s : SpecSt} (r : Rel ok h s) (op : Op) :
    (h.step op).2 = (specStep A.hashLen (streamDigest A) s op).2 ∧
    Rel ok (h.step op).1 (specStep A.hashLen (streamDigest A) s op).1 := by
  have hc := r.closed
  cases op with
  | upd d =>
    refine ⟨rfl, ?_⟩
    simp only [Hash.step, Hash.update, specStep]
    by_cases hd : d.length = 0
    · simp only [hd, if_true, true_or]; exact r
    · cases hs : s.closed
      · have ho := r.open_ hs
        rw [hs] at hc
        simp only [hd, hc, if_false, Bool.false_eq_true, or_self]
        refine ⟨by simp, ok.update _ _ r.p, ?_, ?_⟩
        · intro _; simp only [ho, List.foldl_append, List.foldl_cons, List.foldl_nil]
        · intro h'; simp at h'
      · rw [hs] at hc
        simp only [hd, hc, if_true, if_false, or_true]
        exact r
  | reset =>
    refine ⟨rfl, ?_⟩
    simp only [Hash.step, Hash.reset, specStep]
    exact ⟨rfl, by rw [ok.reset _ r.p]; exact ok.create, fun _ => by rw [ok.reset _ r.p]; rfl, fun h' => by simp at h'⟩
  | str =>
    simp only [Hash.step, Hash.getString, specStep]
    exact ⟨by rw [(close_rel r).shut rfl], close_rel r⟩
  | dig cap =>
    simp only [Hash.step, Hash.getDigest, specStep]
    by_cases hcap : A.hashLen > cap
    · simp only [hcap, if_true]; exact ⟨trivial, r⟩
    · simp only [hcap, if_false]
      exact ⟨by rw [(close_rel r).shut rfl], close_rel r⟩

/-- **history, dispatcher part**: for every operation sequence the answers are those of the user's
    view with `F =` the digest the streaming functions give for the recorded chunks -/
theorem run_eq_specRun {A : Impl} (ok : ImplOK A) (ops : List Op) {h : Hash A} {s : SpecSt} (r : Rel ok h s) :
    h.run ops = specRun A.hashLen (streamDigest A) s ops := by
  induction ops generalizing h s with
  | nil => rfl
  | cons op ops ih =>
    obtain ⟨h1, h2⟩ := step_rel ok r op
    simp only [Hash.run, specRun]
    rw [h1, ih h2]

theorem new_rel {A : Impl} (ok : ImplOK A) : Rel ok (Hash.new A) ⟨[], false⟩ :=
  ⟨rfl, ok.create, fun _ => rfl, fun h => by simp at h⟩

/-- all chunks recorded by the user's view while running `ops` from `s` satisfy `Q` -/
def chunksOK (Q : Bytes → Prop) (ops : List Op) : Prop := ∀ d, Op.upd d ∈ ops → Q d

/-- the user's view only ever applies `F` to lists of chunks that were passed to `update` -/
theorem specRun_congr (hashLen : Nat) (F G : List Bytes → Bytes) (Q : Bytes → Prop)
    (hFG : ∀ cs, (∀ c ∈ cs, Q c) → F cs = G cs) (ops : List Op) (hops : chunksOK Q ops) (s : SpecSt)
    (hs : ∀ c ∈ s.chunks, Q c) : specRun hashLen F s ops = specRun hashLen G s ops := by
  induction ops generalizing s with
  | nil => rfl
  | cons op ops ih =>
    have hops' : chunksOK Q ops := fun d hd => hops d (List.mem_cons_of_mem _ hd)
    simp only [specRun]
    have e : specStep hashLen F s op = specStep hashLen G s op := by
      cases op <;> simp only [specStep, hFG s.chunks hs]
    rw [e]
    congr 1
    apply ih hops'
    cases op with
    | upd d =>
      simp only [specStep]
      split
      · exact hs
      · intro c hc
        rcases List.mem_append.mp hc with hc | hc
        · exact hs c hc
        · simp only [List.mem_singleton] at hc
          subst hc
          exact hops c (by simp)
    | reset => intro c hc; simp [specStep] at hc
    | str => exact hs
    | dig cap =>
      simp only [specStep]
      split <;> exact hs

/-- **history**: combine the dispatcher part with a chunking theorem `streamDigest = H ∘ flatten` -/
theorem history {A : Impl} (ok : ImplOK A) (H : Bytes → Bytes) (Q : Bytes → Prop)
    (hchunk : ∀ cs, (∀ c ∈ cs, Q c) → streamDigest A cs = H cs.flatten)
    (ops : List Op) (hops : chunksOK Q ops) :
    (Hash.new A).run ops = specRun A.hashLen (fun cs => H cs.flatten) ⟨[], false⟩ ops := by
  rw [run_eq_specRun ok ops (new_rel ok)]
  exact specRun_congr _ _ _ Q hchunk ops hops _ (by intro c hc; simp at hc)

def hexChars (d : Bytes) : List Char :=
  d.flatMap fun (b : UInt8) => [Hash.hexDigit ((b >>> (4 : UInt8)) &&& (0x0F : UInt8)).toNat, Hash.hexDigit (b &&& (0x0F : UInt8)).toNat]

theorem toHex_toList (d : Bytes) : (Hash.toHex d).toList = hexChars d := by
  simp [Hash.toHex, hexChars]

theorem hexChars_length (d : Bytes) : (hexChars d).length = 2 * d.length := by
  induction d with
  | nil => rfl
  | cons b d ih => simp only [hexChars, List.flatMap_cons, List.length_append, List.length_cons, List.length_nil] at *; omega

theorem hexDigit_lower : ∀ n, n < 16 → Hash.hexDigit n ∈ ['0', '1', '2', '3', '4', '5', '6', '7', '8', '9', 'a', 'b', 'c', 'd', 'e', 'f'] := by
  decide

theorem nibble_lt (x : UInt8) : (x &&& (0x0F : UInt8)).toNat < 16 := by
  rw [UInt8.toNat_and]
  have := Nat.and_le_right (n := x.toNat) (m := (0x0F : UInt8).toNat)
  have e : (0x0F : UInt8).toNat = 15 := rfl
  omega

theorem hexChars_lower (d : Bytes) : ∀ c ∈ hexChars d,
    c ∈ ['0', '1', '2', '3', '4', '5', '6', '7', '8', '9', 'a', 'b', 'c', 'd', 'e', 'f'] := by
  intro c hc
  simp only [hexChars, List.mem_flatMap] at hc
  obtain ⟨b, _, hb⟩ := hc
  simp only [List.mem_cons, List.mem_nil_iff, or_false] at hb
  rcases hb with rfl | rfl
  · exact hexDigit_lower _ (nibble_lt _)
  · exact hexDigit_lower _ (nibble_lt _)

end PV.HashX
