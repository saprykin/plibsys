import PV.Model.HashX.Stream
import PV.Spec.HashX
/-!
# Buffered absorb = absorb of the concatenation (generic part of C11x)

For any block size `B`, block function `process` and fixed-size buffer: feeding chunks through the
three-phase `feed` keeps
  `st = foldl process init (blocks B m)`   and   `buf.take |rest B m| = rest B m`
where `m` is the concatenation of everything fed so far.  Also here: the C-width phase-1 test of both
algorithm files (`topup_test`), and `feedZ = feed` on zero bytes (the driver's `updz`, which feeds a
chunk of zeros without building it).
-/
namespace PV.HashX
open PV.HashX.Spec

theorem blocks_eq (B : Nat) (m : Bytes) :
    blocks B m = if 0 < B ∧ B ≤ m.length then m.take B :: blocks B (m.drop B) else [] := by
  rw [blocks]
  have : ((m.take B).length = B) = (B ≤ m.length) := by
    simp only [List.length_take, eq_iff_iff]; omega
  simp only [this]
  split <;> rfl

theorem rest_eq (B : Nat) (m : Bytes) :
    rest B m = if 0 < B ∧ B ≤ m.length then rest B (m.drop B) else m := by
  rw [rest]
  have : ((m.take B).length = B) = (B ≤ m.length) := by
    simp only [List.length_take, eq_iff_iff]; omega
  simp only [this]
  split <;> rfl

theorem blocks_short {B : Nat} {m : Bytes} (h : m.length < B) : blocks B m = [] := by
  rw [blocks_eq]; simp; omega

theorem rest_short {B : Nat} {m : Bytes} (h : m.length < B) : rest B m = m := by
  rw [rest_eq]; simp; omega

theorem blocks_long {B : Nat} {m : Bytes} (hB : 0 < B) (h : B ≤ m.length) :
    blocks B m = m.take B :: blocks B (m.drop B) := by
  rw [blocks_eq]; simp [hB, h]

theorem rest_long {B : Nat} {m : Bytes} (hB : 0 < B) (h : B ≤ m.length) :
    rest B m = rest B (m.drop B) := by
  rw [rest_eq]; simp [hB, h]

theorem rest_length (B : Nat) (m : Bytes) : (rest B m).length = m.length % B := by
  induction hn : m.length using Nat.strongRecOn generalizing m with
  | _ n ih =>
    by_cases h : 0 < B ∧ B ≤ m.length
    · rw [rest_long h.1 h.2]
      have hl : (m.drop B).length = n - B := by simp [hn]
      rw [ih (n - B) (by omega) (m.drop B) hl]
      have : n = (n - B) + B := by omega
      rw [this, Nat.add_mod_right]
      congr 1; omega
    · rw [rest_eq, if_neg h, hn]
      rcases Nat.eq_zero_or_pos B with rfl | hB
      · rw [Nat.mod_zero]
      · rw [Nat.mod_eq_of_lt (by omega)]

theorem rest_length_lt {B : Nat} (hB : 0 < B) (m : Bytes) : (rest B m).length < B := by
  rw [rest_length]; exact Nat.mod_lt _ hB

/-- splitting a message: the blocks of `m ++ d` are the blocks of `m` followed by the blocks of
    (what `m` leaves over) `++ d` -/
theorem blocks_append (B : Nat) (m d : Bytes) :
    blocks B (m ++ d) = blocks B m ++ blocks B (rest B m ++ d) ∧
    rest B (m ++ d) = rest B (rest B m ++ d) := by
  induction hn : m.length using Nat.strongRecOn generalizing m with
  | _ n ih =>
    by_cases h : 0 < B ∧ B ≤ m.length
    · obtain ⟨hB, hl⟩ := h
      have hl' : B ≤ (m ++ d).length := by simp; omega
      have ht : (m ++ d).take B = m.take B := by
        rw [List.take_append_of_le_length hl]
      have hd : (m ++ d).drop B = m.drop B ++ d := by
        rw [List.drop_append_of_le_length hl]
      have hlen : (m.drop B).length = n - B := by simp [hn]
      obtain ⟨i1, i2⟩ := ih (n - B) (by omega) (m.drop B) hlen
      rw [blocks_long hB hl', rest_long hB hl', blocks_long hB hl, rest_long hB hl, ht, hd, i1, i2]
      simp
    · have hb : blocks B m = [] := by rw [blocks_eq]; simp [h]
      have hr : rest B m = m := by rw [rest_eq]; simp [h]
      rw [hb, hr]; simp

theorem rest_exact {B : Nat} (hB : 0 < B) {m : Bytes} (h : m.length = B) : rest B m = [] ∧ blocks B m = [m] := by
  have h1 : B ≤ m.length := by omega
  rw [rest_long hB h1, blocks_long hB h1]
  have hd : m.drop B = [] := List.drop_eq_nil_of_le (by omega)
  have ht : m.take B = m := List.take_of_length_le (by omega)
  rw [hd, ht, rest_short (show ([] : Bytes).length < B from hB), blocks_short (show ([] : Bytes).length < B from hB)]
  exact ⟨rfl, rfl⟩

theorem blocks_length (B : Nat) (m : Bytes) : ∀ b ∈ blocks B m, b.length = B := by
  induction hn : m.length using Nat.strongRecOn generalizing m with
  | _ n ih =>
    intro b hb
    by_cases h : 0 < B ∧ B ≤ m.length
    · rw [blocks_long h.1 h.2] at hb
      rcases List.mem_cons.mp hb with rfl | hb
      · simp; omega
      · exact ih (n - B) (by omega) (m.drop B) (by simp [hn]) b hb
    · rw [blocks_eq] at hb; simp [h] at hb

theorem memcpyAt_length {buf : Bytes} {off : Nat} {src : Bytes} (h : off + src.length ≤ buf.length) :
    (memcpyAt buf off src).length = buf.length := by
  simp [memcpyAt]; omega

theorem memcpyAt_take {buf : Bytes} {off : Nat} {src : Bytes} (h : off ≤ buf.length) :
    (memcpyAt buf off src).take (off + src.length) = buf.take off ++ src := by
  unfold memcpyAt
  have : (buf.take off ++ src).length = off + src.length := by simp; omega
  rw [← this, List.take_left']
  rfl

/-- a `memcpy` that completes the first `B` bytes of the buffer -/
theorem memcpyAt_fill {buf src : Bytes} {off B : Nat} (h : off + src.length = B) (hb : B ≤ buf.length) :
    (memcpyAt buf off src).take B = buf.take off ++ src ∧ (memcpyAt buf off src).length = buf.length :=
  ⟨h ▸ memcpyAt_take (by omega), memcpyAt_length (by omega)⟩

theorem blockLoop_of_le {σ : Type} {B : Nat} (hB : 0 < B) (p : σ → Bytes → σ) (c : Ctx σ) (data : Bytes) {len : Nat}
    (h : B ≤ len) :
    blockLoop B p c data len = blockLoop B p
      ⟨p c.st ((memcpyAt c.buf 0 (data.take B)).take B), memcpyAt c.buf 0 (data.take B)⟩ (data.drop B) (len - B) := by
  rw [blockLoop]; simp only [hB, h, and_self, dite_true]

theorem blockLoop_of_not {σ : Type} {B : Nat} (p : σ → Bytes → σ) (c : Ctx σ) (data : Bytes) {len : Nat}
    (h : ¬ (0 < B ∧ B ≤ len)) : blockLoop B p c data len = (c, data, len) := by
  rw [blockLoop]; simp only [h, dite_false]

/-- phase 2 absorbs the full blocks of `data` and hands its rest on; the buffer keeps its size -/
theorem blockLoop_spec {σ : Type} {B : Nat} (p : σ → Bytes → σ) (c : Ctx σ) (data : Bytes) (hbuf : B ≤ c.buf.length) :
    ∃ buf : Bytes, buf.length = c.buf.length ∧
      blockLoop B p c data data.length = (⟨(blocks B data).foldl p c.st, buf⟩, rest B data, (rest B data).length) := by
  induction hn : data.length using Nat.strongRecOn generalizing c data with
  | _ n ih =>
    by_cases h : 0 < B ∧ B ≤ n
    · obtain ⟨hB, hl⟩ := h
      obtain ⟨hmt, hml⟩ := memcpyAt_fill (buf := c.buf) (off := 0) (src := data.take B) (by simp; omega) hbuf
      rw [List.take_zero, List.nil_append] at hmt
      obtain ⟨buf, hb, e⟩ := ih (n - B) (by omega) ⟨p c.st (data.take B), memcpyAt c.buf 0 (data.take B)⟩ (data.drop B)
        (by rw [hml]; exact hbuf) (by simp; omega)
      have hdl : B ≤ data.length := hn ▸ hl
      refine ⟨buf, hb.trans hml, ?_⟩
      rw [blockLoop_of_le hB p c data hl, hmt, e, blocks_long (m := data) hB hdl, rest_long (m := data) hB hdl]
      rfl
    · have hb : blocks B data = [] := by rw [blocks_eq]; simp [hn, h]
      have hre : rest B data = data := by rw [rest_eq]; simp [hn, h]
      exact ⟨c.buf, rfl, by rw [blockLoop_of_not p c data h, hb, hre, hn]; rfl⟩

/-- phase 3 after a phase 2 that left `tail`: the buffer holds `pre ++ tail` -/
theorem stash_spec {σ : Type} (c : Ctx σ) (tail pre : Bytes)
    (hpre : c.buf.take pre.length = pre)
    (hfit : pre.length + tail.length ≤ c.buf.length) :
    let c' := stash (c, tail, tail.length) pre.length
    c'.st = c.st ∧ c'.buf.take (pre ++ tail).length = pre ++ tail ∧ c'.buf.length = c.buf.length := by
  intro c'
  have hle : pre.length ≤ c.buf.length := by omega
  by_cases h : 0 < tail.length
  · have hc' : c' = { c with buf := memcpyAt c.buf pre.length tail } := by
      show stash (c, tail, tail.length) pre.length = _
      simp [stash, h]
    rw [hc']
    refine ⟨rfl, ?_, memcpyAt_length hfit⟩
    simp only [List.length_append]
    rw [memcpyAt_take hle, hpre]
  · have hc' : c' = c := by
      show stash (c, tail, tail.length) pre.length = _
      simp [stash, h]
    have : tail = [] := List.eq_nil_of_length_eq_zero (by omega)
    subst this
    rw [hc']
    refine ⟨rfl, ?_, rfl⟩
    simpa using hpre

/-- phases 2 and 3 on an empty buffer -/
theorem loop_stash_spec {σ : Type} {B : Nat} (hB : 0 < B) (p : σ → Bytes → σ) (c : Ctx σ) (d : Bytes)
    (hbuf : B ≤ c.buf.length) :
    let c' := stash (blockLoop B p c d d.length) 0
    c'.st = (blocks B d).foldl p c.st ∧ c'.buf.take (rest B d).length = rest B d ∧
    c'.buf.length = c.buf.length := by
  obtain ⟨buf, hb, e⟩ := blockLoop_spec p c d hbuf
  have := stash_spec ⟨(blocks B d).foldl p c.st, buf⟩ (rest B d) [] rfl
    (by have := rest_length_lt hB d; simp only [List.length_nil]; omega)
  rw [e]
  exact ⟨this.1, this.2.1, this.2.2.trans hb⟩

/-- what `feed` establishes, from the point of view of the bytes `t` that were buffered before -/
theorem feed_spec {σ : Type} {B : Nat} (hB : 0 < B) (p : σ → Bytes → σ) (c : Ctx σ) (t data : Bytes)
    (ht : c.buf.take t.length = t) (htl : t.length < B) (hbuf : B ≤ c.buf.length)
    :
    let c' := feed B p t.length (decide (t.length ≠ 0 ∧ B - t.length ≤ data.length)) c data
    c'.st = (blocks B (t ++ data)).foldl p c.st ∧
    c'.buf.take (rest B (t ++ data)).length = rest B (t ++ data) ∧
    c'.buf.length = c.buf.length := by
  by_cases hc : t.length ≠ 0 ∧ B - t.length ≤ data.length
  · -- phase 1 completes the block `t ++ data.take (B - |t|)`; phases 2 and 3 see the rest of `data`
    rw [decide_eq_true hc]
    obtain ⟨hne, hge⟩ := hc
    have hfl : (t ++ data.take (B - t.length)).length = B := by simp; omega
    obtain ⟨hb1t, hb1l⟩ := memcpyAt_fill (buf := c.buf) (off := t.length) (src := data.take (B - t.length))
      (by simp; omega) hbuf
    rw [ht] at hb1t
    have hsplit : t ++ data = (t ++ data.take (B - t.length)) ++ data.drop (B - t.length) := by
      rw [List.append_assoc, List.take_append_drop]
    have hbl : blocks B (t ++ data) = (t ++ data.take (B - t.length)) :: blocks B (data.drop (B - t.length)) := by
      rw [hsplit, (blocks_append B _ _).1, (rest_exact hB hfl).1, (rest_exact hB hfl).2]; rfl
    have hrs : rest B (t ++ data) = rest B (data.drop (B - t.length)) := by
      rw [hsplit, (blocks_append B _ _).2, (rest_exact hB hfl).1]; rfl
    obtain ⟨s1, s2, s3⟩ := loop_stash_spec hB p
      ⟨p c.st ((memcpyAt c.buf t.length (data.take (B - t.length))).take B), memcpyAt c.buf t.length (data.take (B - t.length))⟩
      (data.drop (B - t.length)) (by simp only; omega)
    rw [hbl, hrs, List.foldl_cons, ← hb1t]
    exact ⟨s1, s2, s3.trans hb1l⟩
  · rw [decide_eq_false hc]
    by_cases h0 : t.length = 0
    · -- nothing buffered
      have ht0 : t = [] := List.eq_nil_of_length_eq_zero h0
      subst ht0
      exact loop_stash_spec hB p c data hbuf
    · -- the buffered bytes stay: the chunk is too short to complete the block
      have hlt : data.length < B := by omega
      have hall : (t ++ data).length < B := by simp; omega
      have hloop := blockLoop_of_not p c data (len := data.length) (B := B) (by omega)
      obtain ⟨s1, s2, s3⟩ := stash_spec c data t ht (by omega)
      intro c'
      have hc' : c' = stash (c, data, data.length) t.length := by
        show feed B p t.length false c data = _
        simp only [feed, Bool.false_eq_true, if_false, hloop]
      rw [hc', blocks_short hall, rest_short hall]
      exact ⟨s1, s2, s3⟩

/-- the invariant of a streaming context after the bytes `m` -/
structure Inv {σ : Type} (B : Nat) (p : σ → Bytes → σ) (init : σ) (c : Ctx σ) (m : Bytes) : Prop where
  st : c.st = (blocks B m).foldl p init
  buf : c.buf.take (rest B m).length = rest B m
  cap : B ≤ c.buf.length

/-- **buffered absorb = absorb of the concatenation**, one chunk -/
theorem feed_inv {σ : Type} {B : Nat} (hB : 0 < B) {p : σ → Bytes → σ} {init : σ} {c : Ctx σ} {m : Bytes}
    (inv : Inv B p init c m) (data : Bytes) :
    Inv B p init (feed B p (m.length % B) (decide (m.length % B ≠ 0 ∧ B - m.length % B ≤ data.length)) c data)
      (m ++ data) := by
  rw [← rest_length]
  have := feed_spec hB p c (rest B m) data inv.buf (rest_length_lt hB m) inv.cap
  simp only at this
  obtain ⟨h1, h2, h3⟩ := this
  refine ⟨?_, ?_, ?_⟩
  · rw [h1, inv.st, (blocks_append B m data).1, List.foldl_append]
  · rw [(blocks_append B m data).2]; exact h2
  · rw [h3]; exact inv.cap

theorem Inv.nil {σ : Type} {B : Nat} (p : σ → Bytes → σ) (init : σ) {buf : Bytes} (hbuf : B ≤ buf.length) :
    Inv B p init ⟨init, buf⟩ [] := by
  refine ⟨?_, ?_, hbuf⟩
  · rw [blocks_eq, if_neg (by simp; omega)]; rfl
  · rw [rest_eq, if_neg (by simp; omega)]; rfl

/-- `I ctx m`: "`ctx` is the state after the bytes `m`" -/
theorem foldl_update_inv {κ : Type} {I : κ → Bytes → Prop} {update : κ → Bytes → κ} {Q : Bytes → Prop}
    (step : ∀ {c m}, I c m → ∀ d, Q d → I (update c d) (m ++ d)) (chunks : List Bytes) (hc : ∀ d ∈ chunks, Q d)
    {c : κ} {m : Bytes} (h : I c m) : I (chunks.foldl update c) (m ++ chunks.flatten) := by
  induction chunks generalizing c m with
  | nil => simpa using h
  | cons d ds ih =>
    simp only [List.foldl_cons, List.flatten_cons, ← List.append_assoc]
    exact ih (fun x hx => hc x (List.mem_cons_of_mem _ hx)) (step h d (hc d List.mem_cons_self))

/-- the phase-1 test as both C files compute it (`left && (puint64) len >= to_fill` with the 32-bit
    `to_fill = B - left`) is the mathematical one, for every chunk length a `psize` can hold -/
theorem topup_test {B left : UInt32} (h : left ≤ B) {n : Nat} (hn : n < 2 ^ 64) :
    (left != 0 && n.toUInt64 ≥ (B - left).toUInt64) = decide (left.toNat ≠ 0 ∧ B.toNat - left.toNat ≤ n) := by
  have h0 : n.toUInt64.toNat = n := by simp; omega
  rw [Bool.eq_iff_iff]
  simp only [Bool.and_eq_true, bne_iff_ne, ne_eq, ge_iff_le, decide_eq_true_eq, UInt64.le_iff_toNat_le,
    UInt32.toNat_toUInt64, UInt32.toNat_sub_of_le _ _ h, h0, ← UInt32.toNat_inj, UInt32.toNat_zero]

theorem stashZ_blockLoopZ {σ : Type} (B : Nat) (p : σ → Bytes → σ) (c : Ctx σ) (n l : Nat) :
    stashZ (blockLoopZ B p c n) l = stash (blockLoop B p c (List.replicate n 0) n) l := by
  induction n using Nat.strongRecOn generalizing c with
  | _ n ih =>
    by_cases h : 0 < B ∧ B ≤ n
    · have ht : (List.replicate n (0 : UInt8)).take B = List.replicate B 0 := by
        rw [List.take_replicate, Nat.min_eq_left h.2]
      rw [blockLoop_of_le h.1 p c _ h.2, ht, List.drop_replicate, ← ih (n - B) (by omega), blockLoopZ]
      simp only [h, and_self, dite_true]
    · rw [blockLoop_of_not p c _ h, blockLoopZ]
      simp only [h, dite_false]
      rfl

/-- `feedZ … n`, the code run on `n` zero bytes that are never materialised, is `feed` on `replicate n 0` -/
theorem feedZ_eq {σ : Type} (B : Nat) (p : σ → Bytes → σ) (left : Nat) (topup : Bool) (c : Ctx σ) (n : Nat) :
    feedZ B p left topup c n = feed B p left topup c (List.replicate n 0) := by
  unfold feedZ feed
  cases topup
  · simp only [Bool.false_eq_true, if_false, List.length_replicate]
    exact stashZ_blockLoopZ B p c n left
  · simp only [if_true, List.take_replicate, List.drop_replicate, List.length_replicate]
    exact stashZ_blockLoopZ B p _ _ 0

end PV.HashX
