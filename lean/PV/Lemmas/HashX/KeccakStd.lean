import PV.Spec.KeccakStd
import PV.Model.HashX.Keccak
/-!
# The C code's Keccak permutation is Keccak-f[1600] of FIPS 202

`Keccak.keccakF` (transliteration of `pcryptohash-sha3.c`: in-place theta, the unrolled rho/pi
assignment chain with the rotation amounts and lane order extracted from the source, chi, the
round-constant table extracted from the source) equals `KeccakStd.keccakF` (step mappings on
`A[x, y]`, offsets from the `(t+1)(t+2)/2` walk, constants from the LFSR `rc`) on every 25-lane state.
A 25-lane state is the table `ofFn f` of its lanes (`ofFn_get`); on `#[f 0 0, …, f 4 4]` the in-place
programs of the C code and the standard's step mappings are both evaluated by `simp` (`steps_ofFn`).
-/
namespace PV.HashX.KeccakProof
open PV.HashX PV.Generated.HashX KeccakStd

theorem range25 : List.range 25 = [0,1,2,3,4,5,6,7,8,9,10,11,12,13,14,15,16,17,18,19,20,21,22,23,24] := by decide
theorem range5 : List.range 5 = [0,1,2,3,4] := by decide
theorem arange5 : Array.range 5 = #[0,1,2,3,4] := by decide

theorem ofFn_lit (f : Nat → Nat → UInt64) : ofFn f = #[f 0 0, f 1 0, f 2 0, f 3 0, f 4 0, f 0 1, f 1 1, f 2 1, f 3 1, f 4 1, f 0 2, f 1 2, f 2 2, f 3 2, f 4 2, f 0 3, f 1 3, f 2 3, f 3 3, f 4 3, f 0 4, f 1 4, f 2 4, f 3 4, f 4 4] := by
  unfold ofFn
  rw [range25]
  rfl

theorem ofFn_size (f : Nat → Nat → UInt64) : (ofFn f).size = 25 := by
  simp [ofFn]

/-- a state of 25 lanes is the table of its lanes -/
theorem ofFn_get (h : Array UInt64) (hs : h.size = 25) : ofFn (KeccakStd.get h) = h := by
  apply Array.ext
  · rw [ofFn_size, hs]
  · intro i h1 h2
    rw [ofFn_size] at h1
    have e : i % 5 % 5 + 5 * (i / 5 % 5) = i := by omega
    simp only [ofFn, KeccakStd.get, List.getElem_toArray, List.getElem_map, List.getElem_range, e, getElem!_pos, h2]

/-- the round constants in the C source are the LFSR's -/
theorem rc_table : (List.range 24).map RC = keccakK := by decide

theorem roundConstant_eq (i : Nat) (hi : i < 24) : Keccak.roundConstants[i]! = RC i := by
  simp [Keccak.roundConstants, ← rc_table, hi]

/-- the ρ offsets of the standard's walk, reduced mod 64, in lane order `x + 5 y` (the rotation
    amounts of the C chain are compared with them in `steps_ofFn`) -/
theorem offset_table : (List.range 25).map (fun i => offset (i % 5) (i / 5) % 64) =
    [0, 1, 62, 28, 27, 36, 44, 6, 55, 20, 3, 10, 43, 25, 39, 41, 45, 15, 21, 8, 18, 2, 61, 56, 14] := by decide

theorem get!_toArray (l : List UInt64) (i : Nat) : l.toArray[i]! = l[i]?.getD 0 := by
  simp; rfl

theorem getD_succ (a : UInt64) (l : List UInt64) (i : Nat) : (a :: l)[i + 1]?.getD 0 = l[i]?.getD 0 := rfl

theorem getD_zero (a : UInt64) (l : List UInt64) : (a :: l)[0]?.getD 0 = a := rfl

/-- on a state written out lane by lane, the four in-place steps of the C round are θ, π ∘ ρ, χ, ι
    (`c` the round constant) -/
theorem steps_ofFn (f : Nat → Nat → UInt64) (c : UInt64) :
    Keccak.theta (ofFn f) = theta (ofFn f) ∧ Keccak.rhoPi (ofFn f) = pi (rho (ofFn f)) ∧
    Keccak.chi (ofFn f) = chi (ofFn f) ∧
    (ofFn f).set! 0 ((ofFn f)[0]! ^^^ c) =
      ofFn fun x y => if x = 0 ∧ y = 0 then KeccakStd.get (ofFn f) 0 0 ^^^ c else KeccakStd.get (ofFn f) x y := by
  have off := offset_table
  simp only [range25, List.map_cons, List.map_nil, Nat.reduceMod, Nat.reduceDiv, List.cons.injEq, and_true] at off
  -- reads and writes at literal positions of a literal array; `off` gives the 25 offsets of ρ
  refine ⟨?_, ?_, ?_, ?_⟩ <;>
    simp only [off, theta, pi, rho, chi, ofFn_lit, KeccakStd.get, rot, Keccak.theta, Keccak.rhoPi, Keccak.chi, Keccak.rotl,
      range5, arange5, keccakThetaD, keccakRhoPi, keccakTmpSrc, List.foldl_cons, List.foldl_nil, List.map_toArray,
      List.map_cons, List.map_nil, Array.set!_eq_setIfInBounds, List.setIfInBounds_toArray, get!_toArray,
      List.set_cons_zero, List.set_cons_succ, getD_succ, getD_zero,
      Nat.reduceAdd, Nat.reduceSub, Nat.reduceMul, Nat.reduceMod, Nat.reduceEqDiff, and_self, and_false, false_and,
      ↓reduceIte]

theorem steps_eq (A : State) (hA : A.size = 25) (c : UInt64) :
    Keccak.theta A = theta A ∧ Keccak.rhoPi A = pi (rho A) ∧ Keccak.chi A = chi A ∧
    A.set! 0 (A[0]! ^^^ c) = ofFn fun x y => if x = 0 ∧ y = 0 then KeccakStd.get A 0 0 ^^^ c else KeccakStd.get A x y :=
  ofFn_get A hA ▸ steps_ofFn (KeccakStd.get A) c

theorem stdRound_size (ir : Nat) (A : State) : (round ir A).size = 25 := ofFn_size _

/-- one round of the C code = `Rnd (A, i_r)` -/
theorem round_eq (h : Array UInt64) (hs : h.size = 25) (ir : Nat) (hir : ir < 24) :
    (Keccak.chi (Keccak.rhoPi (Keccak.theta h))).set! 0
        ((Keccak.chi (Keccak.rhoPi (Keccak.theta h)))[0]! ^^^ Keccak.roundConstants[ir]!)
      = round ir h := by
  rw [(steps_eq h hs 0).1, (steps_eq (theta h) (ofFn_size _) 0).2.1, (steps_eq (pi (rho (theta h))) (ofFn_size _) 0).2.2.1,
    roundConstant_eq ir hir, (steps_eq (chi (pi (rho (theta h)))) (ofFn_size _) (RC ir)).2.2.2]
  rfl

/-- **the permutation of `pcryptohash-sha3.c` is Keccak-f[1600]** (on every state of 25 lanes) -/
theorem keccakF_eq (h : Array UInt64) (hs : h.size = 25) : Keccak.keccakF h = keccakF h := by
  have hr : keccakRounds = 24 := by decide
  unfold Keccak.keccakF keccakF
  rw [hr]
  have key : ∀ (l : List Nat), (∀ i ∈ l, i < 24) → ∀ (h : Array UInt64), h.size = 25 →
      l.foldl (fun h i =>
        let h := Keccak.chi (Keccak.rhoPi (Keccak.theta h))
        h.set! 0 (h[0]! ^^^ Keccak.roundConstants[i]!)) h
      = l.foldl (fun A ir => round ir A) h := by
    intro l
    induction l with
    | nil => intros; simp only [List.foldl_nil]
    | cons i l ih =>
      intro hl h hs
      simp only [List.foldl_cons]
      rw [round_eq h hs i (hl i (by simp))]
      exact ih (fun j hj => hl j (by simp [hj])) _ (stdRound_size i h)
  exact key _ (fun i hi => by simpa using hi) h hs

theorem stdKeccakF_size (A : State) : (keccakF A).size = 25 := by
  unfold keccakF
  rw [List.range_succ, List.foldl_append]
  exact stdRound_size 23 _

theorem keccakF_size (h : Array UInt64) (hs : h.size = 25) : (Keccak.keccakF h).size = 25 := by
  rw [keccakF_eq h hs]; exact stdKeccakF_size h

end PV.HashX.KeccakProof
