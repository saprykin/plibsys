import PV.Model.HashX.Gost
import PV.Spec.HashX
import PV.Lemmas.HashX.Stream
/-!
# GOST R 34.11-94: the streaming context computes the one-shot hash

The 256-bit counters are little-endian lists of 32-bit words; on such lists of any length the C
ripple-carry loop adds (`ripple_spec`).  So `sum256` is addition modulo `2^256`, the bit counter holds
`8 · (bytes so far) mod 2^256` and the checksum the sum of the blocks, for all lengths.
-/
namespace PV.HashX.Gost
open PV.HashX PV.HashX.Spec PV.Generated.HashX

/-- the number held in the words (first word least significant) -/
def leNat : List UInt32 → Nat
  | [] => 0
  | w :: ws => w.toNat + 2 ^ 32 * leNat ws

/-- the `k` low words of `n` -/
def leWords : Nat → Nat → List UInt32
  | 0, _ => []
  | k + 1, n => UInt32.ofNat n :: leWords k (n / 2 ^ 32)

theorem leNat_lt (ws : List UInt32) : leNat ws < 2 ^ (32 * ws.length) := by
  induction ws with
  | nil => exact Nat.one_pos
  | cons w ws ih =>
    have := w.toNat_lt
    rw [leNat, List.length_cons, Nat.mul_succ, Nat.pow_add, Nat.mul_comm _ (2 ^ 32)]
    generalize 2 ^ (32 * ws.length) = P at *
    have : 2 ^ 32 * (leNat ws + 1) ≤ 2 ^ 32 * P := Nat.mul_le_mul_left _ ih
    omega

theorem leNat_leWords (k n : Nat) : leNat (leWords k n) = n % 2 ^ (32 * k) := by
  induction k generalizing n with
  | zero => simp [leWords, leNat, Nat.mod_one]
  | succ k ih =>
    rw [leWords, leNat, ih, UInt32.toNat_ofNat', Nat.mul_succ, Nat.pow_add, Nat.mul_comm (2 ^ (32 * k)), Nat.mod_mul]

theorem leWords_leNat (ws : List UInt32) : leWords ws.length (leNat ws) = ws := by
  induction ws with
  | nil => rfl
  | cons w ws ih =>
    have := w.toNat_lt
    rw [List.length_cons, leWords, leNat, Nat.add_mul_div_left _ _ (by decide), Nat.div_eq_of_lt this, Nat.zero_add, ih]
    congr 1
    apply UInt32.toNat_inj.mp
    rw [UInt32.toNat_ofNat', Nat.add_mul_mod_self_left, Nat.mod_eq_of_lt this]

theorem addc_spec (a b : UInt32) (c : Bool) :
    (addc a b c).1.toNat + 2 ^ 32 * (addc a b c).2.toNat = a.toNat + b.toNat + c.toNat := by
  have ha := a.toNat_lt
  have hb := b.toNat_lt
  have hr : (a + b + (if c then 1 else 0)).toNat = (a.toNat + b.toNat + c.toNat) % 2 ^ 32 := by
    cases c <;> simp [UInt32.toNat_add]
  -- the C carry test `r < a || (carry && r == a)` says that the sum left the word
  have hc : (addc a b c).2 = decide (2 ^ 32 ≤ a.toNat + b.toNat + c.toNat) := by
    rw [Bool.eq_iff_iff]
    simp only [addc, Bool.or_eq_true, Bool.and_eq_true, decide_eq_true_eq, beq_iff_eq, UInt32.lt_iff_toNat_lt,
      ← UInt32.toNat_inj, hr]
    cases c <;> simp <;> omega
  rw [hc]
  simp only [addc, hr]
  by_cases h : 2 ^ 32 ≤ a.toNat + b.toNat + c.toNat
  · simp only [h, decide_true, Bool.toNat_true]; have := Bool.toNat_le c; omega
  · simp only [h, decide_false, Bool.toNat_false]; omega

/-- the loop of `pp_crypto_hash_gost3411_sum_256` over any number of words: the sum and the carry out -/
def ripple : List UInt32 → List UInt32 → Bool → List UInt32 × Bool
  | a :: as, b :: bs, c =>
    let s := addc a b c
    let r := ripple as bs s.2
    (s.1 :: r.1, r.2)
  | _, _, c => ([], c)

/-- **the C adder adds**, with carry in and carry out -/
theorem ripple_spec (as bs : List UInt32) (h : as.length = bs.length) (c : Bool) :
    leNat (ripple as bs c).1 + 2 ^ (32 * as.length) * (ripple as bs c).2.toNat = leNat as + leNat bs + c.toNat := by
  induction as generalizing bs c with
  | nil => cases bs with
    | nil => simp [ripple, leNat]
    | cons b bs => simp at h
  | cons a as ih => cases bs with
    | nil => simp at h
    | cons b bs =>
      have e := addc_spec a b c
      have i := ih bs (by simpa using h) (addc a b c).2
      simp only [ripple, leNat, List.length_cons, Nat.mul_succ, Nat.pow_add, Nat.mul_comm _ (2 ^ 32), Nat.mul_assoc]
      generalize 2 ^ (32 * as.length) * (ripple as bs (addc a b c).2).2.toNat = X at *
      omega

theorem W8.toNat_eq (a : W8) : a.toNat = leNat a.toList := rfl

theorem W8.toNat_lt (a : W8) : a.toNat < 2 ^ 256 := leNat_lt a.toList

theorem toList_sum256 (a b : W8) : (sum256 a b).toList = (ripple a.toList b.toList false).1 := rfl

/-- **the C adder is addition modulo `2^256`** -/
theorem sum256_toNat (a b : W8) : (sum256 a b).toNat = (a.toNat + b.toNat) % 2 ^ 256 := by
  have h := ripple_spec a.toList b.toList rfl false
  rw [← toList_sum256, ← W8.toNat_eq, ← W8.toNat_eq, ← W8.toNat_eq] at h
  have := W8.toNat_lt (sum256 a b)
  have := Bool.toNat_le (ripple a.toList b.toList false).2
  simp only [W8.toList, List.length_cons, List.length_nil, Bool.toNat_false] at h
  omega

theorem toList_wordsOfNat (n : Nat) : (wordsOfNat n).toList = leWords 8 n := by
  simp only [wordsOfNat, W8.toList, leWords, Nat.div_div_eq_div_mul]

theorem W8.toList_inj {a b : W8} (h : a.toList = b.toList) : a = b := by
  cases a; cases b
  simp only [W8.toList, List.cons.injEq, and_true] at h
  simp only [W8.mk.injEq]
  exact h

theorem wordsOfNat_toNat (a : W8) : wordsOfNat a.toNat = a :=
  W8.toList_inj (by rw [toList_wordsOfNat, W8.toNat_eq]; exact leWords_leNat a.toList)

theorem toNat_wordsOfNat (n : Nat) : (wordsOfNat n).toNat = n % 2 ^ 256 := by
  rw [W8.toNat_eq, toList_wordsOfNat]; exact leNat_leWords 8 n

theorem W8.toNat_inj {a b : W8} (h : a.toNat = b.toNat) : a = b := by
  rw [← wordsOfNat_toNat a, ← wordsOfNat_toNat b, h]

theorem W8.zero_toNat : W8.zero.toNat = 0 := by decide

theorem leNat_cons_mod (w : UInt32) (ws : List UInt32) : leNat (w :: ws) % 2 ^ 32 = w.toNat := by
  rw [leNat, Nat.add_mul_mod_self_left, Nat.mod_eq_of_lt w.toNat_lt]

theorem and_ff (x : UInt32) : (x &&& (0xFF : UInt32)).toNat = x.toNat % 256 := by
  rw [UInt32.toNat_and]
  exact Nat.and_two_pow_sub_one_eq_mod x.toNat 8

theorem W8.w0_toNat (a : W8) : a.w0.toNat = a.toNat % 2 ^ 32 := by
  rw [W8.toNat_eq, W8.toList, leNat_cons_mod]

/-- `left`: the low byte of the bit counter, in bytes -/
theorem left_spec (l : W8) (k : Nat) (h : l.toNat = (8 * k) % 2 ^ 256) :
    ((l.w0 &&& (0xFF : UInt32)) >>> (3 : UInt32)).toNat = k % 32 := by
  have e : (3 : UInt32).toNat % 32 = 3 := rfl
  rw [UInt32.toNat_shiftRight, e, and_ff, W8.w0_toNat, h, Nat.shiftRight_eq_div_pow]
  omega

theorem left_le (l : W8) (k : Nat) (h : l.toNat = (8 * k) % 2 ^ 256) :
    (l.w0 &&& (0xFF : UInt32)) >>> (3 : UInt32) ≤ (32 : UInt32) := by
  rw [UInt32.le_iff_toNat_le, left_spec l k h]
  exact Nat.le_of_lt (Nat.mod_lt _ (by decide))

/-- `len256`: the bit count of a chunk below `2^61` bytes fits the two words the C code fills -/
theorem len256_toNat (n : Nat) (hn : n < 2 ^ 61) :
    (W8.mk (n.toUInt64 <<< 3).toUInt32 (n.toUInt64 >>> 29).toUInt32 0 0 0 0 0 0).toNat = 8 * n := by
  have h0 : n.toUInt64.toNat = n := by simp; omega
  simp only [W8.toNat, UInt64.toNat_toUInt32, UInt64.toNat_shiftLeft, UInt64.toNat_shiftRight, h0,
    Nat.shiftLeft_eq, Nat.shiftRight_eq_div_pow]
  simp
  omega

theorem updateHead_spec (ctx : Ctx) (k : Nat) (hlen : ctx.len.toNat = (8 * k) % 2 ^ 256) (n : Nat) (hn : n < 2 ^ 61) :
    ∃ l' : W8, updateHead ctx n = (k % 32, decide (k % 32 ≠ 0 ∧ 32 - k % 32 ≤ n), l') ∧
      l'.toNat = (8 * (k + n)) % 2 ^ 256 := by
  refine ⟨_, Prod.ext (left_spec ctx.len k hlen) (Prod.ext ?_ rfl), ?_⟩
  · simp only [updateHead]
    rw [topup_test (left_le ctx.len k hlen) (by omega), left_spec ctx.len k hlen]
    rfl
  · simp only [updateHead]
    rw [sum256_toNat, len256_toNat n hn, hlen]
    omega

theorem foldl_processBlock (bs : List Bytes) (h s : W8) :
    bs.foldl processBlock (h, s) = ((bs.map w8OfBytes).foldl step h, (bs.map w8OfBytes).foldl sum256 s) := by
  induction bs generalizing h s with
  | nil => rfl
  | cons b bs ih => simp only [List.foldl_cons, List.map_cons, processBlock, ih]

theorem foldl_add_toNat (bs : List W8) (a : Nat) :
    bs.foldl (fun s b => s + b.toNat) a = a + bs.foldl (fun s b => s + b.toNat) 0 := by
  induction bs generalizing a with
  | nil => simp
  | cons b bs ih => simp only [List.foldl_cons]; rw [ih, ih (0 + b.toNat)]; omega

theorem foldl_sum256_toNat (bs : List W8) (s : W8) :
    (bs.foldl sum256 s).toNat = (s.toNat + bs.foldl (fun s b => s + b.toNat) 0) % 2 ^ 256 := by
  induction bs generalizing s with
  | nil => simp; exact (Nat.mod_eq_of_lt (W8.toNat_lt s)).symm
  | cons b bs ih =>
    simp only [List.foldl_cons]
    rw [ih, sum256_toNat, foldl_add_toNat bs (0 + b.toNat)]
    omega

structure GInv (ctx : Ctx) (m : Bytes) : Prop where
  len : ctx.len.toNat = (8 * m.length) % 2 ^ 256
  inv : Inv 32 processBlock (W8.zero, W8.zero) ⟨(ctx.hash, ctx.sum), ctx.buf⟩ m

theorem init_inv : GInv init [] :=
  ⟨by decide, Inv.nil _ _ (by decide)⟩

theorem update_inv {ctx : Ctx} {m : Bytes} (h : GInv ctx m) (data : Bytes) (hn : data.length < 2 ^ 61) :
    GInv (update ctx data) (m ++ data) := by
  obtain ⟨l', hh, hl⟩ := updateHead_spec ctx m.length h.len data.length hn
  simp only [update, hh, gostBlock]
  exact ⟨by simp only [hl, List.length_append], feed_inv (by decide) h.inv data⟩

theorem updateZeros_eq (ctx : Ctx) (n : Nat) : updateZeros ctx n = update ctx (List.replicate n 0) := by
  simp only [updateZeros, update, List.length_replicate, feedZ_eq]

theorem finish_spec {ctx : Ctx} {m : Bytes} (h : GInv ctx m) : digest (finish ctx) = gost m := by
  have hrl : (rest 32 m).length = m.length % 32 := rest_length 32 m
  have hsh := left_spec ctx.len m.length h.len
  -- `last % 32 != 0` asks whether a partial block is buffered
  have hlast : ((32 : UInt32) - ((ctx.len.w0 &&& (0xFF : UInt32)) >>> (3 : UInt32))).toNat = 32 - m.length % 32 := by
    rw [UInt32.toNat_sub_of_le _ _ (left_le ctx.len m.length h.len), hsh]; rfl
  have hcond : (((32 : UInt32) - ((ctx.len.w0 &&& (0xFF : UInt32)) >>> (3 : UInt32))) % (32 : UInt32) != 0)
      = decide (m.length % 32 ≠ 0) := by
    rw [Bool.eq_iff_iff]
    simp only [bne_iff_ne, ne_eq, decide_eq_true_eq, ← UInt32.toNat_inj, UInt32.toNat_mod, hlast]
    have : m.length % 32 < 32 := Nat.mod_lt _ (by decide)
    simp
    omega
  -- the blocks the spec hashes: those `update` has seen, then the zero-filled rest if there is one
  generalize htl : (if (rest 32 m).length = 0 then []
    else [rest 32 m ++ List.replicate (32 - (rest 32 m).length) 0] : List Bytes) = tl
  have htl' := htl
  rw [hrl] at htl'
  have hst := foldl_processBlock (blocks 32 m ++ tl) W8.zero W8.zero
  rw [List.foldl_append, ← h.inv.st] at hst
  have hfin : (finish ctx).hash = step (step (tl.foldl processBlock (ctx.hash, ctx.sum)).1 ctx.len)
      (tl.foldl processBlock (ctx.hash, ctx.sum)).2 := by
    unfold finish
    simp only [hcond]
    by_cases hz : m.length % 32 = 0
    · simp only [hz, ne_eq, not_true_eq_false, decide_false, Bool.false_eq_true, if_false, if_true] at htl' ⊢
      rw [← htl']; rfl
    · simp only [hz, ne_eq, not_false_eq_true, decide_true, if_true, if_false] at htl' ⊢
      have := (memcpyAt_fill (buf := ctx.buf) (off := m.length % 32) (src := List.replicate (32 - m.length % 32) 0)
        (by rw [List.length_replicate]; omega) h.inv.cap).1
      rw [← hrl, h.inv.buf, hrl] at this
      simp only [hsh, hlast, gostBlock, this, ← htl', List.foldl_cons, List.foldl_nil]
  unfold digest gost gostBlocks
  simp only [htl]
  rw [hfin, hst, ← h.len, wordsOfNat_toNat]
  congr 2
  apply W8.toNat_inj
  rw [toNat_wordsOfNat, foldl_sum256_toNat, W8.zero_toNat]
  omega

theorem bytesOfW8_length (a : W8) : (bytesOfW8 a).length = 32 := rfl

/-- **chunking, GOST R 34.11-94**: any way of splitting the input into `update` calls (each chunk
    below `2^61` bytes, the range of the two length words the C code fills) gives the one-shot hash of
    the concatenation, for every total length (the bit counter is `mod 2^256` as in the standard) -/
theorem chunking (chunks : List Bytes) (hc : ∀ c ∈ chunks, c.length < 2 ^ 61) :
    digest (finish (chunks.foldl update init)) = gost chunks.flatten := by
  have inv := foldl_update_inv (I := GInv) update_inv chunks hc init_inv
  rw [List.nil_append] at inv
  exact finish_spec inv

end PV.HashX.Gost
