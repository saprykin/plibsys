import PV.Lemmas.SocketCalls
/-!
# C10 `getters_reflect`: the mode/lifecycle fields of the model socket equal the spec record

* `callM_good`, `call_good`: one call, every script.
* `new_res`, `setDetails_spec`, `newFromFd_res`, `accept_res`: the constructors; `setDetails_spec` is the one analysis of
  `pp_socket_set_details_from_fd`, everything said of an adopted socket follows from it.
* `run_inv`: every sequence of world calls.
-/
namespace PV.Socket
open PV.Generated.Socket

/-- what one call does to the object, stated against the spec record -/
def Good (s : Sock) (c : Call) (p : Sock × Outcome) (tr : List Ev) : Prop :=
  Spec.flagsOf p.1 = Spec.step (Spec.flagsOf s) c p.2 tr ∧
  p.1.family = s.family ∧ p.1.type = s.type ∧ p.1.protocol = s.protocol ∧
  ((p.1.fd = s.fd ∧ p.1.closed = s.closed) ∨ (c = .close ∧ p.1.fd = -1)) ∧
  (c ≠ .accept → p.2.sock = none)

section
variable {s : Sock} {c : Call} {p : Sock × Outcome} {tr : List Ev} (g : Good s c p tr)
include g
theorem Good.flags : Spec.flagsOf p.1 = Spec.step (Spec.flagsOf s) c p.2 tr := g.1
theorem Good.identity : p.1.family = s.family ∧ p.1.type = s.type ∧ p.1.protocol = s.protocol :=
  ⟨g.2.1, g.2.2.1, g.2.2.2.1⟩
theorem Good.fd : (p.1.fd = s.fd ∧ p.1.closed = s.closed) ∨ (c = .close ∧ p.1.fd = -1) := g.2.2.2.2.1
theorem Good.sock (h : c ≠ .accept) : p.2.sock = none := g.2.2.2.2.2 h
end

theorem good_same (s : Sock) (c : Call) (o : Outcome) (tr : List Ev)
    (hc : ∀ f, Spec.step f c o tr = f) (hs : c ≠ .accept → o.sock = none) : Good s c (s, o) tr :=
  ⟨(hc _).symm, rfl, rfl, rfl, Or.inl ⟨rfl, rfl⟩, hs⟩

theorem listen_good (s : Sock) : ResAll (Good s .listen) (listen s) := by
  unfold listen
  res_all (simp [Good, Spec.step, Spec.flagsOf, failOut])

theorem shutdown_good (s : Sock) (rd wr : Bool) : ResAll (Good s (.shutdown rd wr)) (shutdown s rd wr) := by
  unfold shutdown
  res_all (simp_all [Good, Spec.step, Spec.flagsOf, failOut])

theorem checkConnectResult_good (s : Sock) : ResAll (Good s .checkConnectResult) (checkConnectResult s) := by
  unfold checkConnectResult
  res_all (simp_all +zetaDelta [Good, Spec.step, Spec.flagsOf, failOut, Spec.errIsLayer, Spec.layerMsg])

theorem close_good (s : Sock) :
    ResAll (fun x tr => Good s .close (x.1, { ret := b2i x.2.2, err := x.2.1 }) tr) (close s) := by
  unfold close
  res_all (simp_all [Good, Spec.step, Spec.flagsOf, b2i])

theorem setKeepalive_good (s : Sock) (b : Bool) :
    ResAll (fun s' tr => Good s (.setKeepalive b) (s', voidOut) tr) (setKeepalive s b) := by
  unfold setKeepalive
  res_all (simp_all [Good, Spec.step, Spec.flagsOf, voidOut, Spec.keepaliveSet])

/-- `do let o ← m; return (s, o)` for a call the spec record ignores and that never hands out a socket -/
theorem wrap_good (s : Sock) (c : Call) (m : M Outcome) (hm : ResAll (fun o _ => o.sock = none) m)
    (hc : ∀ f o tr, Spec.step f c o tr = f) : ResAll (Good s c) (m >>= fun o => Pure.pure (s, o)) :=
  ResAll.bind hm fun o => ResAll.pure _ fun _ h1 => good_same s c o _ (fun f => hc f o _) (fun _ => h1)

theorem check_msg {s : Sock} {e : PErr} (h : check s = some e) : e.msg ≠ Spec.layerMsg := by
  unfold check at h
  split at h <;> cases h
  decide

/-- the errors of `p_socket_io_condition_wait` are its own: none of them is the "Error in socket layer" of `SO_ERROR` -/
theorem ioWait_msg (s : Sock) (cond : Int) :
    ResAll (fun x _ => ∀ e, x = some e → e.msg ≠ Spec.layerMsg) (ioWait s cond) := by
  unfold ioWait
  split
  · rename_i hc
    exact ResAll.pure _ fun e he => check_msg (he ▸ hc)
  refine ResAll.bind (ResAll.liftLoop _) fun x => ?_
  split
  · exact ResAll.pure _ (by simp)
  · refine ResAll.pure _ ?_
    rintro e1 ⟨sc, e0, -, h⟩ e ⟨⟩
    rcases pollLoop_fail_msg _ _ _ _ h with h | h <;> simp [h, msgTimedOut, msgPollFailed, Spec.layerMsg]

theorem good_connect_fail (s : Sock) (a : Addr) (e : PErr) (tr : List Ev) (he : e.msg ≠ Spec.layerMsg) :
    Good s (.connect a) (s, failOut 0 e) tr :=
  good_same _ _ _ _ (fun _ => by simp [Spec.step, failOut, Spec.errIsLayer, he]) (fun _ => rfl)

theorem connect_good (s : Sock) (a : Addr) : ResAll (Good s (.connect a)) (connect s a) := by
  have ok : ∀ tr, Good s (.connect a) ({ s with connected := true }, { ret := 1 }) tr := fun tr => by
    simp [Good, Spec.step, Spec.flagsOf]
  unfold connect
  split
  · exact ResAll.pure _ (good_connect_fail _ _ _ _ (by simp [invalidArg, Spec.layerMsg]))
  split
  · exact ResAll.pure _ (good_connect_fail _ _ _ _ (check_msg ‹_›))
  split
  · refine ResAll.bind (Q := fun x _ => ∀ pe, x ≠ .error pe) ((ResAll.liftLoop _).mono ?_) fun x => ?_
    · intro x _ ⟨sc, e, _, h⟩ pe hx
      subst hx
      exact connLoop_never_fails _ _ _ _ h
    split
    · exact ResAll.pure _ fun _ h => absurd rfl (h _)
    refine ResAll.ite (fun _ => ResAll.pure _ fun _ _ => ok _) fun _ => ResAll.bind_getErrno _ fun errCode => ?_
    extract_lets sockErr
    refine ResAll.ite (fun _ => ResAll.ite (fun _ => ?_) fun _ => ?_) fun _ => ?_
    · refine ResAll.bind (ioWait_msg s _) fun x => ?_
      split
      · exact ResAll.pure _ fun _ h _ _ => good_connect_fail _ _ _ _ (h _ rfl)
      · refine ResAll.bind (checkConnectResult_good s) fun x => ?_
        obtain ⟨s', o⟩ := x
        refine ResAll.ite (fun h1 => ResAll.pure _ fun _ g _ _ _ _ => ?_) fun h1 => ResAll.pure _ fun _ g _ _ _ _ => ?_
        · simp [Good, Spec.step, Spec.flagsOf, h1] at g ⊢; simp [g]
        · simpa [Good, Spec.step, h1] using g
    · exact ResAll.pure _ fun _ _ => good_connect_fail _ _ _ _ (by simp [msgConnNonBlock, Spec.layerMsg])
    · exact ResAll.pure _ fun _ _ => good_connect_fail _ _ _ _ (by simp [msgConnFailed, Spec.layerMsg])
  · exact ResAll.pure _ (good_connect_fail _ _ _ _ (by simp [Spec.layerMsg]))

theorem callM_good (s : Sock) (c : Call) : ResAll (Good s c) (callM s c) := by
  cases c <;> simp only [callM]
  case connect a => exact connect_good s a
  case bind a r => exact wrap_good _ _ _ (by unfold bind; res_all (simp [failOut])) (fun _ _ _ => rfl)
  case receive bn n => exact wrap_good _ _ _ (by unfold receive; res_all (simp [failOut])) (fun _ _ _ => rfl)
  case receiveFrom w bn n => exact wrap_good _ _ _ (by unfold receiveFrom; res_all (simp [failOut])) (fun _ _ _ => rfl)
  case send b n => exact wrap_good _ _ _ (by unfold send; res_all (simp [failOut])) (fun _ _ _ => rfl)
  case sendTo a b n => exact wrap_good _ _ _ (by unfold sendTo; res_all (simp [failOut])) (fun _ _ _ => rfl)
  case setBufferSize d n => exact wrap_good _ _ _ (by unfold setBufferSize; res_all (simp [failOut])) (fun _ _ _ => rfl)
  case getLocal => exact wrap_good _ _ _ (by unfold getAddress; res_all (simp [failOut])) (fun _ _ _ => rfl)
  case getRemote => exact wrap_good _ _ _ (by unfold getAddress; res_all (simp [failOut])) (fun _ _ _ => rfl)
  case accept =>
    apply ResAll.bind_any
    intro o
    apply ResAll.pure
    intro e1
    exact good_same _ _ _ _ (fun _ => rfl) (fun h => absurd rfl h)
  case ioWait cnd => res_all (simp [Good, Spec.step, failOut])
  case listen => exact listen_good s
  case shutdown rd wr => exact shutdown_good s rd wr
  case checkConnectResult => exact checkConnectResult_good s
  case close =>
    refine ResAll.bind (close_good s) ?_
    intro x
    obtain ⟨s', e, ok⟩ := x
    apply ResAll.pure
    intro e1 h1
    simpa using h1
  case setKeepalive b =>
    refine ResAll.bind (setKeepalive_good s b) ?_
    intro s'
    apply ResAll.pure
    intro e1 h1
    simpa using h1
  case setBlocking b => apply ResAll.pure; simp [Good, Spec.step, Spec.flagsOf, setBlocking, voidOut]
  case setTimeout n => apply ResAll.pure; simp [Good, Spec.step, Spec.flagsOf, setTimeout, voidOut]
  case setBacklog n =>
    apply ResAll.pure
    unfold setListenBacklog
    cases hl : s.listening <;> simp [Good, Spec.step, Spec.flagsOf, voidOut, hl]

theorem call_good (s : Sock) (c : Call) (script : Script) (e : Int) (r : CallResult)
    (h : call s c script e = .ok r) : Good s c (r.sock, r.out) r.tr :=
  (callM_good s c).elim (call_ok h)

/-- only `accept` hands out a socket -/
theorem call_sock_none (s : Sock) (c : Call) (script : Script) (e : Int) (r : CallResult)
    (h : call s c script e = .ok r) (hc : c ≠ .accept) : r.out.sock = none :=
  (call_good s c script e r h).sock hc

theorem new_res (f t p : Int) :
    ResAll (fun (x : Option Sock × Option PErr) _ =>
      ∀ s, x.1 = some s → Spec.flagsOf s = Spec.fresh ∧ s.family = f ∧ s.type = t ∧ s.protocol = p ∧ s.closed = false)
      (new f t p) := by
  unfold new
  refine ResAll.ite (fun _ => ResAll.pure _ (by simp)) fun _ => ?_
  dsimp only
  res_all (simp_all +zetaDelta [Spec.flagsOf, Spec.fresh])

/-- the two things `Spec.adopted` reads off the trace -/
def connOf (tr : List Ev) : Bool :=
  tr.any fun ev => match ev.call with | .getpeername .. => !ev.res.failed | _ => false
def kaOf (tr : List Ev) : Bool :=
  tr.any fun ev => match ev.call with
    | .getsockopt _ _ opt _ => opt = SO_KEEPALIVE && ev.res.ret = .ok 0 && ev.res.val ≠ 0
    | _ => false

theorem adopted_eq (tr : List Ev) : Spec.adopted tr = { Spec.fresh with connected := connOf tr, keepalive := kaOf tr } := rfl

theorem connOf_append (a b : List Ev) : connOf (a ++ b) = (connOf a || connOf b) := by simp [connOf, List.any_append]
theorem kaOf_append (a b : List Ev) : kaOf (a ++ b) = (kaOf a || kaOf b) := by simp [kaOf, List.any_append]

theorem Only.quiet {α} {S : List Sys} {m : M α} (h : Only S m) (hd : ∀ x ∈ S, x ∉ [.getpeername, .getsockopt] := by decide) :
    ResAll (fun _ evs => connOf evs = false ∧ kaOf evs = false) m :=
  (ResAll.of_trAll h).mono fun _ evs h => by
    have hq : ∀ ev ∈ evs, ev.call.sys ≠ .getpeername ∧ ev.call.sys ≠ .getsockopt := fun ev hev => by
      simpa using hd _ (h ev hev)
    constructor
    all_goals
      refine List.any_eq_false.2 fun ev hev => ?_
      have := hq ev hev
      generalize ev.call = c at this
      -- `getpeername` / `getsockopt` are excluded by `this`; on every other call the test is `false` by computation
      cases c
      case getpeername => exact absurd rfl this.1
      case getsockopt => exact absurd rfl this.2
      all_goals exact Bool.false_ne_true

/-- what adoption stores in the identity fields, relative to the object `s0` it started from: the family is
    INET, INET6 or UNKNOWN; for a family the library does not know, protocol and `connected` stay as they were -/
def AdoptId (s0 x : Sock) : Prop :=
  (x.family = AF_INET ∨ x.family = AF_INET6 ∨ x.family = 0) ∧
  (x.family = 0 → x.protocol = s0.protocol ∧ x.connected = s0.connected) ∧
  (x.family ≠ 0 → x.protocol = protoOfType x.type s0.protocol)

/-- what `pp_socket_set_details_from_fd` leaves: `fd`, `closed`, `listening` as they were; on success `connected`
    and `keepalive` as the kernel answered, and the identity fields of `AdoptId` -/
def Details (s : Sock) (x : Sock × Option PErr) (evs : List Ev) : Prop :=
  (x.1.fd = s.fd ∧ x.1.closed = s.closed ∧ x.1.listening = s.listening) ∧
  (x.2 = none → x.1.connected = (s.connected || connOf evs) ∧ x.1.keepalive = kaOf evs ∧ AdoptId s x.1)

theorem Details.fail {s s' : Sock} {e : PErr} {evs : List Ev} (h1 : s'.fd = s.fd) (h2 : s'.closed = s.closed)
    (h3 : s'.listening = s.listening) : Details s (s', some e) evs :=
  ⟨⟨h1, h2, h3⟩, fun h => by cases h⟩

theorem setDetails_spec (s : Sock) : ResAll (Details s) (setDetailsFromFd s) := by
  unfold setDetailsFromFd
  extract_lets fd
  refine ResAll.bind_sys _ _ fun rT => ResAll.ite (fun _ => ?_) fun _ => ResAll.ite (fun _ => ?_) fun _ => ?_
  · exact ResAll.bind_errnoErr _ _ _ fun e _ => ResAll.pure _ (Details.fail rfl rfl rfl)
  · exact ResAll.pure _ (Details.fail rfl rfl rfl)
  extract_lets s1
  refine ResAll.bind_sys _ _ fun rN => ResAll.ite (fun _ => ?_) fun _ => ?_
  · exact ResAll.bind_errnoErr _ _ _ fun e _ => ResAll.pure _ (Details.fail rfl rfl rfl)
  extract_lets go
  -- the tail `go` on its own, relative to the object `s1` it is run on
  have hgo : ResAll (Details s1) (go s1) := by
    unfold go
    split
    · exact ResAll.stopWith _
    extract_lets fam s2 s3
    have hfam : fam = AF_INET ∨ fam = AF_INET6 ∨ fam = 0 := by
      unfold fam; split; exact .inl rfl; split; exact .inr (.inl rfl); exact .inr (.inr rfl)
    have h3 : s3 = { s1 with family := fam, protocol := if fam = 0 then s1.protocol else protoOfType s1.type s1.protocol } := by
      unfold s3 s2
      rcases hfam with h | h | h <;> rw [h] <;> rfl
    clear_value s3 fam; subst h3
    refine ResAll.bind (Q := fun s4 e1 => kaOf e1 = false ∧ (fam = 0 → connOf e1 = false) ∧
        s4 = { s1 with family := fam, protocol := if fam = 0 then s1.protocol else protoOfType s1.type s1.protocol,
                       connected := s1.connected || connOf e1 }) ?_ fun s4 => ?_
    · refine ResAll.ite (fun _ => ResAll.bind_sys _ _ fun r4 => ResAll.pure _ ⟨rfl, by simp_all, ?_⟩)
        fun h0 => ResAll.pure _ ⟨rfl, fun _ => rfl, by simp [connOf]⟩
      cases hf : r4.failed <;> simp [connOf, hf]
    · refine ResAll.bind_sys _ _ fun r5 => ResAll.ite (fun h5 => ResAll.pure _ ?_) fun h5 => ResAll.pure _ ?_
      all_goals
        rintro e1 ⟨hk, hc, rfl⟩
        exact ⟨⟨rfl, rfl, rfl⟩, fun _ => ⟨by simp [connOf], by rw [kaOf_append, hk]; simp [kaOf, h5], hfam,
          fun (h : fam = 0) => ⟨if_pos h, by simp [hc h]⟩, fun (h : fam ≠ 0) => if_neg h⟩⟩
  -- the calls before the tail bear neither on `connOf` nor on `kaOf`, and `s1` is `s` with another `type`
  have hgo' : ∀ pre, connOf pre = false → kaOf pre = false → ResAll (fun x e2 => Details s x (pre ++ e2)) (go s1) :=
    fun pre h1 h2 => hgo.mono fun x e2 h => by
      simp only [Details, connOf_append, kaOf_append, h1, h2, Bool.false_or]; exact h
  refine ResAll.ite (fun _ => ResAll.bind_sys _ _ fun r3 => ResAll.ite (fun _ => ?_) fun _ => hgo' [_, _, _] rfl rfl)
    fun _ => hgo' [_, _] rfl rfl
  exact ResAll.bind_errnoErr _ _ _ fun e _ => ResAll.pure _ (Details.fail rfl rfl rfl)

/-- `p_socket_new_from_fd`: NULL exactly when an error is set; the object it returns holds `fd`, is open, has the
    flags of `Spec.adopted` and the identity fields of `AdoptId` -/
theorem newFromFd_res (fd : Int) :
    ResAll (fun (x : Option Sock × Option PErr) evs => (x.1 = none ↔ x.2.isSome = true) ∧
      ∀ ns, x.1 = some ns →
        Spec.flagsOf ns = Spec.adopted evs ∧ ns.fd = fd ∧ ns.closed = false ∧ AdoptId { fd := fd } ns) (newFromFd fd) := by
  unfold newFromFd
  refine ResAll.ite (fun _ => ResAll.pure _ (by simp)) fun _ => ?_
  extract_lets s0
  refine ResAll.bind (setDetails_spec s0) fun x => ?_
  obtain ⟨s1, _ | e⟩ := x
  · refine ResAll.bind ((setFdBlocking_only _ _).quiet) fun x => ?_
    obtain _ | e := x
    · refine ResAll.pure _ fun e2 ⟨hc2, hk2⟩ e1 ⟨⟨h1, h2, h3⟩, h⟩ => ?_
      obtain ⟨h4, h5, h6⟩ := h rfl
      have h3 : s1.listening = false := h3
      simp only [h3, Bool.false_eq_true, if_false]
      refine ⟨by simp, fun ns hns => ?_⟩
      obtain rfl := Option.some.inj hns
      have h2 : s1.closed = false := h2
      have h4 : s1.connected = connOf e1 := by simpa [s0] using h4
      have h5 : s1.keepalive = kaOf e1 := h5
      exact ⟨by simp [adopted_eq, connOf_append, kaOf_append, Spec.flagsOf, Spec.fresh, hc2, hk2, h2, h4, h5], h1, h2, h6⟩
    · exact ResAll.pure _ (by simp)
  · exact ResAll.pure _ (by simp)

theorem accept_res (s : Sock) :
    ResAll (fun (o : Outcome) evs =>
      ∀ ns, o.sock = some ns → Spec.flagsOf ns = Spec.adopted evs ∧ ns.protocol = s.protocol ∧ ns.closed = false) (accept s) := by
  unfold accept
  split
  · exact ResAll.pure _ (by simp [failOut])
  refine ResAll.bind (Q := fun _ evs => connOf evs = false ∧ kaOf evs = false) ?_ fun x => ?_
  · refine Only.quiet (S := [.poll, .accept]) ((runLoop_calls _ _ _ _).mono fun ev h => ?_)
    rcases h with h | h <;> simp [h, pollCall, Issued.sys]
  obtain e | r := x
  · exact ResAll.pure _ (by simp [failOut])
  refine ResAll.bind ((cloexecBlock_only ..).quiet) fun _ => ResAll.bind (newFromFd_res _) fun x => ?_
  obtain ⟨_ | ns, e⟩ := x
  · exact ResAll.bind_any fun _ => ResAll.pure _ (by simp)
  · refine ResAll.pure _ fun e3 h3 e2 ⟨hc2, hk2⟩ e1 ⟨hc1, hk1⟩ ns' hns => ?_
    obtain ⟨h4, _, h5, _⟩ := h3.2 ns rfl
    obtain rfl : _ = ns' := Option.some.inj hns
    simpa [adopted_eq, connOf_append, kaOf_append, hc1, hk1, hc2, hk2, Spec.flagsOf, h5] using h4

theorem callM_accept_res (s : Sock) : ResAll (fun (x : Sock × Outcome) evs =>
    ∀ ns, x.2.sock = some ns → Spec.flagsOf ns = Spec.adopted evs ∧ ns.protocol = s.protocol ∧ ns.closed = false)
    (callM s .accept) :=
  ResAll.bind (accept_res s) fun o => ResAll.pure _ fun e1 h1 => by simpa using h1


/-- the spec side of the world: the record a user keeps for every socket he holds -/
abbrev SWorld := List (Nat × Spec.Flags)

def SWorld.get (w : SWorld) (slot : Nat) : Option Spec.Flags := (w.find? (·.1 = slot)).map (·.2)
def SWorld.del (w : SWorld) (slot : Nat) : SWorld := w.filter (·.1 ≠ slot)
def SWorld.set (w : SWorld) (slot : Nat) (f : Spec.Flags) : SWorld := (slot, f) :: SWorld.del w slot

theorem find_filter_ne {β} (w : List (Nat × β)) (a b : Nat) :
    (w.filter (fun x => decide (x.1 ≠ a))).find? (fun x => decide (x.1 = b)) =
      if b = a then none else w.find? (fun x => decide (x.1 = b)) := by
  induction w with
  | nil => simp
  | cons x t ih =>
    simp only [List.filter_cons]
    by_cases hx : x.1 = a
    · have h1 : decide (x.1 ≠ a) = false := by simp [hx]
      simp only [h1, Bool.false_eq_true, if_false]
      rw [ih]
      by_cases hb : b = a
      · simp [hb]
      · have h2 : decide (x.1 = b) = false := by
          simp only [decide_eq_false_iff_not, hx]; exact fun h => hb h.symm
        simp only [hb, if_false, List.find?_cons, h2]
    · have h1 : decide (x.1 ≠ a) = true := by simp [hx]
      simp only [h1, if_true, List.find?_cons]
      by_cases hxb : x.1 = b
      · have h2 : decide (x.1 = b) = true := by simp [hxb]
        have h3 : ¬ b = a := by rw [← hxb]; exact hx
        simp only [h2, h3, if_false]
      · have h2 : decide (x.1 = b) = false := by simp [hxb]
        simp only [h2]
        exact ih

theorem find_del {β} (w : List (Nat × β)) (a b : Nat) :
    ((w.filter (·.1 ≠ a)).find? (·.1 = b)).map (·.2) = if b = a then none else (w.find? (·.1 = b)).map (·.2) := by
  rw [find_filter_ne]; split <;> simp
theorem find_set {β} (w : List (Nat × β)) (a b : Nat) (x : β) :
    (((a, x) :: w.filter (·.1 ≠ a)).find? (·.1 = b)).map (·.2) = if b = a then some x else (w.find? (·.1 = b)).map (·.2) := by
  by_cases h : b = a
  · simp [h]
  · have h' : ¬ a = b := fun x => h x.symm
    simpa [List.find?_cons, h, h'] using find_del w a b

theorem World.get_del (w : World) (a b : Nat) : World.get (World.del w a) b = if b = a then none else World.get w b :=
  find_del w a b
theorem World.get_set (w : World) (a b : Nat) (s : Sock) :
    World.get (World.set w a s) b = if b = a then some s else World.get w b := find_set w a b s
theorem SWorld.get_del (w : SWorld) (a b : Nat) : SWorld.get (SWorld.del w a) b = if b = a then none else SWorld.get w b :=
  find_del w a b
theorem SWorld.get_set (w : SWorld) (a b : Nat) (f : Spec.Flags) :
    SWorld.get (SWorld.set w a f) b = if b = a then some f else SWorld.get w b := find_set w a b f

/-- the spec world after one world call, updated exactly as the driver (`PV.Driver.Socket.doCall`) does -/
def sstep (sw : SWorld) (c : WCall) (r : WResult) : SWorld :=
  match c with
  | .new slot _ _ _ => if r.out.sock.isSome then SWorld.set sw slot Spec.fresh else sw
  | .newFromFd slot _ => if r.out.sock.isSome then SWorld.set sw slot (Spec.adopted r.tr) else sw
  | .on slot c newSlot =>
    let sw' := match SWorld.get sw slot with
      | some f => SWorld.set sw slot (Spec.step f c r.out r.tr)
      | none => sw
    if c = .accept ∧ r.out.sock.isSome then SWorld.set sw' newSlot (Spec.adopted r.tr) else sw'
  | .free slot => SWorld.del sw slot
  | .initOnce => sw

/-- every socket of the world has the flags the spec world records for its slot -/
def Inv (w : World) (sw : SWorld) : Prop := ∀ slot, (World.get w slot).map Spec.flagsOf = SWorld.get sw slot

theorem inv_set {w : World} {sw : SWorld} (h : Inv w sw) (a : Nat) (s : Sock) (f : Spec.Flags) (hf : Spec.flagsOf s = f) :
    Inv (World.set w a s) (SWorld.set sw a f) := by
  intro b
  rw [World.get_set, SWorld.get_set]
  split
  · simp [hf]
  · exact h b

theorem inv_del {w : World} {sw : SWorld} (h : Inv w sw) (a : Nat) : Inv (World.del w a) (SWorld.del sw a) := by
  intro b
  rw [World.get_del, SWorld.get_del]
  split
  · rfl
  · exact h b

theorem nullCall_sock (c : Call) : (nullCall c).sock = none := by cases c <;> rfl

/-- one world call keeps the two worlds in step -/
theorem wstep_inv (w : World) (sw : SWorld) (h : Inv w sw) (c : WCall) (sc : Script) (e : Int) (r : WResult)
    (hr : wstep w c sc e = .ok r) : Inv r.world (sstep sw c r) := by
  cases c with
  | new slot f t p =>
    rcases runM_cases (new f t p) sc e with ⟨x, hx⟩ | ⟨⟨so, err⟩, st, evs, hm, hrun⟩
    · simp [wstep, hx] at hr
    simp only [wstep, hm] at hr; cases hr
    cases so with
    | none => simpa [sstep] using h
    | some s =>
      simp only [sstep, Option.isSome_some, if_true]
      exact inv_set h _ _ _ ((new_res f t p).elim hrun s rfl).1
  | newFromFd slot fd =>
    rcases runM_cases (newFromFd fd) sc e with ⟨x, hx⟩ | ⟨⟨so, err⟩, st, evs, hm, hrun⟩
    · simp [wstep, hx] at hr
    simp only [wstep, hm] at hr; cases hr
    cases so with
    | none => simpa [sstep] using h
    | some s =>
      simp only [sstep, Option.isSome_some, if_true]
      exact inv_set h _ _ _ (((newFromFd_res fd).elim hrun).2 s rfl).1
  | on slot c ns =>
    cases hg : World.get w slot with
    | none =>
      simp only [wstep, hg] at hr; cases hr
      have hsw : SWorld.get sw slot = none := by rw [← h slot, hg]; rfl
      simpa [sstep, hsw, nullCall_sock] using h
    | some s =>
      rcases runM_cases (callM s c) sc e with ⟨x, hx⟩ | ⟨⟨s', o⟩, st, evs, hm, hrun⟩
      · simp [wstep, hg, hx] at hr
      simp only [wstep, hg, hm] at hr; cases hr
      have g := (callM_good s c).elim hrun
      have hsw : SWorld.get sw slot = some (Spec.flagsOf s) := by rw [← h slot, hg]; rfl
      have inv1 : Inv (World.set w slot s') (SWorld.set sw slot (Spec.step (Spec.flagsOf s) c o evs)) :=
        inv_set h slot s' _ g.flags
      cases ho : o.sock with
      | none => simpa [sstep, hsw, ho] using inv1
      | some n =>
        have hacc : c = .accept := Decidable.byContradiction fun hne => by simpa [ho] using g.sock hne
        subst hacc
        simp only [sstep, hsw, ho, Option.isSome_some, and_self, if_true]
        exact inv_set inv1 _ _ _ ((callM_accept_res s).elim hrun n ho).1
  | free slot =>
    cases hg : World.get w slot with
    | none =>
      simp only [wstep, hg] at hr; cases hr
      intro b
      simp only [sstep]
      rw [SWorld.get_del]
      split
      · rename_i hb; subst hb; rw [hg]; rfl
      · exact h b
    | some s =>
      rcases runM_cases (free s) sc e with ⟨x, hx⟩ | ⟨u, st, evs, hm, -⟩
      · simp [wstep, hg, hx] at hr
      simp only [wstep, hg, hm] at hr; cases hr
      exact inv_del h slot
  | initOnce =>
    rcases runM_cases initOnce sc e with ⟨x, hx⟩ | ⟨u, st, evs, hm, -⟩
    · simp [wstep, hx] at hr
    simp only [wstep, hm] at hr; cases hr
    exact h

/-- run a list of world calls, each with the script of native answers it gets; `errno` is carried from call to
    call; a call that ends in a `Stop` (script exhausted / mismatch / fault) ends the run -/
def run : World → SWorld → Int → List (WCall × Script) → World × SWorld
  | w, sw, _, [] => (w, sw)
  | w, sw, e, (c, sc) :: rest =>
    match wstep w c sc e with
    | .error _ => (w, sw)
    | .ok r => run r.world (sstep sw c r) r.errno rest

theorem run_inv : ∀ (steps : List (WCall × Script)) (w : World) (sw : SWorld) (e : Int),
    Inv w sw → Inv (run w sw e steps).1 (run w sw e steps).2 := by
  intro steps
  induction steps with
  | nil => intro w sw e h; exact h
  | cons x rest ih =>
    intro w sw e h
    obtain ⟨c, sc⟩ := x
    unfold run
    cases hr : wstep w c sc e with
    | error x => exact h
    | ok r => exact ih _ _ _ (wstep_inv w sw h c sc e r hr)

/-- non-vacuity: adopt descriptor 5 (connected, keepalive on), clamp a negative timeout, set the backlog, listen,
    try to change the backlog (frozen), shut down both directions, close twice, talk to an empty slot -/
def demoSteps : List (WCall × Script) :=
  [ (.newFromFd 0 5,
      [ { sys := .getsockopt, ret := .ok 0, val := 1 }, { sys := .getsockname, ret := .ok 0, sa := [2, 0, 0, 0] },
        { sys := .getpeername, ret := .ok 0 }, { sys := .getsockopt, ret := .ok 0, val := 1 },
        { sys := .fcntl, ret := .ok 0 }, { sys := .fcntl, ret := .ok 0 } ]),
    (.on 0 (.setTimeout (-3)), []),
    (.on 0 (.setBacklog 9), []),
    (.on 0 .listen, [{ sys := .listen, ret := .ok 0 }]),
    (.on 0 (.setBacklog 11), []),
    (.on 0 (.shutdown true true), [{ sys := .shutdown, ret := .ok 0 }]),
    (.on 0 .close, [{ sys := .close, ret := .ok 0 }]),
    (.on 0 .close, []),
    (.on 1 (.setTimeout 5), []) ]

example : (run [] [] 0 demoSteps).2 =
    [(0, { timeout := 0, backlog := 9, blocking := true, keepalive := true, connected := false, closed := true,
           listening := false })] := by decide
example : (run [] [] 0 demoSteps).1.map (fun p => (p.1, Spec.flagsOf p.2)) = (run [] [] 0 demoSteps).2 := by decide
/-- … and half-way (before the shutdown): connected, listening, backlog 9 -/
example : (run [] [] 0 (demoSteps.take 5)).2 =
    [(0, { timeout := 0, backlog := 9, blocking := true, keepalive := true, connected := true, listening := true })] := by
  decide

/-- non-vacuity of the `connect` rules: an adopted, connected socket; a blocking `connect` that is in progress,
    becomes writable and then reports `SO_ERROR = 111` ("Error in socket layer") clears `connected` in both worlds -/
def demoConnect : List (WCall × Script) :=
  [ (.newFromFd 3 8,
      [ { sys := .getsockopt, ret := .ok 0, val := 1 }, { sys := .getsockname, ret := .ok 0, sa := [2, 0, 0, 0] },
        { sys := .getpeername, ret := .ok 0 }, { sys := .getsockopt, ret := .ok 0, val := 0 },
        { sys := .fcntl, ret := .ok 0 }, { sys := .fcntl, ret := .ok 0 } ]),
    (.on 3 (.connect (.native [2, 0, 0, 80])),
      [ { sys := .connect, ret := .err EINPROGRESS }, { sys := .poll, ret := .ok 1 },
        { sys := .getsockopt, ret := .ok 0, val := 111 } ]) ]

example : (run [] [] 0 (demoConnect.take 1)).2 =
    [(3, { timeout := 0, backlog := 5, blocking := true, keepalive := false, connected := true })] := by decide
example : (run [] [] 0 demoConnect).2 =
    [(3, { timeout := 0, backlog := 5, blocking := true, keepalive := false, connected := false })] := by decide
example : (run [] [] 0 demoConnect).1.map (fun p => (p.1, Spec.flagsOf p.2)) = (run [] [] 0 demoConnect).2 := by decide

end PV.Socket
