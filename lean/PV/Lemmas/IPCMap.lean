import PV.Lemmas.IPC
/-!
Invariants of the IPC model over ARBITRARY schedules (every interleaving of the system calls of any
calls of any threads of any processes, SIGKILLs and failing system calls included):

* `MapInv` — who owns which mapping.  Every live PShm handle and every `p_shm_new` / `p_shm_free` in
  flight that holds a mapping ("claimant") has exactly one mapping at its address in its process,
  of exactly the length it will pass to `munmap`; two claimants of one process never hold the same
  address; addresses are handed out increasingly (address freshness is an invariant of the `mmap`
  model, not a hypothesis).  Hence every `munmap` the library issues removes exactly its own mapping.
-/
namespace PV.IPC
open PV.Generated.IPC

/-- (process, address, length) of the mapping a call in flight holds -/
def Call.claim (p : Pid) : Call → Option (Pid × Nat × Nat)
  | .shmNew _ st =>
    match st.pc with
    | .fUnlink _ => none
    | _ => st.addr.map fun a => (p, a, st.size)
  | .shmFree st =>
    match st.pc with
    | .munmap => some (p, st.h.addr, st.h.size)
    | _ => none
  | _ => none

/-- a claim is on the claiming thread's own process -/
theorem Call.claim_pid {p q : Pid} {a l : Nat} {c : Call} (h : c.claim p = some (q, a, l)) : q = p := by
  cases c with
  | shmNew hid st =>
    simp only [Call.claim] at h
    split at h
    · cases h
    · obtain ⟨_, _, e⟩ := Option.map_eq_some_iff.mp h
      cases e; rfl
  | shmFree st =>
    simp only [Call.claim] at h
    split at h
    · cases h; rfl
    · cases h
  | _ => cases h

/-- a call just begun holds no claim -/
theorem Call.claim_initial (p : Pid) {c : Call} (h : c.initial) : c.claim p = none := by
  cases c with
  | shmNew hid st => simp only [Call.claim, h.1, h.2.2.1, Option.map_none]
  | semFree s => exact h.elim
  | shmFree s => exact h.elim
  | _ => rfl

def tClaim (g : G) (t : Tid) : Option (Pid × Nat × Nat) :=
  match g.calls t with
  | some c => c.claim (g.pidOf t)
  | none => none

def hClaim (g : G) (h : Hid) : Option (Pid × Nat × Nat) :=
  match g.hs h with
  | some (p, .shm y) => some (p, y.addr, y.size)
  | _ => none

/-- a claimant: a live handle or a thread with a call in flight -/
abbrev Claimant := Hid ⊕ Tid

def claimOf (g : G) : Claimant → Option (Pid × Nat × Nat)
  | .inl h => hClaim g h
  | .inr t => tClaim g t

/-- the part of `MapInv` that speaks about mappings and claims -/
structure ClaimInv (g : G) : Prop where
  /-- addresses are handed out increasingly: every mapping lies below the next address -/
  fresh : ∀ p m, m ∈ (g.os.procs p).maps → m.addr < (g.os.procs p).nextAddr
  /-- at most one mapping per address -/
  nodup : ∀ p, ((g.os.procs p).maps.map (·.addr)).Nodup
  /-- a claim is backed by a mapping of exactly the claimed (non-zero) length, mapped from offset 0 -/
  valid : ∀ c p a l, claimOf g c = some (p, a, l) → l ≠ 0 ∧ ∃ m ∈ (g.os.procs p).maps, m.addr = a ∧ m.len = l ∧ m.off = 0
  /-- no two claimants of one process hold the same address -/
  inj : ∀ c c' p a l l', claimOf g c = some (p, a, l) → claimOf g c' = some (p, a, l') → c = c'

/-- mappings untouched, claims only move from one claimant `c0` to `c1` or disappear -/
theorem ClaimInv.transfer {g g' : G} (h : ClaimInv g) (c0 c1 : Claimant)
    (hmaps : ∀ p, (g'.os.procs p).maps = (g.os.procs p).maps ∧ (g'.os.procs p).nextAddr = (g.os.procs p).nextAddr)
    (hcl : ∀ c x, claimOf g' c = some x → (c ≠ c1 ∧ claimOf g c = some x) ∨ (c = c1 ∧ claimOf g c0 = some x))
    (hc0 : c0 ≠ c1 → claimOf g' c0 = none) : ClaimInv g' := by
  refine ⟨?_, ?_, ?_, ?_⟩
  · intro p m hm; rw [(hmaps p).1] at hm; rw [(hmaps p).2]; exact h.fresh p m hm
  · intro p; rw [(hmaps p).1]; exact h.nodup p
  · intro c p a l hc
    rw [(hmaps p).1]
    rcases hcl c _ hc with ⟨_, h1⟩ | ⟨_, h1⟩
    · exact h.valid c p a l h1
    · exact h.valid c0 p a l h1
  · intro c c' p a l l' hc hc'
    rcases hcl c _ hc with ⟨n1, h1⟩ | ⟨e1, h1⟩ <;> rcases hcl c' _ hc' with ⟨n2, h2⟩ | ⟨e2, h2⟩
    · exact h.inj c c' p a l l' h1 h2
    · have := h.inj c c0 p a l l' h1 h2
      subst this
      by_cases e : c = c1
      · exact absurd e n1
      · rw [hc0 e] at hc; cases hc
    · have := h.inj c0 c' p a l l' h1 h2
      subst this
      by_cases e : c0 = c1
      · exact absurd e n2
      · rw [hc0 e] at hc'; cases hc'
    · rw [e1, e2]

/-- claims only disappear (mappings untouched) -/
theorem ClaimInv.shrink {g g' : G} (h : ClaimInv g)
    (hmaps : ∀ p, (g'.os.procs p).maps = (g.os.procs p).maps ∧ (g'.os.procs p).nextAddr = (g.os.procs p).nextAddr)
    (hcl : ∀ c x, claimOf g' c = some x → claimOf g c = some x) : ClaimInv g' := by
  refine h.transfer (.inl 0) (.inl 0) hmaps ?_ (fun e => absurd rfl e)
  intro c x hc
  by_cases e : c = .inl 0
  · right; exact ⟨e, by rw [← e]; exact hcl c x hc⟩
  · left; exact ⟨e, hcl c x hc⟩

/-- a successful `mmap` by thread `t` of process `p`: one new mapping at the next address, claimed by `t` -/
theorem ClaimInv.mmap {g g' : G} (h : ClaimInv g) (t : Tid) (p : Pid) (m : Mapping)
    (hm : m.addr = (g.os.procs p).nextAddr) (hoff : m.off = 0) (hlen : m.len ≠ 0)
    (hp : (g'.os.procs p).maps = m :: (g.os.procs p).maps ∧ (g.os.procs p).nextAddr < (g'.os.procs p).nextAddr)
    (hq : ∀ q, q ≠ p → (g'.os.procs q).maps = (g.os.procs q).maps ∧ (g'.os.procs q).nextAddr = (g.os.procs q).nextAddr)
    (hcl : ∀ c x, claimOf g' c = some x → (c ≠ .inr t ∧ claimOf g c = some x) ∨ (c = .inr t ∧ x = (p, m.addr, m.len))) :
    ClaimInv g' := by
  refine ⟨?_, ?_, ?_, ?_⟩
  · intro q m' hm'
    by_cases e : q = p
    · subst e
      rw [hp.1] at hm'
      rcases List.mem_cons.mp hm' with rfl | h'
      · rw [hm]; exact hp.2
      · exact Nat.lt_trans (h.fresh q m' h') hp.2
    · rw [(hq q e).1] at hm'; rw [(hq q e).2]; exact h.fresh q m' hm'
  · intro q
    by_cases e : q = p
    · subst e
      rw [hp.1, List.map_cons, List.nodup_cons]
      refine ⟨?_, h.nodup q⟩
      intro hin
      obtain ⟨m', hm', e'⟩ := List.mem_map.mp hin
      have := h.fresh q m' hm'
      rw [e', hm] at this
      exact Nat.lt_irrefl _ this
    · rw [(hq q e).1]; exact h.nodup q
  · intro c q a l hc
    rcases hcl c _ hc with ⟨_, h1⟩ | ⟨_, h1⟩
    · obtain ⟨hl, m', hm', r⟩ := h.valid c q a l h1
      refine ⟨hl, m', ?_, r⟩
      by_cases e : q = p
      · subst e; rw [hp.1]; exact List.mem_cons_of_mem _ hm'
      · rw [(hq q e).1]; exact hm'
    · simp only [Prod.mk.injEq] at h1
      obtain ⟨rfl, rfl, rfl⟩ := h1
      exact ⟨hlen, m, by rw [hp.1]; exact List.mem_cons_self, rfl, rfl, hoff⟩
  · intro c c' q a l l' hc hc'
    rcases hcl c _ hc with ⟨n1, h1⟩ | ⟨e1, h1⟩ <;> rcases hcl c' _ hc' with ⟨n2, h2⟩ | ⟨e2, h2⟩
    · exact h.inj c c' q a l l' h1 h2
    · exfalso
      simp only [Prod.mk.injEq] at h2
      obtain ⟨rfl, rfl, _⟩ := h2
      obtain ⟨_, m', hm', ea, _⟩ := h.valid c q m.addr l h1
      have := h.fresh q m' hm'
      rw [ea, hm] at this
      exact Nat.lt_irrefl _ this
    · exfalso
      simp only [Prod.mk.injEq] at h1
      obtain ⟨rfl, rfl, _⟩ := h1
      obtain ⟨_, m', hm', ea, _⟩ := h.valid c' q m.addr l' h2
      have := h.fresh q m' hm'
      rw [ea, hm] at this
      exact Nat.lt_irrefl _ this
    · rw [e1, e2]

/-- a `munmap` of its own claim by thread `t`: exactly that mapping goes, the claim with it -/
theorem ClaimInv.munmap {g g' : G} (h : ClaimInv g) (t : Tid) (p : Pid) (a l : Nat)
    (hc : claimOf g (.inr t) = some (p, a, l))
    (hp : (g'.os.procs p).maps = (g.os.procs p).maps.filter (fun m => decide (m.addr ≠ a)) ∧
          (g'.os.procs p).nextAddr = (g.os.procs p).nextAddr)
    (hq : ∀ q, q ≠ p → (g'.os.procs q).maps = (g.os.procs q).maps ∧ (g'.os.procs q).nextAddr = (g.os.procs q).nextAddr)
    (hcl : ∀ c x, claimOf g' c = some x → c ≠ .inr t ∧ claimOf g c = some x) : ClaimInv g' := by
  refine ⟨?_, ?_, ?_, ?_⟩
  · intro q m hm
    by_cases e : q = p
    · subst e; rw [hp.1] at hm; rw [hp.2]; exact h.fresh q m (List.mem_filter.mp hm).1
    · rw [(hq q e).1] at hm; rw [(hq q e).2]; exact h.fresh q m hm
  · intro q
    by_cases e : q = p
    · subst e; rw [hp.1]
      exact List.Nodup.sublist (List.Sublist.map _ List.filter_sublist) (h.nodup q)
    · rw [(hq q e).1]; exact h.nodup q
  · intro c q a' l' hc'
    obtain ⟨n, h1⟩ := hcl c _ hc'
    obtain ⟨hl, m', hm', ea, r⟩ := h.valid c q a' l' h1
    refine ⟨hl, m', ?_, ea, r⟩
    by_cases e : q = p
    · subst e
      rw [hp.1]
      refine List.mem_filter.mpr ⟨hm', ?_⟩
      simp only [decide_eq_true_eq]
      intro e2
      rw [ea] at e2
      subst e2
      exact n (h.inj c (.inr t) q a' l' l h1 hc)
    · rw [(hq q e).1]; exact hm'
  · intro c c' q a' l1 l2 h1 h2
    exact h.inj c c' q a' l1 l2 (hcl c _ h1).2 (hcl c' _ h2).2

/-- SIGKILL of `p`: its mappings and all its claims vanish -/
theorem ClaimInv.kill {g g' : G} (h : ClaimInv g) (p : Pid)
    (hp : (g'.os.procs p).maps = [])
    (hq : ∀ q, q ≠ p → (g'.os.procs q).maps = (g.os.procs q).maps ∧ (g'.os.procs q).nextAddr = (g.os.procs q).nextAddr)
    (hcl : ∀ c q a l, claimOf g' c = some (q, a, l) → q ≠ p ∧ claimOf g c = some (q, a, l)) : ClaimInv g' := by
  refine ⟨?_, ?_, ?_, ?_⟩
  · intro q m hm
    by_cases e : q = p
    · subst e; rw [hp] at hm; cases hm
    · rw [(hq q e).1] at hm; rw [(hq q e).2]; exact h.fresh q m hm
  · intro q
    by_cases e : q = p
    · subst e; rw [hp]; exact List.nodup_nil
    · rw [(hq q e).1]; exact h.nodup q
  · intro c q a l hc
    obtain ⟨n, h1⟩ := hcl c q a l hc
    rw [(hq q n).1]; exact h.valid c q a l h1
  · intro c c' q a l l' h1 h2
    exact h.inj c c' q a l l' (hcl c _ _ _ h1).2 (hcl c' _ _ _ h2).2

theorem nodup_map_inj {α β : Type} (f : α → β) : ∀ (l : List α), (l.map f).Nodup → ∀ x y, x ∈ l → y ∈ l → f x = f y → x = y := by
  intro l
  induction l with
  | nil => intro _ x y hx; cases hx
  | cons a l ih =>
    intro hnd x y hx hy hf
    simp only [List.map_cons, List.nodup_cons] at hnd
    rcases List.mem_cons.mp hx with rfl | hx' <;> rcases List.mem_cons.mp hy with rfl | hy'
    · rfl
    · exact absurd (List.mem_map.mpr ⟨y, hy', hf.symm⟩) hnd.1
    · exact absurd (List.mem_map.mpr ⟨x, hx', hf⟩) hnd.1
    · exact ih hnd.2 x y hx' hy' hf

theorem ClaimInv.munmap_exact {g : G} (h : ClaimInv g) {cl : Claimant} {p : Pid} {a l : Nat}
    (hc : claimOf g cl = some (p, a, l)) :
    l ≠ 0 ∧ (munmapF (g.os.procs p) a l).maps = (g.os.procs p).maps.filter (fun m => decide (m.addr ≠ a)) ∧
    (munmapF (g.os.procs p) a l).nextAddr = (g.os.procs p).nextAddr := by
  obtain ⟨hl0, m, hm, hma, hml, _⟩ := h.valid _ _ _ _ hc
  refine ⟨hl0, munmapF_exact _ a l fun m' hm' ha' => ?_⟩
  rw [nodup_map_inj (·.addr) _ (h.nodup p) m' m hm' hm (by rw [ha', hma])]; exact hml

/-- the C struct fields of a `pp_shm_create_handle` in flight are consistent with its program point:
    the clamp of `p_shm_new` will be a no-op, `size` is still the request before `fstat`, `addr` is
    set exactly from the successful `mmap` on -/
def ShmNewSt.wf (st : ShmNewSt) : Prop :=
  clampSize st.req st.size = st.size ∧
  (match st.pc with
   | .excl | .open | .fstat _ | .ftrunc _ => st.size = st.req
   | _ => True) ∧
  (match st.pc with
   | .close _ | .sem _ | .fMunmap _ => st.addr.isSome = true
   | .excl | .open | .fstat _ | .ftrunc _ | .mmap _ | .fClose _ _ => st.addr = none
   | .fUnlink _ => True)

theorem ShmNewSt.wf_next {st st' : ShmNewSt} {r : Res} (h : st.wf) (hn : st.Next r st') : st'.wf := by
  obtain ⟨h1, h2, h3⟩ := h
  cases hn with
  | retry => exact ⟨h1, h2, h3⟩
  | sized fd n hpc =>
    rw [hpc] at h2 h3
    have h2 : st.size = st.req := h2
    exact ⟨by simp only [h2, existingSize_eq, clampSize_rep], trivial, h3⟩
  | mapped fd a hpc => exact ⟨h1, trivial, rfl⟩
  | failed fd e hpc => rcases hpc with hpc | hpc | hpc <;> rw [hpc] at h3 <;> exact ⟨h1, trivial, h3⟩
  | unmap e r hpc ha => exact ⟨h1, trivial, ha⟩
  | unlink => exact ⟨h1, trivial, trivial⟩
  | truncated fd v hpc => rw [hpc] at h3; exact ⟨h1, trivial, h3⟩
  | created fd hpc | found hpc | opened fd hpc | closed fd r hpc | sem s s' r hpc _ =>
    rw [hpc] at h2 h3; exact ⟨h1, h2, h3⟩

variable {g : G} {t : Tid} {c c' : Call} {os' : OS} {r : Res} {st st' : ShmNewSt}

/-- a `p_shm_new` that goes on keeps its claim or drops it, unless its `mmap` has just succeeded -/
theorem ShmNewSt.claim_next (p : Pid) (hid : Hid) (hwf : st.wf) (hn : st.Next r st')
    (hm : ∀ fd a, st.pc = .mmap fd → r ≠ .ok a) :
    (Call.shmNew hid st').claim p = (Call.shmNew hid st).claim p ∨ (Call.shmNew hid st').claim p = none := by
  cases hn with
  | retry => exact .inl rfl
  | sized fd n hpc =>
    have : st.addr = none := by have := hwf.2.2; rwa [hpc] at this
    exact .inr (by simp only [Call.claim, this, Option.map_none])
  | mapped fd a hpc => exact absurd rfl (hm fd a hpc)
  | unlink => exact .inr rfl
  | failed fd e hpc => rcases hpc with hpc | hpc | hpc <;> exact .inl (by simp only [Call.claim, hpc])
  | created fd hpc | found hpc | opened fd hpc | truncated fd v hpc | closed fd r hpc | sem s s' r hpc _ =>
    exact .inl (by simp only [Call.claim, hpc])
  | unmap e r hpc _ =>
    rcases hpc with ⟨s, hpc⟩ | ⟨fd, hpc⟩ <;> exact .inl (by simp only [Call.claim, hpc])

/-- a `p_shm_new` that returns a handle hands its claim over to the handle -/
theorem ShmNewSt.claim_done (p : Pid) (hid : Hid) {y : PShm} (hwf : st.wf) (h : st.after r = .done (.ok y)) :
    (Call.shmNew hid st).claim p = some (p, y.addr, y.size) := by
  obtain ⟨s, ps, hpc, _, rfl⟩ := ShmNewSt.after_done h
  have h3 := hwf.2.2
  rw [hpc] at h3
  obtain ⟨a, ha⟩ := Option.isSome_iff_exists.mp h3
  simp only [Call.claim, hpc, ha, Option.map_some, Option.getD_some, hwf.1]

theorem Call.claim_cont (p : Pid) (hwf : ∀ hid st, c = .shmNew hid st → st.wf) (h : c.after r = .cont c')
    (hm : ∀ a, r = .ok a → ∀ fd len prot fl, c.next ≠ .mmap fd len prot fl) :
    c'.claim p = c.claim p ∨ c'.claim p = none := by
  cases c' with
  | shmNew hid st' =>
    obtain ⟨st, rfl, ha⟩ := Call.after_cont_shmNew h
    refine ShmNewSt.claim_next p hid (hwf hid st rfl) (ShmNewSt.next_of_after ha) fun fd a hpc e => ?_
    refine hm a e fd st.size (if st.ro then shmMmapProtRO else shmMmapProtRW) shmMmapFlags ?_
    simp only [Call.next, ShmNewSt.next, hpc]
  | shmFree st' =>
    obtain ⟨st, rfl, ha⟩ := Call.after_cont_shmFree h
    have := (ShmFreeSt.after_cont ha).2.1
    refine .inr ?_
    cases hpc : st'.pc <;> first | exact absurd hpc this | simp only [Call.claim, hpc]
  | _ => exact .inr rfl

structure MapInv (g : G) : Prop where
  claims : ClaimInv g
  newwf : ∀ t hid st, g.calls t = some (.shmNew hid st) → st.wf

theorem tClaim_advance_other {t' : Tid} (h : t' ≠ t) : tClaim (g.advance t c os' r) t' = tClaim g t' := by
  simp only [tClaim, advance_calls_other h]; rfl

theorem hClaim_advance (hM : MapInv g) (hc : g.calls t = some c) {h : Hid} {x : Pid × Nat × Nat}
    (hx : hClaim (g.advance t c os' r) h = some x) :
    (hClaim g h = some x ∧ ∀ st y, c = .shmNew h st → st.after r ≠ .done (.ok y)) ∨
    (∃ st y, c = .shmNew h st ∧ st.after r = .done (.ok y) ∧ tClaim g t = some x) := by
  rcases advance_hs g t c os' r h with ⟨e, hn⟩ | ⟨ret, z, hd, e⟩
  · refine .inl ⟨by simpa only [hClaim, e] using hx, fun st y ec hy => hn (.shm y) (.shm y) ?_⟩
    subst ec; simp only [Call.after, hy]
  · simp only [hClaim, e] at hx
    rcases Call.after_done hd with ⟨_, _, _, _, rfl⟩ | ⟨st, y, rfl, hy, rfl⟩
    · cases hx
    · cases hx
      exact .inr ⟨st, y, rfl, hy, by simp only [tClaim, hc]; exact ShmNewSt.claim_done _ _ (hM.newwf t h st hc) hy⟩

/-- a call in flight sees a result while the mappings stay as they are (its system call was neither a
    successful `mmap` nor a `munmap`): claims stay, disappear, or pass from the call to the handle it returns -/
theorem claimInv_plain (hM : MapInv g) (hc : g.calls t = some c)
    (hmaps : ∀ p, (os'.procs p).maps = (g.os.procs p).maps ∧ (os'.procs p).nextAddr = (g.os.procs p).nextAddr)
    (hm : ∀ a, r = .ok a → ∀ fd len prot fl, c.next ≠ .mmap fd len prot fl) :
    ClaimInv (g.advance t c os' r) := by
  have thread : ∀ x, tClaim (g.advance t c os' r) t = some x → tClaim g t = some x := by
    intro x hx
    simp only [tClaim, G.advance, if_true] at hx
    split at hx
    · rename_i c' hc'
      split at hc' <;> cases hc'
      rename_i hcont
      rcases Call.claim_cont (g.pidOf t) (fun hid st e => hM.newwf t hid st (e ▸ hc)) hcont hm with e | e
      · simp only [tClaim, hc]; rw [← e]; exact hx
      · rw [e] at hx; cases hx
    · cases hx
  by_cases hd : ∃ hid st y, c = .shmNew hid st ∧ st.after r = .done (.ok y)
  · obtain ⟨hid, st, y, rfl, hy⟩ := hd
    refine hM.claims.transfer (.inr t) (.inl hid) hmaps (fun cl x hx => ?_) (fun _ => ?_)
    · cases cl with
      | inl h' =>
        rcases hClaim_advance hM hc hx with ⟨h0, hn⟩ | ⟨st', y', e, _, h0⟩
        · exact .inl ⟨fun e => by cases e; exact hn st y rfl hy, h0⟩
        · cases e; exact .inr ⟨rfl, h0⟩
      | inr t' =>
        refine .inl ⟨nofun, ?_⟩
        by_cases e : t' = t
        · subst e; exact thread x hx
        · simp only [claimOf, tClaim_advance_other e] at hx; exact hx
    · simp only [claimOf, tClaim, G.advance, if_true, Call.after, hy]
  · refine hM.claims.shrink hmaps fun cl x hx => ?_
    cases cl with
    | inl h' =>
      rcases hClaim_advance hM hc hx with ⟨h0, _⟩ | ⟨st, y, e, hy, _⟩
      · exact h0
      · exact absurd ⟨h', st, y, e, hy⟩ hd
    | inr t' =>
      by_cases e : t' = t
      · subst e; exact thread x hx
      · simp only [claimOf, tClaim_advance_other e] at hx; exact hx

theorem claimOf_advance_other (hM : MapInv g) (hc : g.calls t = some c)
    (hnd : ∀ hid st y, c = .shmNew hid st → st.after r ≠ .done (.ok y)) {cl : Claimant} (hne : cl ≠ .inr t)
    {x : Pid × Nat × Nat} (hx : claimOf (g.advance t c os' r) cl = some x) : claimOf g cl = some x := by
  cases cl with
  | inl h' =>
    rcases hClaim_advance hM hc hx with ⟨h0, _⟩ | ⟨st, y, e, hy, _⟩
    · exact h0
    · exact absurd hy (hnd h' st y e)
  | inr t' =>
    have e : t' ≠ t := fun e => hne (by rw [e])
    simp only [claimOf, tClaim_advance_other e] at hx; exact hx

theorem claimInv_mmap (hM : MapInv g) {hid : Hid} {fd : Nat} (hc : g.calls t = some (.shmNew hid st))
    (hpc : st.pc = .mmap fd) (m : Mapping) (hm : m.addr = (g.os.procs (g.pidOf t)).nextAddr) (hoff : m.off = 0)
    (hlen : m.len = st.size) (h0 : st.size ≠ 0) :
    ClaimInv (g.advance t (.shmNew hid st) (g.os.addMap (g.pidOf t) m) (.ok (g.os.procs (g.pidOf t)).nextAddr)) := by
  have hcont : (Call.shmNew hid st).after (.ok (g.os.procs (g.pidOf t)).nextAddr) =
      .cont (.shmNew hid { st with addr := some (g.os.procs (g.pidOf t)).nextAddr, pc := .close fd }) := by
    obtain ⟨key, req, ro, created, isExists, size, addr, pc⟩ := st
    cases hpc; rfl
  refine hM.claims.mmap t (g.pidOf t) m hm hoff (hlen ▸ h0) ⟨?_, ?_⟩ (fun q hq => ?_) ?_
  · simp only [advance_os, OS.addMap, OS.setProc, if_true]
  · simp only [advance_os, OS.addMap, OS.setProc, if_true]; omega
  · simp [advance_os, OS.addMap, OS.setProc, hq]
  · intro cl x hx
    by_cases e : cl = .inr t
    · subst e
      refine .inr ⟨rfl, ?_⟩
      simp only [claimOf, tClaim, G.advance, if_true, hcont, Call.claim, Option.map_some] at hx
      rw [hm, hlen]; exact (Option.some.inj hx).symm
    · refine .inl ⟨e, claimOf_advance_other hM hc (fun hid' st' y e' hy => ?_) e hx⟩
      cases e'
      obtain ⟨s, _, hs, _⟩ := ShmNewSt.after_done hy
      rw [hpc] at hs; cases hs

/-- a `munmap` is of the thread's own claim, which the call then drops; it returns no handle -/
theorem claim_of_next_munmap (hM : MapInv g) (hc : g.calls t = some c) {a len : Nat} (hcn : c.next = .munmap a len) :
    claimOf g (.inr t) = some (g.pidOf t, a, len) ∧ (∀ r c', c.after r = .cont c' → c'.claim (g.pidOf t) = none) ∧
      ∀ r hid st y, c = .shmNew hid st → st.after r ≠ .done (.ok y) := by
  rcases Call.next_munmap hcn with ⟨hid, st, e, rfl, hpc, rfl, rfl⟩ | ⟨st, rfl, hpc, rfl, rfl⟩
  · have h3 := (hM.newwf t hid st hc).2.2
    rw [hpc] at h3
    obtain ⟨a, ha⟩ := Option.isSome_iff_exists.mp h3
    refine ⟨by simp only [claimOf, tClaim, hc, Call.claim, hpc, ha, Option.map_some, Option.getD_some], ?_, ?_⟩
    · intro r c' hc'
      obtain ⟨key, req, ro, created, isExists, size, addr, pc⟩ := st
      cases hpc
      cases created <;> cases hc'
      rfl
    · intro r hid' st' y e' hy
      cases e'
      obtain ⟨s, _, hs, _⟩ := ShmNewSt.after_done hy
      rw [hpc] at hs; cases hs
  · refine ⟨by simp only [claimOf, tClaim, hc, Call.claim, hpc], ?_, fun _ _ _ _ e => nomatch e⟩
    intro r c' hc'
    cases c' with
    | shmFree st' =>
      obtain ⟨st0, e, ha⟩ := Call.after_cont_shmFree hc'
      cases e
      have := (ShmFreeSt.after_cont ha).2.1
      cases hpc' : st'.pc <;> first | exact absurd hpc' this | simp only [Call.claim, hpc']
    | shmNew hid' s' => obtain ⟨_, e, _⟩ := Call.after_cont_shmNew hc'; cases e
    | _ => rfl

theorem claimInv_munmap (hM : MapInv g) (hc : g.calls t = some c) {a len : Nat} (hcn : c.next = .munmap a len) :
    ClaimInv (g.advance t c (g.os.setProc (g.pidOf t) (munmapF (g.os.procs (g.pidOf t)) a len)) (.ok 0)) := by
  obtain ⟨hclaim, hdrop, hnd⟩ := claim_of_next_munmap hM hc hcn
  obtain ⟨hl0, hex⟩ := hM.claims.munmap_exact hclaim
  refine hM.claims.munmap t (g.pidOf t) a len hclaim (by simpa only [advance_os, OS.setProc, if_true] using hex)
    (fun q hq => by simp [advance_os, OS.setProc, hq]) ?_
  intro cl x hx
  by_cases e : cl = .inr t
  · subst e
    simp only [claimOf, tClaim, G.advance, if_true] at hx
    split at hx
    · rename_i c' hc'
      split at hc' <;> cases hc'
      rw [hdrop _ _ ‹_›] at hx; cases hx
    · cases hx
  · exact ⟨e, claimOf_advance_other hM hc (hnd _) e hx⟩

theorem claimInv_advance (hM : MapInv g) (hc : g.calls t = some c) (hE : SysEffect (g.pidOf t) g.os c.next os' r) :
    ClaimInv (g.advance t c os' r) := by
  by_cases hm : ∃ fd len prot fl a, c.next = .mmap fd len prot fl ∧ r = .ok a
  · obtain ⟨fd, len, prot, fl, a, hcn, rfl⟩ := hm
    obtain ⟨hid, st, rfl, hpc, rfl, rfl, rfl⟩ := Call.next_mmap hcn
    rw [hcn] at hE
    cases hE with
    | mapped _ _ _ _ s _ hlen => exact claimInv_mmap hM hc hpc _ rfl rfl rfl hlen
  · by_cases hu : ∃ a len, c.next = .munmap a len ∧ r = .ok 0
    · obtain ⟨a, len, hcn, rfl⟩ := hu
      rw [hcn] at hE
      cases hE with
      | unmapped _ _ _ => exact claimInv_munmap hM hc hcn
    · refine claimInv_plain hM hc (fun p => ?_) (fun a e fd len prot fl hcn => hm ⟨fd, len, prot, fl, a, hcn, e⟩)
      by_cases hf : ∃ e, r = .err e
      · obtain ⟨e, rfl⟩ := hf; generalize c.next = cn at hE; cases hE; exact ⟨rfl, rfl⟩
      · refine hE.maps_frame (fun fd len prot fl hcn => ?_) (fun a len hcn => ?_) p <;> rw [hcn] at hE <;> cases hE
        · exact hf ⟨_, rfl⟩
        · exact hm ⟨_, _, _, _, _, hcn, rfl⟩
        · exact hf ⟨_, rfl⟩
        · exact hu ⟨_, _, hcn, rfl⟩

theorem advance_calls_shmNew {t' : Tid} {hid : Hid} (h : (g.advance t c os' r).calls t' = some (.shmNew hid st')) :
    (t' ≠ t ∧ g.calls t' = some (.shmNew hid st')) ∨ (t' = t ∧ ∃ st, c = .shmNew hid st ∧ st.Next r st') := by
  rcases advance_calls h with h | ⟨e, h⟩
  · exact .inl h
  · obtain ⟨st, ec, ha⟩ := Call.after_cont_shmNew h
    exact .inr ⟨e, st, ec, ShmNewSt.next_of_after ha⟩

theorem mapInv_advance (hM : MapInv g) (hc : g.calls t = some c) (hE : SysEffect (g.pidOf t) g.os c.next os' r) :
    MapInv (g.advance t c os' r) := by
  refine ⟨claimInv_advance hM hc hE, fun t' hid st' hc' => ?_⟩
  rcases advance_calls_shmNew hc' with ⟨_, h0⟩ | ⟨rfl, st, rfl, hn⟩
  · exact hM.newwf t' hid st' h0
  · exact ShmNewSt.wf_next (hM.newwf t' hid st hc) hn

theorem mapInv_start (hM : MapInv g) (t : Tid) (op : Op) : MapInv (g.start t op) := by
  have hs := start_cases g t op
  generalize g.start t op = g' at hs
  have keep : ∀ g' : G, (∀ p, g'.os.procs p = g.os.procs p) → (∀ cl x, claimOf g' cl = some x → claimOf g cl = some x) →
      (∀ t' hid st, g'.calls t' = some (.shmNew hid st) → g.calls t' = some (.shmNew hid st) ∨ st.wf) → MapInv g' :=
    fun g' hp hcl hw => ⟨hM.claims.shrink (fun p => by rw [hp p]; exact ⟨rfl, rfl⟩) hcl,
      fun t' hid st h => (hw t' hid st h).elim (hM.newwf t' hid st) id⟩
  cases hs with
  | ret r => exact keep _ (fun _ => rfl) (fun _ _ h => h) (fun _ _ _ h => .inl h)
  | store segs' _ => exact keep _ (fun _ => rfl) (fun _ _ h => h) (fun _ _ _ h => .inl h)
  | call c hc =>
    refine keep _ (fun _ => rfl) (fun cl x hx => ?_) (fun t' hid st h => ?_)
    · cases cl with
      | inl h => exact hx
      | inr t' =>
        by_cases e : t' = t
        · subst e
          simp only [claimOf, tClaim, G.setCall, if_true, Call.claim_initial _ hc] at hx
          cases hx
        · simpa only [claimOf, tClaim, G.setCall, e, if_false] using hx
    · by_cases e : t' = t
      · subst e
        simp only [G.setCall, if_true] at h
        cases h
        exact .inr ⟨by rw [hc.2.2.2]; exact clampSize_self _, by rw [hc.1]; exact hc.2.2.2, by rw [hc.1]; exact hc.2.2.1⟩
      · exact .inl (by simpa only [G.setCall, e, if_false] using h)
  | own h x hx =>
    refine keep _ (fun _ => rfl) (fun cl y hy => ?_) (fun _ _ _ h => .inl h)
    cases cl with
    | inr t' => exact hy
    | inl h' =>
      simp only [claimOf, hClaim, G.setRet, G.setHandle] at hy ⊢
      by_cases e : h' = h
      · subst e; rw [hx]; cases x <;> simpa only [if_true, Handle.owned] using hy
      · simpa only [e, if_false] using hy
  | free h x hx =>
    refine ⟨hM.claims.transfer (.inl h) (.inr t) (fun _ => ⟨rfl, rfl⟩) (fun cl y hy => ?_) (fun _ => ?_), fun t' hid st hc => ?_⟩
    · cases cl with
      | inl h' =>
        refine .inl ⟨nofun, ?_⟩
        simp only [claimOf, hClaim, G.setCall, G.setHandle] at hy ⊢
        by_cases e : h' = h
        · simp only [e, if_true] at hy; cases hy
        · simpa only [e, if_false] using hy
      | inr t' =>
        by_cases e : t' = t
        · subst e
          refine .inr ⟨rfl, ?_⟩
          simp only [claimOf, tClaim, G.setCall, G.setHandle, if_true] at hy
          simp only [claimOf, hClaim, hx]
          cases x <;> first | (cases hy; rfl) | cases hy
        · exact .inl ⟨fun e' => e (by cases e'; rfl), by simpa only [claimOf, tClaim, G.setCall, G.setHandle, e, if_false] using hy⟩
    · simp only [claimOf, hClaim, G.setCall, G.setHandle, if_true]
    · by_cases e : t' = t
      · subst e
        simp only [G.setCall, if_true] at hc
        cases x <;> cases hc
      · exact hM.newwf t' hid st (by simpa only [G.setCall, G.setHandle, e, if_false] using hc)

theorem mapInv_kill (hM : MapInv g) (p : Pid) : MapInv (g.kill p) := by
  refine ⟨hM.claims.kill p (by simp [G.kill, OS.kill, OS.setProc]) (fun q hq => by rw [kill_procs_other g hq]; exact ⟨rfl, rfl⟩) ?_,
    fun t hid st hc => hM.newwf t hid st (kill_calls hc).1⟩
  intro cl q a l hx
  cases cl with
  | inl h' =>
    simp only [claimOf, hClaim] at hx ⊢
    split at hx
    · rename_i q' y hy
      obtain ⟨h0, hne⟩ := kill_hs hy
      cases hx
      exact ⟨hne, by rw [h0]⟩
    · cases hx
  | inr t' =>
    simp only [claimOf, tClaim] at hx ⊢
    split at hx
    · rename_i c hc
      obtain ⟨h0, hne⟩ := kill_calls hc
      rw [h0]
      exact ⟨Call.claim_pid hx ▸ hne, hx⟩
    · cases hx

theorem mapInv_exec (g : G) (a : Action) (h : MapInv g) : MapInv (exec g a) :=
  exec_cases a h (mapInv_start h) (mapInv_kill h) (fun _ _ _ _ => mapInv_advance h)

theorem mapInv_execAll (as : List Action) : ∀ g, MapInv g → MapInv (execAll g as) :=
  execAll_invariant mapInv_exec as

/-- the initial state satisfies the invariant, hence so does every reachable state -/
theorem mapInv_init (pidOf : Tid → Pid) : MapInv (G.init pidOf) := by
  refine ⟨⟨?_, ?_, ?_, ?_⟩, ?_⟩
  · intro p m hm; cases hm
  · intro p; exact List.nodup_nil
  · intro c p a l hc; cases c <;> simp [claimOf, hClaim, tClaim, G.init] at hc
  · intro c c' p a l l' hc; cases c <;> simp [claimOf, hClaim, tClaim, G.init] at hc
  · intro t hid st hc; simp [G.init] at hc

theorem mapInv_reachable (pidOf : Tid → Pid) (as : List Action) : MapInv (execAll (G.init pidOf) as) :=
  mapInv_execAll as _ (mapInv_init pidOf)

end PV.IPC
