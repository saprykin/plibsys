import PV.Lemmas.Ini.Strings
/-! The read loop of `p_ini_file_parse` and the queries (C16): what is stored fits the buffers, for every input; `sscanf`,
the key/value cascade, one iteration and `fgets` on the shapes rendered lines have; what the API shows of a parsed file. -/
namespace PV.Ini

theorem splitAux_length (limit : Nat) (rest cur : Bytes) (hlt : cur.length < limit) :
    ∀ c ∈ splitAux limit rest cur cur.length, c.length ≤ limit := by
  induction rest generalizing cur with
  | nil =>
    intro c hc
    simp only [splitAux] at hc
    split at hc
    · simp at hc
    · simp only [List.mem_singleton] at hc
      subst hc; simp; omega
  | cons b rest ih =>
    intro c hc
    simp only [splitAux] at hc
    split at hc
    · simp only [List.mem_cons] at hc
      rcases hc with hc | hc
      · subst hc; simp; omega
      · exact ih [] (by simp; omega) c hc
    · rename_i hcond
      simp only [Bool.or_eq_true, decide_eq_true_eq, not_or, Nat.not_le] at hcond
      exact ih (b :: cur) (by simp; omega) c hc

/-- every `fgets` chunk fits the line buffer (leaving room for the terminating NUL) -/
theorem splitLines_length (input : Bytes) : ∀ c ∈ splitLines input, c.length ≤ maxLine := by
  intro c hc
  have := splitAux_length (PV.Generated.Ini.lineBufSize - 1) input [] (by decide) c hc
  simpa [maxLine, PV.Generated.Ini.lineBufSize] using this

theorem clip_length_le (s : Bytes) : (clip s).length ≤ s.length := by
  unfold clip; split
  · simp only [List.length_take]; omega
  · exact Nat.le_refl _

theorem clip_length_le_max (s : Bytes) : (clip s).length ≤ maxLine := by
  unfold clip; split
  · simp only [List.length_take]; omega
  · omega

theorem clip_of_le (s : Bytes) (h : s.length ≤ maxLine) : clip s = s := if_neg (by omega)

theorem lineOf_length_le (c : Bytes) : (lineOf c).length ≤ c.length := by
  unfold lineOf
  have h1 := clip_length_le (chomp (cstr (c.drop (bomShift c))))
  have h2 := chomp_length_le (cstr (c.drop (bomShift c)))
  have h3 : (cstr (c.drop (bomShift c))).length ≤ _ := (List.takeWhile_sublist _).length_le
  have h4 : (c.drop (bomShift c)).length ≤ c.length := by simp
  omega

theorem scanRun_length_le (set : List UInt8) (w : Option Nat) (s : Bytes) : (scanRun set w s).length ≤ s.length := by
  have := (List.takeWhile_sublist (l := s) fun b => !set.contains b).length_le
  unfold scanRun
  cases w with
  | none => exact this
  | some n => simp only [List.length_take]; omega

theorem scan_length_le (p : List Dir) (s : Bytes) : ∀ o ∈ scan p s, o.length ≤ s.length := by
  induction p generalizing s with
  | nil => intro o ho; simp [scan] at ho
  | cons d ds ih =>
    intro o ho
    cases d with
    | lit c =>
      cases s with
      | nil => simp [scan] at ho
      | cons b s' =>
        simp only [scan] at ho
        split at ho
        · have := ih s' o ho; simp; omega
        · simp at ho
    | ws =>
      simp only [scan] at ho
      have := ih _ o ho
      have := (List.dropWhile_sublist (l := s) isSpace).length_le
      omega
    | notIn set w =>
      simp only [scan] at ho
      split at ho
      · simp at ho
      · simp only [List.mem_cons] at ho
        rcases ho with ho | ho
        · subst ho; exact scanRun_length_le _ _ _
        · have := ih _ o ho
          simp only [List.length_drop] at this
          omega

theorem kvCascade_length_le (ps : List (List Dir)) (T k v : Bytes) (h : kvCascade ps T = some (k, v)) :
    k.length ≤ T.length ∧ v.length ≤ T.length := by
  induction ps with
  | nil => simp [kvCascade] at h
  | cons p ps ih =>
    rw [kvCascade] at h
    split at h
    · rename_i k' v' heq
      obtain ⟨rfl, rfl⟩ : k' = k ∧ v' = v := by simpa using h
      exact ⟨scan_length_le p T _ (by simp [heq]), scan_length_le p T _ (by simp [heq])⟩
    · exact ih h

/-- what the loop does with a stored pair -/
def addKey (st : PState) (kv : Bytes × Bytes) : PState :=
  match st.cur with
  | none => st
  | some sec => { st with cur := some { sec with keys := kv :: sec.keys } }

/-- `""` and `''` stand for the empty value -/
def emptyQuotes (v : Bytes) : Bytes := if v == [34, 34] || v == [39, 39] then [] else v

theorem emptyQuotes_length_le (v : Bytes) : (emptyQuotes v).length ≤ v.length := by
  unfold emptyQuotes; split
  · exact Nat.zero_le _
  · exact Nat.le_refl _

theorem stepLine_cases (skip : Bool) (st : PState) (l : Bytes) :
    (∃ n, n.length ≤ maxLine ∧ stepLine skip st l = ⟨pushSection st, some ⟨n, []⟩⟩) ∨ stepLine skip st l = st ∨
    ∃ k v, k.length ≤ maxLine ∧ v.length ≤ maxLine ∧ stepLine skip st l = addKey st (k, v) := by
  rw [stepLine]
  by_cases h1 : (bufAt l 0 == 91 && l.getLast? == some 93 && (scan patSection l).length == 1) = true
  · rw [if_pos h1]; exact Or.inl ⟨_, clip_length_le_max _, rfl⟩
  · rw [if_neg h1]
    by_cases h2 : (skip && (bufAt l 0 == 35 || bufAt l 0 == 59)) = true
    · rw [if_pos h2]; exact Or.inr (Or.inl rfl)
    · rw [if_neg h2]
      cases kvCascade kvPatterns l with
      | none => exact Or.inr (Or.inl rfl)
      | some kv =>
        exact Or.inr (Or.inr ⟨clip (chomp kv.1), emptyQuotes (clip (chomp kv.2)), clip_length_le_max _,
          Nat.le_trans (emptyQuotes_length_le _) (clip_length_le_max _), rfl⟩)

def SectionFits (s : Section) : Prop :=
  s.name.length ≤ maxLine ∧ ∀ kv ∈ s.keys, kv.1.length ≤ maxLine ∧ kv.2.length ≤ maxLine

/-- loop invariant: every section in `file->sections` fits and has at least one key; the current one fits -/
def StateOk (st : PState) : Prop :=
  (∀ s ∈ st.sections, SectionFits s ∧ s.keys ≠ []) ∧ ∀ s ∈ st.cur, SectionFits s

theorem pushSection_ok (st : PState) (h : StateOk st) : ∀ s ∈ pushSection st, SectionFits s ∧ s.keys ≠ [] := by
  unfold pushSection
  cases hc : st.cur with
  | none => exact h.1
  | some sec =>
    dsimp only
    split
    · exact h.1
    · rename_i hne
      intro s hs
      rcases List.mem_cons.mp hs with rfl | hs
      · exact ⟨h.2 s (by simp [hc]), by simpa using hne⟩
      · exact h.1 s hs

/-- after the loop the last section is appended instead of prepended: the same sections -/
theorem mem_finish (st : PState) (s : Section) : s ∈ finish st ↔ s ∈ pushSection st := by
  unfold finish pushSection
  cases st.cur with
  | none => exact Iff.rfl
  | some sec => dsimp only; split <;> simp [or_comm]

theorem addKey_ok (st : PState) (kv : Bytes × Bytes) (h : StateOk st) (hk : kv.1.length ≤ maxLine)
    (hv : kv.2.length ≤ maxLine) : StateOk (addKey st kv) := by
  unfold addKey
  cases hc : st.cur with
  | none => exact h
  | some sec =>
    refine ⟨h.1, fun s hs => ?_⟩
    obtain rfl := Option.some.inj hs
    have hsec := h.2 sec (by simp [hc])
    exact ⟨hsec.1, fun kv' hkv => (List.mem_cons.mp hkv).elim (fun e => e ▸ ⟨hk, hv⟩) (hsec.2 kv')⟩

theorem stepLine_ok (skip : Bool) (st : PState) (l : Bytes) (h : StateOk st) : StateOk (stepLine skip st l) := by
  rcases stepLine_cases skip st l with ⟨n, hn, e⟩ | e | ⟨k, v, hk, hv, e⟩ <;> rw [e]
  · refine ⟨pushSection_ok st h, fun s hs => ?_⟩
    obtain rfl := Option.some.inj hs
    exact ⟨hn, nofun⟩
  · exact h
  · exact addKey_ok st _ h hk hv

theorem parseWith_stored (skip : Bool) (input : Bytes) : ∀ s ∈ parseWith skip input, SectionFits s ∧ s.keys ≠ [] := by
  have hfold : ∀ (cs : List Bytes) (st : PState), StateOk st → StateOk (cs.foldl (step skip) st) := by
    intro cs
    induction cs with
    | nil => exact fun _ h => h
    | cons c cs ih =>
      intro st h
      rw [List.foldl_cons]
      exact ih _ (show StateOk (stepLine skip st (lineOf c)) from stepLine_ok skip st (lineOf c) h)
  have h0 : StateOk ⟨[], none⟩ := ⟨fun _ h => (nomatch h), fun _ h => (nomatch h)⟩
  intro s hs
  exact pushSection_ok _ (hfold _ _ h0) s ((mem_finish _ s).mp hs)

theorem sections_eq (f : IniFile) : sections f = (f.map (·.name)).reverse := by
  unfold sections; rw [List.foldl_flip_cons_eq_append, List.append_nil]

theorem keys_of_find (f : IniFile) (n : Bytes) (s : Section) (h : findSection f n = some s) :
    keys f n = (s.keys.map (·.1)).reverse := by
  unfold keys; rw [h]; dsimp only; rw [List.foldl_flip_cons_eq_append, List.append_nil]

theorem parameterString_none (f : IniFile) (n k : Bytes) : parameterString f n k none = findParameter f n k := by
  unfold parameterString; cases findParameter f n k <;> rfl

theorem isKeyExists_iff (f : IniFile) (n k : Bytes) : isKeyExists f n k = (findParameter f n k).isSome := by
  unfold isKeyExists findParameter
  cases findSection f n with
  | none => rfl
  | some s =>
    simp only [Option.isSome_map]
    exact List.isSome_find?.symm

theorem findSection_some_of_mem (f : IniFile) (x : Section) (hx : x ∈ f) :
    ∃ y, findSection f x.name = some y ∧ y.name = x.name := by
  unfold findSection
  have h : (f.find? (·.name == x.name)).isSome = true := by
    rw [List.find?_isSome]; exact ⟨x, hx, by simp⟩
  obtain ⟨y, hy⟩ := Option.isSome_iff_exists.mp h
  exact ⟨y, hy, by have := List.find?_some hy; simpa using this⟩

theorem find?_of_inj {α} (g : α → Bytes) (l : List α) (hinj : ∀ a ∈ l, ∀ b ∈ l, g a = g b → a = b)
    (x : α) (hx : x ∈ l) : l.find? (fun y => g y == g x) = some x := by
  induction l with
  | nil => simp at hx
  | cons y l ih =>
    by_cases hy : g y = g x
    · rw [List.find?_cons_of_pos (by simpa using hy), hinj y (by simp) x hx hy]
    · rw [List.find?_cons_of_neg (by simpa using hy)]
      have hx' : x ∈ l := (List.mem_cons.mp hx).resolve_left fun e => hy (e ▸ rfl)
      exact ih (fun a ha b hb => hinj a (by simp [ha]) b (by simp [hb])) hx'

theorem findSection_of_inj (f : IniFile) (hinj : ∀ x ∈ f, ∀ y ∈ f, x.name = y.name → x = y)
    (x : Section) (hx : x ∈ f) : findSection f x.name = some x :=
  find?_of_inj Section.name f hinj x hx

theorem consistent_of_ok (f : IniFile) (h : ∀ s ∈ f, s.keys ≠ []) :
    ∀ n ∈ sections f, keys f n ≠ [] ∧
      ∀ k ∈ keys f n, isKeyExists f n k = true ∧ (findParameter f n k).isSome = true := by
  intro n hn
  rw [sections_eq] at hn
  simp only [List.mem_reverse, List.mem_map] at hn
  obtain ⟨s0, hs0, rfl⟩ := hn
  obtain ⟨s, hs, _⟩ := findSection_some_of_mem f s0 hs0
  have hk := h s (List.mem_of_find?_eq_some hs)
  rw [keys_of_find f _ s hs]
  refine ⟨by simpa using hk, ?_⟩
  intro k hkm
  simp only [List.mem_reverse, List.mem_map] at hkm
  obtain ⟨p, hp, rfl⟩ := hkm
  have hfind : (findParameter f s0.name p.1).isSome = true := by
    unfold findParameter; rw [hs]; simp only [Option.isSome_map]
    rw [List.find?_isSome]
    exact ⟨p, hp, by simp⟩
  exact ⟨by rw [isKeyExists_iff]; exact hfind, hfind⟩

/-- every listed section with its keys (each once, in listing order) and the value a lookup returns -/
def fileView (f : IniFile) : List (Bytes × List (Bytes × Bytes)) :=
  (sections f).map fun n => (n, (keys f n).eraseDups.map fun k => (k, (parameterString f n k none).getD []))

def sectionView (x : Section) : Bytes × List (Bytes × Bytes) :=
  (x.name, (x.keys.map (·.1)).reverse.eraseDups.map fun k => (k, ((x.keys.find? (·.1 == k)).map (·.2)).getD []))

/-- what the API shows under the name of `x`: the keys and values of the section a look-up of that name finds -/
def viewAs (f : IniFile) (x : Section) : Bytes × List (Bytes × Bytes) :=
  (x.name, (sectionView ((findSection f x.name).getD x)).2)

theorem fileView_gen (f : IniFile) : fileView f = f.reverse.map (viewAs f) := by
  unfold fileView
  rw [sections_eq, ← List.map_reverse, List.map_map]
  apply List.map_congr_left
  intro x hx
  obtain ⟨y, hf, hyn⟩ := findSection_some_of_mem f x (List.mem_reverse.mp hx)
  simp only [Function.comp, viewAs, sectionView, keys_of_find f x.name y hf, parameterString_none, hf, Option.getD_some]
  congr 1
  apply List.map_congr_left
  intro k _
  simp [findParameter, hf]

theorem fileView_eq (f : IniFile) (hinj : ∀ x ∈ f, ∀ y ∈ f, x.name = y.name → x = y) :
    fileView f = f.reverse.map sectionView := by
  rw [fileView_gen]
  apply List.map_congr_left
  intro x hx
  simp [viewAs, findSection_of_inj f hinj x (List.mem_reverse.mp hx), sectionView]

theorem visible_unparsed (h : Option Handle) (hp : fileIsParsed h = false) : visible h = [] := by
  cases h with
  | none => rfl
  | some x => simp [fileIsParsed] at hp; simp [visible, hp]

theorem findParameter_nil (s k : Bytes) : findParameter [] s k = none := rfl

theorem apiFind_unparsed (h : Option Handle) (hp : fileIsParsed h = false) (sec key : Option Bytes) :
    apiFind h sec key = none := by
  unfold apiFind
  rw [visible_unparsed h hp]
  cases sec <;> cases key <;> rfl

theorem apiFind_null (h : Option Handle) (sec key : Option Bytes) (hn : sec = none ∨ key = none) :
    apiFind h sec key = none := by
  rcases hn with rfl | rfl
  · rfl
  · cases sec <;> rfl

theorem scan_lit_fail (q : UInt8) (ds : List Dir) (R : Bytes) (h : ∀ r ∈ R.head?, r ≠ q) :
    scan (.lit q :: ds) R = [] := by
  cases R with
  | nil => rfl
  | cons r R => simp [scan, h r rfl]

theorem scan_lit_ne (q r : UInt8) (R : Bytes) (ds : List Dir) (h : r ≠ q) : scan (.lit q :: ds) (r :: R) = [] :=
  scan_lit_fail q ds (r :: R) fun _ hr => Option.some.inj hr ▸ h

theorem scan_lit_eq (q : UInt8) (R : Bytes) (ds : List Dir) : scan (.lit q :: ds) (q :: R) = scan ds R := by
  simp [scan]

theorem scan_notIn (set : List UInt8) (ds : List Dir) (a R : Bytes) (hne : a ≠ []) (ha : ∀ x ∈ a, x ∉ set)
    (hR : ∀ c ∈ R.head?, c ∈ set) : scan (.notIn set none :: ds) (a ++ R) = a :: scan ds R := by
  have hrun : scanRun set none (a ++ R) = a :=
    takeWhile_run _ a R (fun x hx => by simpa using ha x hx) (fun c hc => by simpa using hR c hc)
  have hemp : a.isEmpty = false := by simpa using hne
  simp only [scan, hrun, hemp, Bool.false_eq_true, if_false, List.drop_left]

theorem scan_notIn_fail (set : List UInt8) (w : Option Nat) (ds : List Dir) (R : Bytes) (hR : ∀ c ∈ R.head?, c ∈ set) :
    scan (.notIn set w :: ds) R = [] := by
  have hrun : scanRun set w R = [] := by
    have := takeWhile_run (fun b => !set.contains b) [] R nofun (fun c hc => by simpa using hR c hc)
    unfold scanRun
    rw [List.nil_append] at this
    rw [this]
    cases w
    · rfl
    · exact List.take_nil
  simp only [scan, hrun, List.isEmpty_nil, if_true]

theorem scan_quoted (q : UInt8) (V rest : Bytes) (hV : V ≠ []) (hq : ∀ x ∈ V, x ∉ [q]) :
    scan [.lit q, .notIn [q] none, .lit q] (q :: (V ++ q :: rest)) = [V] := by
  rw [scan_lit_eq, scan_notIn [q] _ V _ hV hq (by simp), scan_lit_eq]; rfl

/-- `""` and `''`: the `%[…]` conversion of either quoted format fails on the empty run -/
theorem scan_quoted_empty (c q : UInt8) (rest : Bytes) :
    scan [.lit c, .notIn [c] none, .lit c] (q :: q :: rest) = [] := by
  by_cases h : q = c
  · subst h; rw [scan_lit_eq]; exact scan_notIn_fail _ _ _ _ (by simp)
  · exact scan_lit_ne _ _ _ _ h

theorem scan_key (ds : List Dir) (K post R : Bytes) (hK : K ≠ []) (hK61 : ∀ x ∈ K, x ∉ [(61 : UInt8)])
    (hpost : AllSpace post) (hR : ∀ c ∈ R.head?, isSpace c = false) :
    scan (patKey :: .ws :: .lit 61 :: .ws :: ds) (K ++ 61 :: (post ++ R)) = K :: scan ds R := by
  have h61 : (61 :: (post ++ R)).dropWhile isSpace = 61 :: (post ++ R) := List.dropWhile_cons_of_neg (by decide)
  rw [patKey, scan_notIn [61] _ K _ hK hK61 (by simp), scan, h61, scan_lit_eq, scan, dropWhile_run isSpace post R hpost hR]

/-- the value parts of the three formats: `"%[^"]"`, `'%[^']'`, `%[^;#]` -/
def valuePatterns : List (List Dir) :=
  [[.lit 34, .notIn [34] none, .lit 34], [.lit 39, .notIn [39] none, .lit 39], [.notIn [59, 35] none]]

/-- the cascade behind `key =`: the first format that stores exactly one string -/
def valueCascade : List (List Dir) → Bytes → Option Bytes
  | [], _ => none
  | p :: ps, R =>
    match scan p R with
    | [v] => some v
    | _ => valueCascade ps R

/-- every format starts with `%[^=] = `: on `K = post R` the key is stored and the rest of the format decides -/
theorem kvCascade_key (vps : List (List Dir)) (K post R : Bytes) (hK : K ≠ []) (hK61 : ∀ x ∈ K, x ∉ [(61 : UInt8)])
    (hpost : AllSpace post) (hR : ∀ c ∈ R.head?, isSpace c = false) :
    kvCascade (vps.map fun vp => patKey :: .ws :: .lit 61 :: .ws :: vp) (K ++ 61 :: (post ++ R))
      = (valueCascade vps R).map fun v => (K, v) := by
  induction vps with
  | nil => rfl
  | cons vp vps ih =>
    simp only [List.map_cons, kvCascade, valueCascade, scan_key vp K post R hK hK61 hpost hR, ih]
    rcases scan vp R with _ | ⟨v, _ | ⟨w, l⟩⟩ <;> rfl

theorem kvPatterns_eq : kvPatterns = valuePatterns.map fun vp => patKey :: .ws :: .lit 61 :: .ws :: vp := rfl

/-- what follows the value on the chomped line: nothing, or blanks and a comment -/
def Tail (trail tail : Bytes) : Prop :=
  tail = [] ∨ ∃ m u, tail = trail ++ m :: u ∧ m ∈ [(59 : UInt8), 35]

theorem marker_not_space {m : UInt8} (hm : m ∈ [(59 : UInt8), 35]) : isSpace m = false := by
  simp only [List.mem_cons, List.mem_nil_iff, or_false] at hm
  rcases hm with rfl | rfl <;> decide

theorem scan_plain_tail (V trail tail : Bytes) (hV : V ≠ []) (hVm : ∀ x ∈ V, x ∉ [(59 : UInt8), 35])
    (htr : AllSpace trail) (ht : Tail trail tail) :
    ∃ t', AllSpace t' ∧ scan [.notIn [59, 35] none] (V ++ tail) = [V ++ t'] := by
  rcases ht with rfl | ⟨m, u, rfl, hm⟩
  · exact ⟨[], allSpace_nil, by simpa [scan] using scan_notIn [59, 35] [] V [] hV hVm (by simp)⟩
  · refine ⟨trail, htr, ?_⟩
    rw [← List.append_assoc]
    refine scan_notIn [59, 35] [] (V ++ trail) (m :: u) (by simp [hV]) ?_ (by simpa using hm)
    intro x hx
    rcases List.mem_append.mp hx with hx | hx
    · exact hVm x hx
    · exact htr.avoids [59, 35] (by decide) x hx

theorem valueCascade_plain (V trail tail : Bytes) (hV : V ≠ []) (hVm : ∀ x ∈ V, x ∉ [(59 : UInt8), 35])
    (htr : AllSpace trail) (ht : Tail trail tail)
    (h1 : scan [.lit 34, .notIn [34] none, .lit 34] (V ++ tail) = [])
    (h2 : scan [.lit 39, .notIn [39] none, .lit 39] (V ++ tail) = []) :
    ∃ t', AllSpace t' ∧ valueCascade valuePatterns (V ++ tail) = some (V ++ t') := by
  obtain ⟨t', ht', h3⟩ := scan_plain_tail V trail tail hV hVm htr ht
  exact ⟨t', ht', by simp only [valuePatterns, valueCascade, h1, h2, h3]⟩

theorem valueCascade_none (R : Bytes) (hR : ∀ c ∈ R.head?, c ∈ [(59 : UInt8), 35]) :
    valueCascade valuePatterns R = none := by
  have hne : ∀ q : UInt8, q = 34 ∨ q = 39 → ∀ r ∈ R.head?, r ≠ q := by
    intro q hq r hr e
    have := hR r hr
    rw [e] at this
    rcases hq with rfl | rfl <;> simp at this
  simp only [valuePatterns, valueCascade, scan_lit_fail 34 _ R (hne 34 (Or.inl rfl)),
    scan_lit_fail 39 _ R (hne 39 (Or.inr rfl)), scan_notIn_fail [59, 35] none [] R hR]

/-- the conditions `IniSpec.Entry.wf` puts on a value, per quoting style -/
def ValueOk : IniSpec.Quote → Bytes → Prop
  | .none, v => Trimmed v ∧ (∀ x ∈ v, x ∉ [(59 : UInt8), 35]) ∧ v.head? ≠ some 34 ∧ v.head? ≠ some 39
  | .single, v => (∀ x ∈ v, x ∉ [(39 : UInt8)]) ∧ chomp v ≠ [34, 34]
  | .double, v => (∀ x ∈ v, x ∉ [(34 : UInt8)]) ∧ chomp v ≠ [39, 39]

/-- the value that ends up stored: an unquoted one as it is, a quoted one without the blanks at its ends -/
def storedValue : IniSpec.Quote → Bytes → Bytes
  | .none, v => v
  | _, v => chomp v

theorem trimmed_quoted (q : IniSpec.Quote) (value : Bytes) (hv : ValueOk q value) :
    Trimmed (q.bytes ++ value ++ q.bytes) := by
  cases q with
  | none => simpa [IniSpec.Quote.bytes] using hv.1
  | single | double => exact (trimmed_singleton (by decide)).append value (trimmed_singleton (by decide))

theorem emptyQuotes_of_ne (v : Bytes) (h1 : v ≠ [34, 34]) (h2 : v ≠ [39, 39]) : emptyQuotes v = v := by
  unfold emptyQuotes
  rw [beq_false_of_ne h1, beq_false_of_ne h2]; rfl

/-- `q` is the quote around the value, `o` the other kind -/
theorem quoted_cascade (q o : UInt8) (hqo : q = 34 ∧ o = 39 ∨ q = 39 ∧ o = 34) (value trail tail : Bytes)
    (htr : AllSpace trail) (hq : ∀ x ∈ value, x ∉ [q]) (ho : chomp value ≠ [o, o]) (ht : Tail trail tail) :
    ∃ rawv, valueCascade valuePatterns (q :: (value ++ q :: tail)) = some rawv ∧
      emptyQuotes (chomp rawv) = chomp value := by
  have hqs : isSpace q = false := by rcases hqo with ⟨rfl, _⟩ | ⟨rfl, _⟩ <;> decide
  by_cases hte : value = []
  · -- `""`: both quoted formats fail, the plain one stores the quotes, which are then dropped
    subst hte
    obtain ⟨t', ht', hc⟩ := valueCascade_plain [q, q] trail tail (by simp)
      (by rcases hqo with ⟨rfl, _⟩ | ⟨rfl, _⟩ <;> decide) htr ht (scan_quoted_empty 34 q tail) (scan_quoted_empty 39 q tail)
    refine ⟨_, hc, ?_⟩
    rw [chomp_of_trimmed_append _ t' ⟨q, q, rfl, rfl, hqs, hqs⟩ ht']
    rcases hqo with ⟨rfl, _⟩ | ⟨rfl, _⟩ <;> rfl
  · have hs := scan_quoted q value tail hte hq
    have hqq : chomp value ≠ [q, q] := fun h => hq q (chomp_subset value q (by rw [h]; simp)) (by simp)
    rcases hqo with ⟨rfl, rfl⟩ | ⟨rfl, rfl⟩
    · exact ⟨value, by simp only [valuePatterns, valueCascade, hs], emptyQuotes_of_ne _ hqq ho⟩
    · exact ⟨value, by simp only [valuePatterns, valueCascade, hs, scan_lit_ne 34 39 _ _ (by decide)],
        emptyQuotes_of_ne _ ho hqq⟩

theorem value_cascade (q : IniSpec.Quote) (value trail tail : Bytes) (htr : AllSpace trail) (hv : ValueOk q value)
    (ht : Tail trail tail) :
    ∃ rawv, valueCascade valuePatterns (q.bytes ++ value ++ q.bytes ++ tail) = some rawv ∧
      emptyQuotes (chomp rawv) = storedValue q value := by
  cases q with
  | none =>
    obtain ⟨htrim, hm, h34, h39⟩ := hv
    have hhead : ∀ c : UInt8, value.head? ≠ some c → ∀ r ∈ (value ++ tail).head?, r ≠ c := by
      obtain ⟨a, _, ha, _⟩ := htrim
      intro c hc r hr e
      rw [List.head?_append, ha, Option.some_or] at hr
      exact hc (by rw [ha, ← e]; exact hr)
    obtain ⟨t', ht', hc⟩ := valueCascade_plain value trail tail htrim.ne_nil hm htr ht
      (scan_lit_fail 34 _ _ (hhead 34 h34)) (scan_lit_fail 39 _ _ (hhead 39 h39))
    refine ⟨_, by simpa [IniSpec.Quote.bytes] using hc, ?_⟩
    rw [chomp_of_trimmed_append value t' htrim ht']
    exact emptyQuotes_of_ne _ (fun h => h34 (by rw [h]; rfl)) (fun h => h39 (by rw [h]; rfl))
  | single =>
    simpa [IniSpec.Quote.bytes, storedValue] using
      quoted_cascade 39 34 (Or.inr ⟨rfl, rfl⟩) value trail tail htr hv.1 hv.2 ht
  | double =>
    simpa [IniSpec.Quote.bytes, storedValue] using
      quoted_cascade 34 39 (Or.inl ⟨rfl, rfl⟩) value trail tail htr hv.1 hv.2 ht

theorem stepLine_none (skip : Bool) (st : PState) (T : Bytes)
    (h91 : bufAt T 0 ≠ 91) (hcas : kvCascade kvPatterns T = none) : stepLine skip st T = st := by
  unfold stepLine
  simp only [beq_false_of_ne h91, Bool.false_and, Bool.false_eq_true, if_false, hcas]
  split <;> rfl

theorem stepLine_comment (st : PState) (T : Bytes) (h : bufAt T 0 ∈ [(59 : UInt8), 35]) :
    stepLine true st T = st := by
  simp only [List.mem_cons, List.mem_nil_iff, or_false] at h
  unfold stepLine
  rcases h with h | h <;> simp [h]

theorem stepLine_kv (skip : Bool) (st : PState) (T K rawv : Bytes) (h0 : bufAt T 0 ∉ [(91 : UInt8), 35, 59])
    (hlen : T.length ≤ maxLine) (hcas : kvCascade kvPatterns T = some (K, rawv)) :
    stepLine skip st T = addKey st (chomp K, emptyQuotes (chomp rawv)) := by
  obtain ⟨hk, hv⟩ := kvCascade_length_le _ _ _ _ hcas
  simp only [List.mem_cons, List.mem_nil_iff, or_false, not_or] at h0
  unfold stepLine addKey emptyQuotes
  simp only [beq_false_of_ne h0.1, beq_false_of_ne h0.2.1, beq_false_of_ne h0.2.2, Bool.false_and, Bool.or_self,
    Bool.and_false, Bool.false_eq_true, if_false, hcas,
    clip_of_le _ (Nat.le_trans (chomp_length_le K) (Nat.le_trans hk hlen)),
    clip_of_le _ (Nat.le_trans (chomp_length_le rawv) (Nat.le_trans hv hlen))]
  cases st.cur <;> rfl

/-- what `Entry.wf` asks of a key, in the model's terms -/
structure KeyOk (key : Bytes) : Prop where
  trimmed : Trimmed key
  no61 : ∀ x ∈ key, x ∉ [(61 : UInt8)]
  head : ∀ c ∈ key.head?, c ∉ [(91 : UInt8), 35, 59]

theorem KeyOk.bufAt {key : Bytes} (h : KeyOk key) (rest : Bytes) : bufAt (key ++ rest) 0 ∉ [(91 : UInt8), 35, 59] := by
  obtain ⟨a, _, ha, _⟩ := h.trimmed
  obtain ⟨r, rfl⟩ := List.head?_eq_some_iff.mp ha
  exact h.head a rfl

theorem KeyOk.run {key pre : Bytes} (h : KeyOk key) (hpre : AllSpace pre) :
    key ++ pre ≠ [] ∧ ∀ x ∈ key ++ pre, x ∉ [(61 : UInt8)] := by
  refine ⟨fun e => h.trimmed.ne_nil (List.append_eq_nil_iff.mp e).1, fun x hx => ?_⟩
  rcases List.mem_append.mp hx with hx | hx
  · exact h.no61 x hx
  · exact hpre.avoids [61] (by decide) x hx

theorem stepLine_entry (skip : Bool) (st : PState) (key pre post value trail tail : Bytes) (q : IniSpec.Quote) (hkey : KeyOk key)
    (hpre : AllSpace pre) (hpost : AllSpace post) (htr : AllSpace trail) (hv : ValueOk q value) (ht : Tail trail tail)
    (hlen : (key ++ (pre ++ 61 :: post) ++ (q.bytes ++ value ++ q.bytes) ++ tail).length ≤ maxLine) :
    stepLine skip st (key ++ (pre ++ 61 :: post) ++ (q.bytes ++ value ++ q.bytes) ++ tail)
      = addKey st (key, storedValue q value) := by
  have e : key ++ (pre ++ 61 :: post) ++ (q.bytes ++ value ++ q.bytes) ++ tail
      = (key ++ pre) ++ 61 :: (post ++ (q.bytes ++ value ++ q.bytes ++ tail)) := by
    simp only [List.append_assoc, List.cons_append]
  rw [e] at hlen ⊢
  obtain ⟨rawv, hvc, hst⟩ := value_cascade q value trail tail htr hv ht
  have hR : ∀ c ∈ (q.bytes ++ value ++ q.bytes ++ tail).head?, isSpace c = false := by
    obtain ⟨a, _, ha, _, hsa, _⟩ := trimmed_quoted q value hv
    intro c hc
    rw [List.head?_append, ha, Option.some_or] at hc
    exact Option.some.inj hc ▸ hsa
  have hcas := kvCascade_key valuePatterns (key ++ pre) post _ (hkey.run hpre).1 (hkey.run hpre).2 hpost hR
  rw [← kvPatterns_eq, hvc] at hcas
  rw [stepLine_kv skip st _ _ rawv (List.append_assoc key pre _ ▸ hkey.bufAt _) hlen hcas,
    chomp_of_trimmed_append key pre hkey.trimmed hpre, hst]

theorem stepLine_noValue (skip : Bool) (st : PState) (key pre blanks tail : Bytes) (hkey : KeyOk key) (hpre : AllSpace pre)
    (hbl : AllSpace blanks) (ht : Tail blanks tail) : stepLine skip st (key ++ pre ++ [61] ++ tail) = st := by
  obtain ⟨post, R, hpost, hR, rfl⟩ : ∃ post R, AllSpace post ∧ (∀ c ∈ R.head?, c ∈ [(59 : UInt8), 35]) ∧ tail = post ++ R := by
    rcases ht with rfl | ⟨m, u, rfl, hm⟩
    · exact ⟨[], [], allSpace_nil, nofun, rfl⟩
    · exact ⟨blanks, m :: u, hbl, fun c hc => Option.some.inj hc ▸ hm, rfl⟩
  have hRs : ∀ c ∈ R.head?, isSpace c = false := fun c hc => marker_not_space (hR c hc)
  have hcas := kvCascade_key valuePatterns (key ++ pre) post R (hkey.run hpre).1 (hkey.run hpre).2 hpost hRs
  rw [← kvPatterns_eq, valueCascade_none R hR] at hcas
  rw [List.append_assoc (key ++ pre), List.singleton_append]
  refine stepLine_none skip st _ (fun e => ?_) hcas
  have := List.append_assoc key pre _ ▸ hkey.bufAt (pre ++ 61 :: (post ++ R))
  exact this (by rw [e]; simp)

theorem stepLine_header (skip : Bool) (st : PState) (pre name post : Bytes) (hpre : AllSpace pre) (hpost : AllSpace post)
    (hname : Trimmed name) (h93 : ∀ x ∈ name, x ∉ [(93 : UInt8)]) (hlen : name.length ≤ maxLine) :
    stepLine skip st (91 :: (pre ++ name ++ post ++ [93])) =
      { sections := pushSection st, cur := some { name := name, keys := [] } } := by
  have hscan : scan patSection (91 :: (pre ++ name ++ post ++ [93])) = [pre ++ name ++ post] := by
    rw [patSection, scan_lit_eq]
    refine scan_notIn [93] [] (pre ++ name ++ post) [93] (fun e => hname.ne_nil ?_) ?_ (by simp)
    · exact (List.append_eq_nil_iff.mp (List.append_eq_nil_iff.mp e).1).2
    · intro x hx
      simp only [List.mem_append] at hx
      rcases hx with (hx | hx) | hx
      · exact hpre.avoids [93] (by decide) x hx
      · exact h93 x hx
      · exact hpost.avoids [93] (by decide) x hx
  have hlast : (91 :: (pre ++ name ++ post ++ [93])).getLast? = some 93 :=
    List.getLast?_eq_some_iff.mpr ⟨91 :: (pre ++ name ++ post), rfl⟩
  rw [stepLine, hscan, hlast, if_pos (by rfl)]
  simp only [List.getD_cons_zero, chomp_sandwich pre name post hpre hpost hname, clip_of_le name hlen]

/-- blanks, a trimmed block, blanks, perhaps a comment, the line end: what is left is the block and, if there is a
comment, the blanks before it and the comment without the blanks at its end -/
theorem chomp_line (lead Y trail cm eol : Bytes) (hlead : AllSpace lead) (hY : Trimmed Y) (htrail : AllSpace trail)
    (hcm : cm = [] ∨ ∃ m text, cm = m :: text ∧ m ∈ [(59 : UInt8), 35]) (heol : AllSpace eol) :
    ∃ tail, Tail trail tail ∧ chomp (lead ++ Y ++ trail ++ cm ++ eol) = Y ++ tail := by
  rcases hcm with rfl | ⟨m, text, rfl, hm⟩
  · refine ⟨[], Or.inl rfl, ?_⟩
    rw [List.append_nil, List.append_nil, List.append_assoc (lead ++ Y)]
    exact chomp_sandwich lead Y (trail ++ eol) hlead (htrail.append heol) hY
  · obtain ⟨u, t, hw, ht, hmu⟩ := trimmed_cons_decomp m (text ++ eol) (marker_not_space hm)
    refine ⟨trail ++ m :: u, Or.inr ⟨m, u, rfl, hm⟩, ?_⟩
    have hsplit : lead ++ Y ++ trail ++ m :: text ++ eol = lead ++ (Y ++ trail ++ m :: u) ++ t := by
      simp only [List.append_assoc, List.cons_append, hw]
    rw [hsplit, ← List.append_assoc Y]
    exact chomp_sandwich lead _ t hlead ht (hY.append trail hmu)

/-- the zeroed buffer read byte by byte: testing for the bytes of a mark is the prefix test, except that a zero at the
end of the mark would also be found behind the end of a shorter line -/
theorem isPrefixOf_cons_eq (a : UInt8) (m L : Bytes) (h : a ≠ 0 ∨ m ≠ []) :
    (a :: m).isPrefixOf L = (bufAt L 0 == a && m.isPrefixOf (L.drop 1)) := by
  cases L with
  | nil =>
    rcases h with h | h
    · simp [bufAt, List.isPrefixOf, Ne.symm h]
    · cases m with
      | nil => exact absurd rfl h
      | cons b m => simp [List.isPrefixOf]
  | cons y L => simp [bufAt, List.isPrefixOf, BEq.comm (a := a) (b := y)]

theorem bufAt_drop (L : Bytes) (k i : Nat) : bufAt (L.drop k) i = bufAt L (k + i) := by
  simp [bufAt, List.getD_eq_getElem?_getD]

/-- a line that starts with none of the marks passes none of the tests: the first three are the prefix tests, the
fourth (UTF-32 LE, the only mark that ends in zeros) implies the second -/
theorem bomShift_none (L : Bytes) (h : IniSpec.startsWithBom L = false) : bomShift L = 0 := by
  simp (disch := decide) only [IniSpec.startsWithBom, Bool.or_eq_false_iff, isPrefixOf_cons_eq, bufAt_drop,
    List.isPrefixOf, Bool.and_true, ← Bool.and_assoc] at h
  obtain ⟨⟨⟨⟨h1, h2⟩, h3⟩, h4⟩, _⟩ := h
  unfold bomShift
  simp only [h1, h2, h3, h4, Bool.false_and, Bool.or_self, Bool.false_eq_true, if_false]

theorem bomShift_mark (b : IniSpec.Bom) (L : Bytes) (h : b ≠ .none ∨ IniSpec.startsWithBom L = false) :
    bomShift (b.bytes ++ L) = b.bytes.length := by
  cases b with
  | none => exact bomShift_none L (h.resolve_left fun h => h rfl)
  | _ => rfl

theorem lineOf_eq (pfx L : Bytes) (hsh : bomShift (pfx ++ L) = pfx.length) (h0 : ∀ x ∈ L, x ≠ 0)
    (hlen : L.length ≤ maxLine) : lineOf (pfx ++ L) = chomp L := by
  have hc : cstr L = L := takeWhile_all _ L (fun x hx => by simpa using h0 x hx)
  rw [lineOf, hsh, List.drop_left, hc]
  exact clip_of_le _ (Nat.le_trans (chomp_length_le L) hlen)

theorem kvCascade_nil : kvCascade kvPatterns [] = none := by decide

theorem step_nil (skip : Bool) (st : PState) : step skip st [] = st :=
  stepLine_none skip st [] (by decide) kvCascade_nil

theorem splitAux_line (L : Nat) (x rest cur : Bytes) (n : Nat) (hx : ∀ b ∈ x, b ≠ 10)
    (hlen : n + x.length + 1 ≤ L) :
    splitAux L (x ++ 10 :: rest) cur n = (cur.reverse ++ x ++ [10]) :: splitAux L rest [] 0 := by
  induction x generalizing cur n with
  | nil => simp [splitAux]
  | cons b x ih =>
    have hb : (b == 10) = false := beq_false_of_ne (hx b (by simp))
    simp only [List.length_cons] at hlen
    have hn : ¬ (n + 1 ≥ L) := by omega
    simp only [List.cons_append, splitAux, hb, hn, decide_false, Bool.or_self, Bool.false_eq_true, if_false]
    rw [ih (b :: cur) (n + 1) (fun y hy => hx y (by simp [hy])) (by omega)]
    simp

theorem splitAux_last (L : Nat) (x cur : Bytes) (n : Nat) (hx : ∀ b ∈ x, b ≠ 10) (hlen : n + x.length ≤ L) :
    splitAux L x cur n = if (cur.reverse ++ x).isEmpty then [] else [cur.reverse ++ x] := by
  induction x generalizing cur n with
  | nil => cases cur <;> simp [splitAux]
  | cons b x ih =>
    have hb : (b == 10) = false := beq_false_of_ne (hx b (by simp))
    simp only [List.length_cons] at hlen
    by_cases hn : n + 1 ≥ L
    · have hx0 : x = [] := List.eq_nil_of_length_eq_zero (by omega)
      subst hx0
      simp [splitAux, hn]
    · simp only [splitAux, hb, hn, decide_false, Bool.or_self, Bool.false_eq_true, if_false]
      rw [ih (b :: cur) (n + 1) (fun y hy => hx y (by simp [hy])) (by omega)]
      simp

/-- ends in a newline and has no other -/
def IsLine (l : Bytes) : Prop := ∃ x, l = x ++ [10] ∧ ∀ b ∈ x, b ≠ 10

/-- physical lines: each at most `L` bytes, all but possibly the last newline-terminated -/
def LinesOk (L : Nat) : List Bytes → Prop
  | [] => True
  | [l] => l.length ≤ L ∧ (IsLine l ∨ ∀ b ∈ l, b ≠ 10)
  | l :: l2 :: rest => l.length ≤ L ∧ IsLine l ∧ LinesOk L (l2 :: rest)

theorem split_lines (L : Nat) (ls : List Bytes) (h : LinesOk L ls) :
    splitAux L ls.flatten [] 0 = ls.filter (fun c => !c.isEmpty) := by
  induction ls with
  | nil => simp [splitAux]
  | cons l rest ih =>
    cases rest with
    | nil =>
      obtain ⟨hlen, hl | hl⟩ := h
      · obtain ⟨x, hx, hx10⟩ := hl
        subst hx
        have := splitAux_line L x [] [] 0 hx10 (by simp at hlen; omega)
        simp only [List.flatten_cons, List.flatten_nil, List.append_nil]
        have e : x ++ [10] = x ++ 10 :: [] := rfl
        rw [e, this]
        simp [splitAux]
      · have := splitAux_last L l [] 0 hl (by omega)
        simp only [List.flatten_cons, List.flatten_nil, List.append_nil, this]
        cases l <;> simp
    | cons l2 rest' =>
      obtain ⟨hlen, ⟨x, hx, hx10⟩, hrest⟩ := h
      subst hx
      have := splitAux_line L x (l2 :: rest').flatten [] 0 hx10 (by simp at hlen; omega)
      have e : ((x ++ [10]) :: l2 :: rest').flatten = x ++ 10 :: (l2 :: rest').flatten := by simp
      rw [e, this, ih hrest]
      simp

/-- an empty chunk (there is none: `fgets` returned NULL) would change nothing -/
theorem foldl_filter_step (skip : Bool) (ls : List Bytes) (st : PState) :
    (ls.filter (fun c => !c.isEmpty)).foldl (step skip) st = ls.foldl (step skip) st := by
  induction ls generalizing st with
  | nil => rfl
  | cons l rest ih =>
    cases l with
    | nil =>
      simp only [List.filter_cons, List.isEmpty_nil, Bool.not_true, Bool.false_eq_true, if_false, List.foldl_cons,
        step_nil]
      exact ih st
    | cons b l' =>
      simp only [List.filter_cons, List.isEmpty_cons, Bool.not_false, if_true, List.foldl_cons]
      exact ih _

end PV.Ini
