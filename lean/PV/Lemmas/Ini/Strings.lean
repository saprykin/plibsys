import PV.Model.Ini
import PV.Spec.Ini
/-! Byte strings as `pstring.c` and the modelled libc functions treat them (C16): white space at the two ends
(`p_strchomp` is `IniSpec.trim`), the `p_strtok` loop, decimal numerals, brace lists. -/
namespace PV.Ini

theorem takeWhile_run {α} (p : α → Bool) (a R : List α) (ha : ∀ x ∈ a, p x = true)
    (hR : ∀ c ∈ R.head?, p c = false) : (a ++ R).takeWhile p = a := by
  rw [List.takeWhile_append_of_pos ha]
  cases R with
  | nil => exact List.append_nil a
  | cons c t => rw [List.takeWhile_cons_of_neg (by simp [hR c rfl]), List.append_nil]

theorem dropWhile_run {α} (p : α → Bool) (a R : List α) (ha : ∀ x ∈ a, p x = true)
    (hR : ∀ c ∈ R.head?, p c = false) : (a ++ R).dropWhile p = R := by
  rw [List.dropWhile_append_of_pos ha]
  cases R with
  | nil => rfl
  | cons c t => exact List.dropWhile_cons_of_neg (by simp [hR c rfl])

theorem takeWhile_stop {α} (p : α → Bool) (a : List α) (c : α) (t : List α)
    (ha : ∀ x ∈ a, p x = true) (hc : p c = false) : (a ++ c :: t).takeWhile p = a :=
  takeWhile_run p a (c :: t) ha (by simpa using hc)

theorem takeWhile_all {α} (p : α → Bool) (a : List α) (ha : ∀ x ∈ a, p x = true) : a.takeWhile p = a := by
  simpa using takeWhile_run p a [] ha (by simp)

theorem dropWhile_stop {α} (p : α → Bool) (a : List α) (c : α) (t : List α)
    (ha : ∀ x ∈ a, p x = true) (hc : p c = false) : (a ++ c :: t).dropWhile p = c :: t :=
  dropWhile_run p a (c :: t) ha (by simpa using hc)

theorem dropWhile_all {α} (p : α → Bool) (a : List α) (ha : ∀ x ∈ a, p x = true) : a.dropWhile p = [] := by
  simpa using dropWhile_run p a [] ha (by simp)

theorem mem_takeWhile_true {α} (p : α → Bool) (l : List α) (x : α) (h : x ∈ l.takeWhile p) : p x = true :=
  List.all_eq_true.mp List.all_takeWhile x h

theorem drop_length_takeWhile {α} (p : α → Bool) (l : List α) : l.drop (l.takeWhile p).length = l.dropWhile p := by
  conv => lhs; arg 2; rw [← List.takeWhile_append_dropWhile (p := p) (l := l)]
  exact List.drop_left

def AllSpace (s : Bytes) : Prop := ∀ x ∈ s, isSpace x = true

/-- first and last byte exist and are not white space -/
def Trimmed (s : Bytes) : Prop :=
  ∃ a b, s.head? = some a ∧ s.getLast? = some b ∧ isSpace a = false ∧ isSpace b = false

theorem allSpace_nil : AllSpace [] := fun _ h => nomatch h

theorem AllSpace.append {a b : Bytes} (ha : AllSpace a) (hb : AllSpace b) : AllSpace (a ++ b) :=
  fun x hx => (List.mem_append.mp hx).elim (ha x) (hb x)

theorem AllSpace.reverse {a : Bytes} (ha : AllSpace a) : AllSpace a.reverse :=
  fun x hx => ha x (List.mem_reverse.mp hx)

theorem AllSpace.not_mem {t : Bytes} (ht : AllSpace t) (c : UInt8) (hc : isSpace c = false) : c ∉ t :=
  fun h => Bool.false_ne_true (hc.symm.trans (ht c h))

theorem AllSpace.avoids {t : Bytes} (ht : AllSpace t) (set : Bytes) (hset : ∀ c ∈ set, isSpace c = false) :
    ∀ x ∈ t, x ∉ set :=
  fun x hx hm => ht.not_mem x (hset x hm) hx

theorem AllSpace.no0 {s : Bytes} (h : AllSpace s) : ∀ x ∈ s, x ≠ 0 :=
  fun x hx e => h.not_mem 0 (by decide) (e ▸ hx)

theorem Trimmed.ne_nil {s : Bytes} (h : Trimmed s) : s ≠ [] := by
  obtain ⟨a, _, ha, _⟩ := h
  intro e; subst e; simp at ha

theorem trimmed_singleton {a : UInt8} (ha : isSpace a = false) : Trimmed [a] := ⟨a, a, rfl, rfl, ha, ha⟩

/-- only the two ends matter -/
theorem Trimmed.append {A B : Bytes} (hA : Trimmed A) (mid : Bytes) (hB : Trimmed B) : Trimmed (A ++ mid ++ B) := by
  obtain ⟨a, _, ha, _, hsa, _⟩ := hA
  obtain ⟨_, b, _, hb, _, hsb⟩ := hB
  exact ⟨a, b, by simp [ha], by simp [hb], hsa, hsb⟩

/-- any string is a block that does not end in a blank, followed by blanks -/
theorem rtrim_decomp (u : Bytes) :
    ∃ u' t, u = u' ++ t ∧ AllSpace t ∧ (u' = [] ∨ ∃ y, u'.getLast? = some y ∧ isSpace y = false) := by
  refine ⟨(u.reverse.dropWhile isSpace).reverse, (u.reverse.takeWhile isSpace).reverse, ?_, ?_, ?_⟩
  · rw [← List.reverse_append, List.takeWhile_append_dropWhile, List.reverse_reverse]
  · exact AllSpace.reverse fun x hx => mem_takeWhile_true _ _ x hx
  · cases h : u.reverse.dropWhile isSpace with
    | nil => exact Or.inl rfl
    | cons y r =>
      have := List.head?_dropWhile_not isSpace u.reverse
      rw [h] at this
      exact Or.inr ⟨y, by simp, by simpa using this⟩

theorem trimmed_cons_decomp (m : UInt8) (w : Bytes) (hm : isSpace m = false) :
    ∃ u t, w = u ++ t ∧ AllSpace t ∧ Trimmed (m :: u) := by
  obtain ⟨u, t, hw, ht, hu⟩ := rtrim_decomp w
  refine ⟨u, t, hw, ht, ?_⟩
  rcases hu with rfl | ⟨y, hy, hsy⟩
  · exact trimmed_singleton hm
  · exact ⟨m, y, rfl, by rw [List.getLast?_cons, hy]; rfl, hm, hsy⟩

/-! The two loops of `chompStart` / `chompEnd` stop at the first non-blank byte or when the index runs out; with the
end index written `d + 1` (the string is not empty) both are a `min`. -/

theorem chompStart_eq (s : Bytes) (p d : Nat) :
    chompStart s p (p + d + 1) = p + min (s.takeWhile isSpace).length d := by
  induction s generalizing p d with
  | nil => rfl
  | cons c cs ih =>
    rw [chompStart, List.takeWhile_cons]
    cases isSpace c
    · simp
    · cases d with
      | zero => simp
      | succ d =>
        have hlt : p + 1 < p + (d + 1) + 1 := by omega
        have h := ih (p + 1) d
        rw [show p + 1 + d + 1 = p + (d + 1) + 1 by omega] at h
        simp only [hlt, decide_true, Bool.and_true, if_true, h, List.length_cons, Nat.succ_min_succ]
        omega

theorem chompEnd_eq (r : Bytes) (d : Nat) :
    chompEnd r (d + 1) = d + 1 - min (r.takeWhile isSpace).length d := by
  induction r generalizing d with
  | nil => rfl
  | cons c cs ih =>
    rw [chompEnd, List.takeWhile_cons]
    cases isSpace c
    · simp
    · cases d with
      | zero => simp
      | succ d =>
        have hlt : d + 1 + 1 > 1 := by omega
        simp only [hlt, decide_true, Bool.and_true, if_true, Nat.add_sub_cancel, ih, List.length_cons,
          Nat.succ_min_succ]
        omega

/-- blanks, a block that starts and ends with a non-blank byte, blanks: `p_strchomp` returns the block -/
theorem chomp_sandwich (lead Y t : Bytes) (hl : AllSpace lead) (ht : AllSpace t) (hY : Trimmed Y) :
    chomp (lead ++ Y ++ t) = Y := by
  obtain ⟨a, b, ha, hb, hsa, hsb⟩ := hY
  obtain ⟨Y', rfl⟩ := List.head?_eq_some_iff.mp ha
  obtain ⟨Y'', hY⟩ := List.getLast?_eq_some_iff.mp hb
  have h1 : (lead ++ a :: Y' ++ t).takeWhile isSpace = lead := by
    rw [List.append_assoc, List.cons_append]
    exact takeWhile_stop isSpace lead a _ hl hsa
  have h2 : (lead ++ a :: Y' ++ t).reverse.takeWhile isSpace = t.reverse := by
    rw [hY]
    simp only [List.reverse_append, List.reverse_cons, List.nil_append, List.append_assoc, List.cons_append]
    exact takeWhile_stop isSpace t.reverse b _ ht.reverse hsb
  have hlen : (lead ++ a :: Y' ++ t).length = lead.length + Y''.length + t.length + 1 := by
    rw [hY]; simp only [List.length_append, List.length_cons, List.length_nil]; omega
  have hblock : lead.length + Y''.length + t.length + 1 - t.length - lead.length = (a :: Y').length := by
    rw [hY, List.length_append, List.length_singleton]; omega
  have hs := chompStart_eq (lead ++ a :: Y' ++ t) 0 (lead.length + Y''.length + t.length)
  rw [Nat.zero_add, Nat.zero_add, h1, Nat.min_eq_left (by omega)] at hs
  have hget : (lead ++ a :: Y' ++ t).getD lead.length 0 = a := by simp [List.getD_eq_getElem?_getD]
  unfold chomp
  simp only [hlen, hs, chompEnd_eq, h2, List.length_reverse, hget, hsa, Bool.and_false, Bool.false_eq_true, if_false]
  rw [Nat.min_eq_left (by omega), if_neg (by omega), hblock, List.append_assoc, List.drop_left, List.take_left]

theorem chomp_allSpace (t : Bytes) (ht : AllSpace t) : chomp t = [] := by
  cases t with
  | nil => rfl
  | cons x r =>
    have hs := chompStart_eq (x :: r) 0 r.length
    rw [Nat.zero_add, Nat.zero_add, takeWhile_all _ _ ht, List.length_cons, Nat.min_eq_right (by omega)] at hs
    have hx : isSpace x = true := ht x (by simp)
    unfold chomp
    simp only [List.length_cons, hs, chompEnd_eq, takeWhile_all _ _ ht.reverse, List.length_reverse]
    rw [Nat.min_eq_right (by omega)]
    cases r with
    | nil => simp [hx]
    | cons y r => rw [if_pos (by simp only [List.length_cons]; omega)]

theorem chomp_of_trimmed_append (s t : Bytes) (h : Trimmed s) (ht : AllSpace t) : chomp (s ++ t) = s :=
  chomp_sandwich [] s t allSpace_nil ht h

theorem chomp_of_trimmed {s : Bytes} (h : Trimmed s) : chomp s = s := by
  have := chomp_of_trimmed_append s [] h allSpace_nil
  rwa [List.append_nil] at this

theorem chomp_trimmed (y0 y1 : UInt8) (Y' Y'' : Bytes) (hy0 : isSpace y0 = false) (hy1 : isSpace y1 = false)
    (hY : y0 :: Y' = Y'' ++ [y1]) : chomp (y0 :: Y') = y0 :: Y' :=
  chomp_of_trimmed ⟨y0, y1, rfl, List.getLast?_eq_some_iff.mpr ⟨Y'', hY⟩, hy0, hy1⟩

/-- blanks, the trimmed string, blanks; the trimmed string is empty or has non-blank ends -/
theorem trim_decomp (s : Bytes) :
    ∃ l t, AllSpace l ∧ AllSpace t ∧ s = l ++ IniSpec.trim s ++ t ∧ (IniSpec.trim s = [] ∨ Trimmed (IniSpec.trim s)) := by
  obtain ⟨u', t, hu, ht, hu'⟩ := rtrim_decomp (s.dropWhile isSpace)
  have htrim : IniSpec.trim s = u' := by
    show ((s.dropWhile isSpace).reverse.dropWhile isSpace).reverse = u'
    rw [hu, List.reverse_append]
    rcases hu' with rfl | ⟨y, hy, hsy⟩
    · rw [List.reverse_nil, List.append_nil, dropWhile_all _ _ ht.reverse]; rfl
    · obtain ⟨ys, rfl⟩ := List.getLast?_eq_some_iff.mp hy
      rw [List.reverse_append, List.reverse_singleton, List.singleton_append,
        dropWhile_stop isSpace _ y _ ht.reverse hsy, List.reverse_cons, List.reverse_reverse]
  refine ⟨s.takeWhile isSpace, t, fun x hx => mem_takeWhile_true _ _ x hx, ht, ?_, ?_⟩
  · rw [htrim, List.append_assoc, ← hu, List.takeWhile_append_dropWhile]
  · rw [htrim]
    rcases hu' with rfl | ⟨y, hy, hsy⟩
    · exact Or.inl rfl
    · -- the block is not empty, so its first byte is the first of `s.dropWhile isSpace`: not a blank
      right
      have hhead := List.head?_dropWhile_not isSpace s
      cases u' with
      | nil => simp at hy
      | cons a r =>
        rw [hu] at hhead
        exact ⟨a, y, rfl, hy, by simpa using hhead, hsy⟩

theorem chomp_eq_trim (s : Bytes) : chomp s = IniSpec.trim s := by
  obtain ⟨l, t, hl, ht, hs, hshape⟩ := trim_decomp s
  rcases hshape with h | h
  · rw [h]
    rw [h, List.append_nil] at hs
    rw [hs]
    exact chomp_allSpace _ (hl.append ht)
  · conv => lhs; rw [hs]
    exact chomp_sandwich l _ t hl ht h

theorem chomp_shape (s : Bytes) : chomp s = [] ∨ Trimmed (chomp s) := by
  rw [chomp_eq_trim]
  obtain ⟨_, _, _, _, _, h⟩ := trim_decomp s
  exact h

theorem chomp_idem (s : Bytes) : chomp (chomp s) = chomp s := by
  rcases chomp_shape s with h | h
  · rw [h]; rfl
  · exact chomp_of_trimmed h

theorem chomp_length_le (s : Bytes) : (chomp s).length ≤ s.length := by
  obtain ⟨l, t, _, _, hs, _⟩ := trim_decomp s
  rw [chomp_eq_trim]
  have := congrArg List.length hs
  simp only [List.length_append] at this
  omega

theorem chomp_subset (s : Bytes) : ∀ x ∈ chomp s, x ∈ s := by
  obtain ⟨l, t, _, _, hs, _⟩ := trim_decomp s
  intro x hx
  rw [chomp_eq_trim] at hx
  rw [hs]
  simp [hx]

section Strtok
open PV.IniSpec (tokensAux tokens)

theorem tokensAux_cur (isD : UInt8 → Bool) (s cur : Bytes) (hc : cur ≠ []) :
    tokensAux isD s cur = (cur.reverse ++ s.takeWhile (fun b => !isD b))
      :: tokensAux isD ((s.dropWhile (fun b => !isD b)).drop 1) [] := by
  have hce : cur.isEmpty = false := by cases cur <;> simp_all
  induction s generalizing cur with
  | nil => simp [tokensAux, hce]
  | cons b r ih =>
    cases hb : isD b with
    | true => simp [tokensAux, hb, hce]
    | false =>
      simp only [tokensAux, hb, Bool.false_eq_true, if_false]
      rw [ih (b :: cur) (by simp) rfl]
      simp [hb]

theorem tokensAux_skip (isD : UInt8 → Bool) (s : Bytes) :
    tokensAux isD s [] = tokensAux isD (s.dropWhile isD) [] := by
  induction s with
  | nil => rfl
  | cons b r ih =>
    cases hb : isD b with
    | true => simp [tokensAux, hb, ih]
    | false => simp [hb]

theorem tokensAux_start (isD : UInt8 → Bool) (b : UInt8) (r : Bytes) (hb : isD b = false) :
    tokensAux isD (b :: r) [] = (b :: r.takeWhile (fun b => !isD b))
      :: tokensAux isD ((r.dropWhile (fun b => !isD b)).drop 1) [] := by
  have := tokensAux_cur isD r [b] (by simp)
  simpa [tokensAux, hb] using this

/-- one call: skip delimiters, then the token is the run up to the next delimiter, which is consumed as well -/
theorem strtokR_eq (delim s : Bytes) :
    strtokR delim s = match s.dropWhile delim.contains with
      | [] => none
      | b :: r => some (b :: r.takeWhile (fun x => !delim.contains x), (r.dropWhile (fun x => !delim.contains x)).drop 1) := by
  unfold strtokR
  cases h : s.dropWhile delim.contains with
  | nil => rfl
  | cons b r =>
    have hb := List.head?_dropWhile_not delim.contains s
    rw [h] at hb
    have hb : (fun x => !delim.contains x) b = true := by simpa using hb
    simp only [List.isEmpty_cons, Bool.false_eq_true, if_false, List.length_cons, List.drop_succ_cons,
      List.takeWhile_cons_of_pos (p := fun x => !delim.contains x) (a := b) hb, drop_length_takeWhile]

theorem strtokLoop_eq_tokens (delim : Bytes) (n : Nat) (s : Bytes) (hn : s.length < n) :
    strtokLoop delim n s = tokens delim s := by
  induction n generalizing s with
  | zero => omega
  | succ n ih =>
    unfold tokens
    rw [tokensAux_skip, strtokLoop, strtokR_eq]
    have hlen := (List.dropWhile_sublist (l := s) delim.contains).length_le
    cases hs1 : s.dropWhile delim.contains with
    | nil => rfl
    | cons b r =>
      have hb := List.head?_dropWhile_not delim.contains s
      rw [hs1] at hb hlen
      rw [tokensAux_start _ b r (by simpa using hb)]
      have := (List.dropWhile_sublist (l := r) fun x => !delim.contains x).length_le
      simp only [List.length_cons] at hlen
      exact congrArg _ (ih _ (by simp only [List.length_drop]; omega))

theorem strtokR_token (delim s tok rest : Bytes) (h : strtokR delim s = some (tok, rest)) :
    tok ≠ [] ∧ (∀ b ∈ tok, delim.contains b = false) ∧ tok <+: s.dropWhile delim.contains ∧ rest.length < s.length := by
  rw [strtokR_eq] at h
  have hlen := (List.dropWhile_sublist (l := s) delim.contains).length_le
  have hb := List.head?_dropWhile_not delim.contains s
  cases hs1 : s.dropWhile delim.contains with
  | nil => simp [hs1] at h
  | cons b r =>
    rw [hs1] at h hb hlen
    have hb : (fun x => !delim.contains x) b = true := by simpa using hb
    simp only [Option.some.injEq, Prod.mk.injEq] at h
    obtain ⟨rfl, rfl⟩ := h
    refine ⟨by simp, ?_, ?_, ?_⟩
    · intro x hx
      have := mem_takeWhile_true (fun x => !delim.contains x) (b :: r) x
        (by rwa [List.takeWhile_cons_of_pos (p := fun x => !delim.contains x) (a := b) hb])
      simpa using this
    · rw [← List.takeWhile_cons_of_pos (p := fun x => !delim.contains x) (a := b) hb]
      exact List.takeWhile_prefix _
    · have := (List.dropWhile_sublist (l := r) fun x => !delim.contains x).length_le
      simp only [List.length_cons] at hlen
      simp only [List.length_drop]; omega

end Strtok

theorem atoiDigits_numeral (neg : Bool) (ds rest : Bytes) (hds : ∀ d ∈ ds, isDigit d = true)
    (hrest : ∀ r ∈ rest.head?, isDigit r = false) :
    atoiDigits neg (ds ++ rest) = match IniSpec.intValue neg ds with
      | some v => .val v
      | none => .overflow := by
  have htw : (ds ++ rest).takeWhile isDigit = ds := takeWhile_run isDigit ds rest hds hrest
  have hval : digitsValue ds = IniSpec.decimal ds := rfl
  unfold atoiDigits IniSpec.intValue
  simp only [htw, hval]
  split <;> (split <;> rfl)

theorem isSpace_of_isDigit {d : UInt8} (h : isDigit d = true) : isSpace d = false := by
  simp only [isDigit, Bool.and_eq_true, decide_eq_true_eq] at h
  simp only [isSpace, Bool.or_eq_false_iff, beq_eq_false_iff_ne, ne_eq, Bool.and_eq_false_iff,
    decide_eq_false_iff_not]
  refine ⟨?_, Or.inr ?_⟩
  · intro e; subst e; exact absurd h.1 (by decide)
  · intro e; exact absurd (UInt8.le_trans h.1 e) (by decide)

theorem atoi_numeral (ws : Bytes) (sign : Option Bool) (ds rest : Bytes) (hws : AllSpace ws)
    (hds : ∀ d ∈ ds, isDigit d = true) (hne : ds ≠ [])
    (hrest : ∀ r ∈ rest.head?, isDigit r = false) :
    atoi (ws ++ (match sign with | none => [] | some true => [45] | some false => [43]) ++ ds ++ rest)
      = match IniSpec.intValue (sign == some true) ds with
        | some v => .val v
        | none => .overflow := by
  obtain ⟨d0, ds', rfl⟩ := List.exists_cons_of_ne_nil hne
  have hd0 : isDigit d0 = true := hds d0 (by simp)
  unfold atoi
  match sign with
  | none =>
    -- no sign: the first digit is neither '-' nor '+'
    have hd45 : d0 ≠ 45 := by intro h; subst h; revert hd0; decide
    have hd43 : d0 ≠ 43 := by intro h; subst h; revert hd0; decide
    rw [List.append_nil, List.append_assoc, List.cons_append,
      dropWhile_stop isSpace ws d0 _ hws (isSpace_of_isDigit hd0)]
    split
    · rename_i h; injection h with h _; exact absurd h hd45
    · rename_i h; injection h with h _; exact absurd h hd43
    · exact atoiDigits_numeral false (d0 :: ds') rest hds hrest
  | some true =>
    rw [List.append_assoc, List.append_assoc, List.singleton_append, dropWhile_stop isSpace ws 45 _ hws (by decide)]
    exact atoiDigits_numeral true (d0 :: ds') rest hds hrest
  | some false =>
    rw [List.append_assoc, List.append_assoc, List.singleton_append, dropWhile_stop isSpace ws 43 _ hws (by decide)]
    exact atoiDigits_numeral false (d0 :: ds') rest hds hrest

theorem toBoolean_words :
    toBoolean strTrue = .val true ∧ toBoolean strTRUE = .val true ∧
    toBoolean strFalse = .val false ∧ toBoolean strFALSE = .val false ∧
    toBoolean [49] = .val true ∧ toBoolean [48] = .val false := by decide

theorem toBoolean_numeric (v : Bytes) (h1 : v ≠ strTrue) (h2 : v ≠ strTRUE) (h3 : v ≠ strFalse) (h4 : v ≠ strFALSE) :
    toBoolean v = match atoi v with
      | .val i => .val (decide (i > 0))
      | .overflow => .overflow := by
  unfold toBoolean
  rw [beq_false_of_ne h1, beq_false_of_ne h2, beq_false_of_ne h3, beq_false_of_ne h4]
  rfl

/-- a list item: no white space, NUL or closing brace inside -/
def ItemBytes (it : Bytes) : Prop := ∀ b ∈ it, isSpace b = false ∧ b ≠ 0 ∧ b ≠ 125

theorem not_end_of_isSpace {c : UInt8} (h : isSpace c = true) : (c == 0 || c == 125) = false := by
  rw [Bool.or_eq_false_iff, beq_eq_false_iff_ne, beq_eq_false_iff_ne]
  constructor <;> (intro e; subst e; revert h; decide)

theorem listLoop_item (it rest buf : Bytes) (acc : List Bytes) (h : ItemBytes it) :
    listLoop (it ++ rest) buf acc = listLoop rest (it.reverse ++ buf) acc := by
  induction it generalizing buf with
  | nil => rfl
  | cons c it ih =>
    obtain ⟨hs, h0, h125⟩ := h c (by simp)
    rw [List.cons_append, listLoop, beq_false_of_ne h0, beq_false_of_ne h125, hs,
      ih (c :: buf) (fun b hb => h b (by simp [hb]))]
    simp

theorem listLoop_spaces (ws rest : Bytes) (acc : List Bytes) (h : AllSpace ws) :
    listLoop (ws ++ rest) [] acc = listLoop rest [] acc := by
  induction ws with
  | nil => rfl
  | cons c ws ih =>
    have hs : isSpace c = true := h c (by simp)
    rw [List.cons_append, listLoop, not_end_of_isSpace hs, hs]
    exact ih (fun b hb => h b (by simp [hb]))

theorem listLoop_sep (sep rest buf : Bytes) (acc : List Bytes) (h : AllSpace sep) (hne : sep ≠ []) (hb : buf ≠ []) :
    listLoop (sep ++ rest) buf acc = listLoop rest [] (buf.reverse :: acc) := by
  obtain ⟨c, sep', rfl⟩ := List.exists_cons_of_ne_nil hne
  have hs : isSpace c = true := h c (by simp)
  have hbe : buf.isEmpty = false := by cases buf with | nil => exact absurd rfl hb | cons _ _ => rfl
  rw [List.cons_append, listLoop, not_end_of_isSpace hs, hs, hbe]
  exact listLoop_spaces sep' rest _ (fun b hb => h b (by simp [hb]))

theorem listLoop_items (items : List (Bytes × Bytes)) (last : Option Bytes) (acc : List Bytes)
    (hi : ∀ p ∈ items, p.1 ≠ [] ∧ ItemBytes p.1 ∧ p.2 ≠ [] ∧ AllSpace p.2)
    (hl : ∀ it ∈ last, it ≠ [] ∧ ItemBytes it) :
    listLoop ((items.flatMap fun p => p.1 ++ p.2) ++ (last.getD [] ++ [125])) [] acc
      = acc.reverse ++ items.map (·.1) ++ last.toList := by
  induction items generalizing acc with
  | nil =>
    cases last with
    | none => simp [listLoop]
    | some it =>
      obtain ⟨hne, hit⟩ := hl it (by simp)
      have hbe : it.reverse.isEmpty = false := by
        cases it with | nil => exact absurd rfl hne | cons _ _ => simp
      simp [listLoop_item it [125] [] acc hit, listLoop, hbe]
  | cons p rest ih =>
    obtain ⟨h1, h2, h3, h4⟩ := hi p (by simp)
    rw [List.flatMap_cons, List.append_assoc, List.append_assoc, listLoop_item p.1 _ [] acc h2, List.append_nil,
      listLoop_sep p.2 _ p.1.reverse acc h4 h3 (by simpa using h1), List.reverse_reverse,
      ih (p.1 :: acc) (fun q hq => hi q (by simp [hq]))]
    simp

/-- between the braces the length test and the brace tests of `toList` are passed, or there is nothing to read -/
theorem toList_braces (mid : Bytes) : toList (123 :: (mid ++ [125])) = listLoop (mid ++ [125]) [] [] := by
  have hlast : (123 :: (mid ++ [125])).getLast? = some 125 :=
    List.getLast?_eq_some_iff.mpr ⟨123 :: mid, rfl⟩
  cases mid with
  | nil => rfl
  | cons b mid =>
    rw [toList, hlast]
    simp only [List.length_cons, List.length_append, List.length_nil, bufAt, List.getD_cons_zero, bne_self_eq_false,
      Bool.or_false, decide_eq_true_eq, List.drop_succ_cons, List.drop_zero]
    exact if_neg (by omega)

theorem toList_listText (lead : Bytes) (items : List (Bytes × Bytes)) (last : Option Bytes) (hlead : AllSpace lead)
    (hi : ∀ p ∈ items, p.1 ≠ [] ∧ ItemBytes p.1 ∧ p.2 ≠ [] ∧ AllSpace p.2)
    (hl : ∀ it ∈ last, it ≠ [] ∧ ItemBytes it) :
    toList (IniSpec.listText lead items last) = items.map (·.1) ++ last.toList := by
  have hshape : IniSpec.listText lead items last
      = 123 :: ((lead ++ ((items.flatMap fun p => p.1 ++ p.2) ++ last.getD [])) ++ [125]) := by
    simp [IniSpec.listText, List.append_assoc]
  rw [hshape, toList_braces, List.append_assoc, List.append_assoc, listLoop_spaces lead _ [] hlead,
    listLoop_items items last [] hi hl]
  rfl

theorem flush_fits (buf : Bytes) (acc : List Bytes) (n : Nat) (hacc : ∀ it ∈ acc, it.length ≤ n) (hb : buf.length ≤ n) :
    ∀ it ∈ (if buf.isEmpty then acc else buf.reverse :: acc), it.length ≤ n := by
  intro it hit
  split at hit
  · exact hacc it hit
  · rcases List.mem_cons.mp hit with rfl | hit
    · rwa [List.length_reverse]
    · exact hacc it hit

theorem listLoop_fits (s buf : Bytes) (acc : List Bytes) (n : Nat) (hacc : ∀ it ∈ acc, it.length ≤ n)
    (hb : buf.length + s.length ≤ n) : ∀ it ∈ listLoop s buf acc, it.length ≤ n := by
  induction s generalizing buf acc with
  | nil => intro it hit; exact flush_fits buf acc n hacc hb it (by simpa [listLoop] using hit)
  | cons c cs ih =>
    intro it hit
    rw [listLoop] at hit
    rw [List.length_cons] at hb
    split at hit
    · exact flush_fits buf acc n hacc (by omega) it (by simpa using hit)
    · split at hit
      · exact ih (c :: buf) acc hacc (by rw [List.length_cons]; omega) it hit
      · exact ih [] _ (flush_fits buf acc n hacc (by omega)) (by simp only [List.length_nil]; omega) it hit

theorem toList_fits (v : Bytes) : ∀ it ∈ toList v, it.length ≤ v.length := by
  unfold toList
  split
  · intro it hit; simp at hit
  · exact listLoop_fits (v.drop 1) [] [] v.length (by intro it hit; simp at hit) (by simp)

end PV.Ini
