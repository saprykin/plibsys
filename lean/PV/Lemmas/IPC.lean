import PV.Lemmas.IPCCalls
/-!
The global state of the IPC model under one action.  `G.step` and `G.fail` are both `G.advance`
(the call in flight sees a result of its system call, performed or failed by script), `G.start` is
one of the five `Started` shapes; `exec_cases` reduces "every action keeps `P`" to these.  Then:
`Agree` (one counter per name), the counter equation, EINTR transparency, the binding of a segment name.
-/
namespace PV.IPC
open PV.Generated.IPC

/-- thread `t`'s call in flight `c` sees result `r` of its system call, which left the OS as `os'`:
    what `G.step` and `G.fail` have in common -/
def G.advance (g : G) (t : Tid) (c : Call) (os' : OS) (r : Res) : G where
  os := os'
  pidOf := g.pidOf
  hs := fun h => match c.after r with
    | .done (_, some (hid, x)) => if h = hid then some (g.pidOf t, x) else g.hs h
    | _ => g.hs h
  calls := fun t' => if t' = t then (match c.after r with | .cont c' => some c' | .done _ => none) else g.calls t'
  ret := fun t' => match c.after r with
    | .done (ret, _) => if t' = t then some ret else g.ret t'
    | .cont _ => g.ret t'
  log := ⟨t, g.pidOf t, c.next, r⟩ :: g.log

theorem step_none (g : G) (t : Tid) (i : Bool) (h : g.calls t = none) : g.step t i = g := by
  simp [G.step, h]

theorem fail_none (g : G) (t : Tid) (e : Errno) (h : g.calls t = none) : g.fail t e = g := by
  simp [G.fail, h]

theorem step_eq (g : G) (t : Tid) (i : Bool) (c : Call) (h : g.calls t = some c) :
    g.step t i = g.advance t c (sysStep (g.pidOf t) i c.next g.os).1 (sysStep (g.pidOf t) i c.next g.os).2 := by
  simp only [G.step, h, G.advance]
  cases c.after (sysStep (g.pidOf t) i c.next g.os).2 with
  | cont c' => rfl
  | done x => obtain ⟨ret, _ | ⟨hid, y⟩⟩ := x <;> rfl

theorem fail_eq (g : G) (t : Tid) (e : Errno) (c : Call) (h : g.calls t = some c) :
    g.fail t e = g.advance t c g.os (.err e) := by
  simp only [G.fail, h, G.advance]
  cases c.after (.err e) with
  | cont c' => rfl
  | done x => obtain ⟨ret, _ | ⟨hid, y⟩⟩ := x <;> rfl

variable {g : G} {t t' : Tid} {c c' : Call} {os' : OS} {r : Res}

theorem advance_os : (g.advance t c os' r).os = os' := rfl

theorem advance_pidOf : (g.advance t c os' r).pidOf = g.pidOf := rfl

theorem advance_calls_other (h : t' ≠ t) : (g.advance t c os' r).calls t' = g.calls t' := if_neg h

theorem advance_calls (h : (g.advance t c os' r).calls t' = some c') :
    (t' ≠ t ∧ g.calls t' = some c') ∨ (t' = t ∧ c.after r = .cont c') := by
  by_cases e : t' = t
  · refine .inr ⟨e, ?_⟩
    simp only [G.advance, e, if_true] at h
    split at h <;> cases h
    assumption
  · exact .inl ⟨e, by rwa [advance_calls_other e] at h⟩

theorem advance_hs (g : G) (t : Tid) (c : Call) (os' : OS) (r : Res) (h : Hid) :
    ((g.advance t c os' r).hs h = g.hs h ∧ ∀ ret x, c.after r ≠ .done (ret, some (h, x))) ∨
    ∃ ret x, c.after r = .done (ret, some (h, x)) ∧ (g.advance t c os' r).hs h = some (g.pidOf t, x) := by
  simp only [G.advance]
  split
  · rename_i ret hid x hd
    by_cases e : h = hid
    · subst e; exact .inr ⟨ret, x, hd, if_pos rfl⟩
    · refine .inl ⟨if_neg e, fun ret' x' hd' => e ?_⟩
      rw [hd] at hd'; cases hd'; rfl
  · rename_i hn
    exact .inl ⟨rfl, fun ret x hd => hn ret h x hd⟩

theorem fail_os (g : G) (t : Tid) (e : Errno) : (g.fail t e).os = g.os := by
  cases hc : g.calls t with
  | none => rw [fail_none g t e hc]
  | some c => rw [fail_eq g t e c hc]; rfl

theorem fail_hs (g : G) (t : Tid) (e : Errno) : (g.fail t e).hs = g.hs := by
  cases hc : g.calls t with
  | none => rw [fail_none g t e hc]
  | some c =>
    rw [fail_eq g t e c hc]
    funext h
    rcases advance_hs g t c g.os (.err e) h with ⟨e', _⟩ | ⟨ret, x, hd, _⟩
    · exact e'
    · exact absurd hd (c.after_err_no_handle e ret h x)

theorem kill_os (g : G) (p : Pid) : (g.kill p).os = g.os.kill p := rfl

theorem kill_semNames (g : G) (p : Pid) : (g.kill p).os.semNames = g.os.semNames := rfl
theorem kill_sems (g : G) (p : Pid) : (g.kill p).os.sems = g.os.sems := rfl
theorem kill_shmNames (g : G) (p : Pid) : (g.kill p).os.shmNames = g.os.shmNames := rfl
theorem kill_segs (g : G) (p : Pid) : (g.kill p).os.segs = g.os.segs := rfl

theorem kill_hs {g : G} {p q : Pid} {h : Hid} {x : Handle} (hx : (g.kill p).hs h = some (q, x)) :
    g.hs h = some (q, x) ∧ q ≠ p := by
  simp only [G.kill] at hx
  split at hx
  · rename_i q' x' hq
    split at hx <;> cases hx
    exact ⟨hq, ‹_›⟩
  · cases hx

theorem kill_calls {g : G} {p : Pid} {t : Tid} {c : Call} (hc : (g.kill p).calls t = some c) :
    g.calls t = some c ∧ g.pidOf t ≠ p := by
  simp only [G.kill] at hc
  split at hc
  · cases hc
  · exact ⟨hc, ‹_›⟩

theorem kill_procs_other (g : G) {p q : Pid} (h : q ≠ p) : (g.kill p).os.procs q = g.os.procs q := by
  simp [G.kill, OS.kill, OS.setProc, h]

/-- `p_semaphore_take_ownership` / `p_shm_take_ownership` on the struct -/
def Handle.owned : Handle → Handle
  | .sem s => .sem { s with created := true }
  | .shm s => .shm { s with created := true, sem := { s.sem with created := true } }

/-- the call `p_semaphore_free` / `p_shm_free` begins with -/
def Handle.freeCall : Handle → Call
  | .sem s => .semFree ⟨s, .close⟩
  | .shm s => .shmFree ⟨s, .munmap⟩

/-- a call as `G.start` begins it: before its first system call, nothing acquired yet -/
def Call.initial : Call → Prop
  | .semNew _ s => s.pc = .excl
  | .shmNew _ st => st.pc = .excl ∧ st.created = false ∧ st.addr = none ∧ st.size = st.req
  | .acquire _ | .release _ => True
  | .semFree _ | .shmFree _ => False

theorem handleOf_some {g : G} {t : Tid} {h : Hid} {x : Handle} (hx : g.handleOf t h = some x) :
    g.hs h = some (g.pidOf t, x) := by
  unfold G.handleOf at hx
  split at hx
  · rename_i p y hy
    split at hx <;> cases hx
    rename_i hp; subst hp; exact hy
  · cases hx

/-- what `G.start` can do: refuse or answer at once, begin a call, take ownership, begin a free
    (the handle leaves the table), store a byte -/
inductive Started (g : G) (t : Tid) : G → Prop
  | ret (r : Ret) : Started g t (g.setRet t r)
  | call (c : Call) : c.initial → Started g t (g.setCall t (some c))
  | own (h : Hid) (x : Handle) : g.hs h = some (g.pidOf t, x) →
      Started g t ((g.setHandle h (some (g.pidOf t, x.owned))).setRet t .unit)
  | free (h : Hid) (x : Handle) : g.hs h = some (g.pidOf t, x) →
      Started g t ((g.setHandle h none).setCall t (some x.freeCall))
  | store (segs' : SegId → Seg) : (∀ s, (segs' s).bytes.length = (g.os.segs s).bytes.length) →
      Started g t ({ g with os := { g.os with segs := segs' } }.setRet t .unit)

theorem start_cases (g : G) (t : Tid) (op : Op) : Started g t (g.start t op) := by
  unfold G.start
  split
  · exact .ret _
  · cases op with
    | newSem h k init m => simp only; split <;> first | exact .ret _ | exact .call _ rfl
    | newShm h k size ro => simp only; split <;> first | exact .ret _ | exact .call _ ⟨rfl, rfl, rfl, rfl⟩
    | acq h => simp only; split <;> first | exact .ret _ | exact .call _ trivial
    | rel h => simp only; split <;> first | exact .ret _ | exact .call _ trivial
    | lock h => simp only; split <;> first | exact .ret _ | exact .call _ trivial
    | unlock h => simp only; split <;> first | exact .ret _ | exact .call _ trivial
    | own h => simp only; split <;> first | exact .ret _ | exact .own h _ (handleOf_some ‹_›)
    | free h => simp only; split <;> first | exact .ret _ | exact .free h _ (handleOf_some ‹_›)
    | size h => simp only; split <;> exact .ret _
    | rd h off => simp only; split <;> (try split) <;> exact .ret _
    | wr h off b =>
      simp only
      split
      · split
        · obtain ⟨segs', rfl, hl⟩ := store_segs ‹_›
          exact .store segs' hl
        · exact .ret _
      · exact .ret _

/-- starting a call touches the OS only by a store: bytes of an object, not their number -/
theorem start_os (g : G) (t : Tid) (op : Op) :
    ∃ segs', (g.start t op).os = { g.os with segs := segs' } ∧ ∀ s, (segs' s).bytes.length = (g.os.segs s).bytes.length := by
  have hs := start_cases g t op
  generalize g.start t op = g' at hs
  cases hs with
  | store segs' hl => exact ⟨segs', rfl, hl⟩
  | _ => exact ⟨_, rfl, fun _ => rfl⟩

theorem start_log (g : G) (t : Tid) (op : Op) : (g.start t op).log = g.log := by
  have hs := start_cases g t op
  generalize g.start t op = g' at hs
  cases hs <;> rfl

theorem start_pidOf (g : G) (t : Tid) (op : Op) : (g.start t op).pidOf = g.pidOf := by
  have hs := start_cases g t op
  generalize g.start t op = g' at hs
  cases hs <;> rfl

theorem start_calls_other (g : G) (t : Tid) (op : Op) (t' : Tid) (h : t' ≠ t) : (g.start t op).calls t' = g.calls t' := by
  have hs := start_cases g t op
  generalize g.start t op = g' at hs
  cases hs <;> first | rfl | exact if_neg h

theorem start_calls {g : G} {t t' : Tid} {op : Op} {c : Call} (h : (g.start t op).calls t' = some c) :
    g.calls t' = some c ∨ c.initial ∨ ∃ hid x, g.hs hid = some (g.pidOf t, x) ∧ c = x.freeCall := by
  have hs := start_cases g t op
  generalize g.start t op = g' at hs h
  cases hs with
  | call c0 hc =>
    simp only [G.setCall] at h
    split at h
    · cases h; exact .inr (.inl hc)
    · exact .inl h
  | free hid x hx =>
    simp only [G.setCall, G.setHandle] at h
    split at h
    · cases h; exact .inr (.inr ⟨hid, x, hx, rfl⟩)
    · exact .inl h
  | _ => exact .inl h

/-- a handle present after `start` was there before, possibly with ownership taken -/
theorem start_hs {g : G} {t : Tid} {op : Op} {h : Hid} {p : Pid} {x : Handle}
    (hx : (g.start t op).hs h = some (p, x)) :
    g.hs h = some (p, x) ∨ ∃ x0, g.hs h = some (p, x0) ∧ x = x0.owned := by
  have hs := start_cases g t op
  generalize g.start t op = g' at hs hx
  cases hs with
  | own h0 x0 h0x =>
    simp only [G.setRet, G.setHandle] at hx
    split at hx
    · cases hx; rename_i e; subst e; exact .inr ⟨x0, h0x, rfl⟩
    · exact .inl hx
  | free h0 x0 _ =>
    simp only [G.setCall, G.setHandle] at hx
    split at hx
    · cases hx
    · exact .inl hx
  | _ => exact .inl hx

/-- to show that a property holds after an action, consider: nothing happens, `start`, `kill`, and a
    call in flight seeing the result of its next system call (performed, or failed by script) -/
theorem exec_cases {P : G → Prop} {g : G} (a : Action) (idle : P g)
    (start : ∀ t op, P (g.start t op)) (kill : ∀ p, P (g.kill p))
    (advance : ∀ t c os' r, g.calls t = some c → SysEffect (g.pidOf t) g.os c.next os' r → P (g.advance t c os' r)) :
    P (exec g a) := by
  cases a with
  | start t op => exact start t op
  | kill p => exact kill p
  | step t i =>
    show P (g.step t i)
    cases hc : g.calls t with
    | none => rw [step_none g t i hc]; exact idle
    | some c => rw [step_eq g t i c hc]; exact advance t c _ _ hc (sysStep_effect ..)
  | fail t e =>
    show P (g.fail t e)
    cases hc : g.calls t with
    | none => rw [fail_none g t e hc]; exact idle
    | some c => rw [fail_eq g t e c hc]; exact advance t c _ _ hc (.fails _ e)

theorem execAll_invariant {P : G → Prop} (step : ∀ g a, P g → P (exec g a)) (as : List Action) :
    ∀ g, P g → P (execAll g as) := by
  induction as with
  | nil => exact fun _ h => h
  | cons a as ih => exact fun g h => ih _ (step g a h)

/-- can this creation in flight still unlink key `k`?  (CREATE mode, or already on the CREATE path) -/
def SemNewSt.mayUnlink (s : SemNewSt) (k : SemKey) : Prop :=
  s.key = k ∧ (s.mode = .create ∨ s.pc = .unlink ∨ s.pc = .recreate)

/-- can this clean-up in flight still unlink key `k`?  (an owner's handle) -/
def SemFreeSt.mayUnlink (s : SemFreeSt) (k : SemKey) : Prop :=
  s.h.key = k ∧ (s.h.created = true ∨ s.pc = .unlink)

/-- the call in flight is not about to remove the name `k`: no CREATE-mode open of `k`
    and no owner free of `k` is at its semaphore steps -/
def Call.quiet (k : SemKey) : Call → Prop
  | .semNew _ s => ¬ s.mayUnlink k
  | .semFree s => ¬ s.mayUnlink k
  | .shmNew _ s => match s.pc with
    | .sem st => ¬ st.mayUnlink k
    | _ => True
  | .shmFree s => match s.pc with
    | .sem st => ¬ st.mayUnlink k
    | _ => True
  | _ => True

def Quiet (k : SemKey) (g : G) : Prop := ∀ t c, g.calls t = some c → c.quiet k

theorem quiet_of_idle (k : SemKey) (g : G) (h : ∀ t, g.calls t = none) : Quiet k g := by
  intro t c hc; rw [h t] at hc; cases hc

/-- name `k` is bound to object `o` and every live handle of `k` (also the lock handles inside
    PShm structs) refers to `o`: they all share the one counter `sems o` -/
def Agree (k : SemKey) (o : ObjId) (g : G) : Prop :=
  g.os.semNames k = some o ∧
  (∀ h p x, g.hs h = some (p, .sem x) → x.key = k → x.obj = o) ∧
  (∀ h p y, g.hs h = some (p, .shm y) → y.sem.key = k → y.sem.obj = o)

/-- does a handle refer to object `o` if it is a handle of key `k`? -/
def Handle.agrees (k : SemKey) (o : ObjId) : Handle → Prop
  | .sem x => x.key = k → x.obj = o
  | .shm y => y.sem.key = k → y.sem.obj = o

theorem agree_iff (k : SemKey) (o : ObjId) (g : G) :
    Agree k o g ↔ g.os.semNames k = some o ∧ ∀ h p x, g.hs h = some (p, x) → x.agrees k o :=
  ⟨fun ⟨h1, h2, h3⟩ => ⟨h1, fun h p x hx => match x with | .sem y => h2 h p y hx | .shm y => h3 h p y hx⟩,
   fun ⟨h1, h2⟩ => ⟨h1, fun h p x hx => h2 h p (.sem x) hx, fun h p y hy => h2 h p (.shm y) hy⟩⟩

theorem owned_agrees {k : SemKey} {o : ObjId} {x : Handle} (h : x.agrees k o) : x.owned.agrees k o := by
  cases x <;> exact h

variable {p : Pid} {os : OS} {k : SemKey} {o : ObjId}

/-- a system call of a `p_semaphore_new` that may not unlink `k` keeps the binding of `k`; a handle of
    `k` it returns comes from a `sem_open` that found `k` bound, so it refers to the same object -/
theorem semNew_effect_agree {s : SemNewSt} (hE : SysEffect p os s.next os' r)
    (hk : os.semNames k = some o) (hq : ¬ s.mayUnlink k) :
    os'.semNames k = some o ∧ ∀ hd, s.after r = .done (.ok hd) → hd.key = k → hd.obj = o := by
  by_cases hkey : s.key = k
  · obtain ⟨key, mode, init, pc⟩ := s
    subst hkey
    simp only [SemNewSt.mayUnlink, true_and, not_or] at hq
    have hos : os' = os ∧ ∀ o', r = .ok o' → o' = o := by
      cases pc with
      | unlink => exact absurd rfl hq.2.1
      | recreate => exact absurd rfl hq.2.2
      | _ =>
        cases hE with
        | fails => exact ⟨rfl, nofun⟩
        | semOpened _ _ _ _ o' ho' => exact ⟨rfl, fun _ e => by cases e; rw [hk] at ho'; cases ho'; rfl⟩
        | semCreated _ _ _ _ hn => rw [hk] at hn; cases hn
    refine ⟨hos.1 ▸ hk, fun hd hdone _ => ?_⟩
    obtain ⟨o', b, rfl, rfl⟩ := SemNewSt.after_done hdone
    exact hos.2 o' rfl
  · refine ⟨(hE.semNames_frame k (by rw [s.next_key]; exact fun e => hkey (Option.some.inj e))).trans hk, ?_⟩
    intro hd hdone hdk
    obtain ⟨o', b, _, rfl⟩ := SemNewSt.after_done hdone
    exact absurd hdk hkey

theorem semFree_effect_agree {s : SemFreeSt} (hE : SysEffect p os s.next os' r)
    (hk : os.semNames k = some o) (hq : ¬ s.mayUnlink k) : os'.semNames k = some o := by
  refine (hE.semNames_frame k ?_).trans hk
  obtain ⟨h, pc⟩ := s
  cases pc
  · exact nofun
  · exact fun e => hq ⟨Option.some.inj e, .inr rfl⟩

/-- one system call of any call that is `quiet` keeps the binding of `k`, and a handle it returns agrees -/
theorem call_effect_agree (hE : SysEffect p os c.next os' r) (hk : os.semNames k = some o) (hq : c.quiet k) :
    os'.semNames k = some o ∧ ∀ ret hid x, c.after r = .done (ret, some (hid, x)) → x.agrees k o := by
  have noHandle : os'.semNames k = some o → (∀ ret hid x, c.after r ≠ .done (ret, some (hid, x))) →
      os'.semNames k = some o ∧ ∀ ret hid x, c.after r = .done (ret, some (hid, x)) → x.agrees k o :=
    fun h1 h2 => ⟨h1, fun ret hid x hx => absurd hx (h2 ret hid x)⟩
  have frame : c.next.semKey? = none → os'.semNames k = some o :=
    fun e => (hE.semNames_frame k (by rw [e]; exact nofun)).trans hk
  cases c with
  | semNew hid s =>
    have := semNew_effect_agree hE hk hq
    refine ⟨this.1, fun ret hid' x hx => ?_⟩
    rcases Call.after_done hx with ⟨s', z, e, hz, rfl⟩ | ⟨_, _, e, _⟩ <;> cases e
    exact this.2 z hz
  | semFree s =>
    refine noHandle (semFree_effect_agree hE hk hq) fun ret hid x hx => ?_
    rcases Call.after_done hx with ⟨_, _, e, _⟩ | ⟨_, _, e, _⟩ <;> cases e
  | acquire h =>
    refine noHandle (frame rfl) fun ret hid x hx => ?_
    rcases Call.after_done hx with ⟨_, _, e, _⟩ | ⟨_, _, e, _⟩ <;> cases e
  | release h =>
    refine noHandle (frame rfl) fun ret hid x hx => ?_
    rcases Call.after_done hx with ⟨_, _, e, _⟩ | ⟨_, _, e, _⟩ <;> cases e
  | shmNew hid st =>
    cases hpc : st.pc with
    | sem s =>
      simp only [Call.quiet, hpc] at hq
      have := semNew_effect_agree (s := s) (by simpa only [Call.next, ShmNewSt.next, hpc] using hE) hk hq
      refine ⟨this.1, fun ret hid' x hx => ?_⟩
      rcases Call.after_done hx with ⟨_, _, e, _⟩ | ⟨st', y, e, hy, rfl⟩ <;> cases e
      obtain ⟨s', ps, hpc', hps, rfl⟩ := ShmNewSt.after_done hy
      rw [hpc] at hpc'; cases hpc'
      exact this.2 ps hps
    | _ =>
      refine noHandle (frame (by simp only [Call.next, ShmNewSt.next, hpc]; rfl)) fun ret hid' x hx => ?_
      rcases Call.after_done hx with ⟨_, _, e, _⟩ | ⟨st', y, e, hy, rfl⟩ <;> cases e
      obtain ⟨s', ps, hpc', _⟩ := ShmNewSt.after_done hy
      rw [hpc] at hpc'; cases hpc'
  | shmFree st =>
    refine noHandle ?_ fun ret hid x hx => by rcases Call.after_done hx with ⟨_, _, e, _⟩ | ⟨_, _, e, _⟩ <;> cases e
    cases hpc : st.pc with
    | sem s =>
      simp only [Call.quiet, hpc] at hq
      exact semFree_effect_agree (s := s) (by simpa only [Call.next, ShmFreeSt.next, hpc] using hE) hk hq
    | _ => exact frame (by simp only [Call.next, ShmFreeSt.next, hpc]; rfl)

/-- any action of anybody preserves `Agree` as long as no call in flight is about to unlink `k` -/
theorem agree_exec (k : SemKey) (o : ObjId) (g : G) (a : Action) (h : Agree k o g) (hq : Quiet k g) :
    Agree k o (exec g a) := by
  rw [agree_iff] at h ⊢
  obtain ⟨hn, hh⟩ := h
  refine exec_cases (P := fun g' => g'.os.semNames k = some o ∧ ∀ h p x, g'.hs h = some (p, x) → x.agrees k o)
    a ⟨hn, hh⟩ ?_ ?_ ?_
  · intro t op
    obtain ⟨segs', e, _⟩ := start_os g t op
    refine ⟨by rw [e]; exact hn, fun h' p x hx => ?_⟩
    rcases start_hs hx with h0 | ⟨x0, h0, rfl⟩
    · exact hh h' p x h0
    · exact owned_agrees (hh h' p x0 h0)
  · exact fun p => ⟨hn, fun h' q x hx => hh h' q x (kill_hs hx).1⟩
  · intro t c os' r hc hE
    have := call_effect_agree hE hn (hq t c hc)
    refine ⟨this.1, fun h' p x hx => ?_⟩
    rcases advance_hs g t c os' r h' with ⟨e, _⟩ | ⟨ret, y, hd, e⟩ <;> rw [e] at hx
    · exact hh h' p x hx
    · cases hx; exact this.2 ret h' _ hd

/-- no call that may unlink `k` is in flight before any action of the schedule -/
def QuietRun (k : SemKey) : G → List Action → Prop
  | _, [] => True
  | g, a :: as => Quiet k g ∧ QuietRun k (exec g a) as

theorem agree_execAll (k : SemKey) (o : ObjId) (as : List Action) :
    ∀ g, Agree k o g → QuietRun k g as → Agree k o (execAll g as) := by
  induction as with
  | nil => intro g h _; exact h
  | cons a as ih => exact fun g h hq => ih (exec g a) (agree_exec k o g a h hq.1) hq.2

def isAcq (o : ObjId) (e : Ev) : Bool := decide (e.sys = .semWait o ∧ e.res = .ok 0)
def isRel (o : ObjId) (e : Ev) : Bool := decide (e.sys = .semPost o ∧ e.res = .ok 0)

/-- successful acquisitions / releases of object `o` recorded in a log -/
def acquired (o : ObjId) (log : List Ev) : Nat :=
  (log.filter fun e => decide (e.sys = .semWait o ∧ e.res = .ok 0)).length

def released (o : ObjId) (log : List Ev) : Nat :=
  (log.filter fun e => decide (e.sys = .semPost o ∧ e.res = .ok 0)).length

theorem acquired_append (o : ObjId) (l1 l2 : List Ev) : acquired o (l1 ++ l2) = acquired o l1 + acquired o l2 := by
  simp [acquired, List.filter_append]

theorem released_append (o : ObjId) (l1 l2 : List Ev) : released o (l1 ++ l2) = released o l1 + released o l2 := by
  simp [released, List.filter_append]

/- `acquired` / `released` count the events that `isAcq` / `isRel` accept (the same test, written out) -/
theorem acquired_cons (o : ObjId) (e : Ev) (l : List Ev) :
    acquired o (e :: l) = acquired o l + (if isAcq o e then 1 else 0) := by
  simp only [acquired, isAcq, List.filter_cons]
  split <;> simp_all

theorem released_cons (o : ObjId) (e : Ev) (l : List Ev) :
    released o (e :: l) = released o l + (if isRel o e then 1 else 0) := by
  simp only [released, isRel, List.filter_cons]
  split <;> simp_all

theorem acquired_one (o : ObjId) (e : Ev) : acquired o [e] = if e.sys = .semWait o ∧ e.res = .ok 0 then 1 else 0 := by
  simp only [acquired, List.filter_cons, List.filter_nil, decide_eq_true_eq]; split <;> rfl

theorem released_one (o : ObjId) (e : Ev) : released o [e] = if e.sys = .semPost o ∧ e.res = .ok 0 then 1 else 0 := by
  simp only [released, List.filter_cons, List.filter_nil, decide_eq_true_eq]; split <;> rfl

theorem counter_exec (g : G) (a : Action) (o : ObjId) (ho : o < g.os.nextObj) :
    ∃ evs, (exec g a).log = evs ++ g.log ∧
      ((exec g a).os.sems o).value + acquired o evs = (g.os.sems o).value + released o evs ∧
      o < (exec g a).os.nextObj := by
  refine exec_cases (P := fun g' => ∃ evs, g'.log = evs ++ g.log ∧
    (g'.os.sems o).value + acquired o evs = (g.os.sems o).value + released o evs ∧ o < g'.os.nextObj)
    a ⟨[], rfl, rfl, ho⟩ ?_ (fun p => ⟨[], rfl, rfl, ho⟩) ?_
  · intro t op
    obtain ⟨segs', e, _⟩ := start_os g t op
    exact ⟨[], start_log g t op, by rw [e]; rfl, by rw [e]; exact ho⟩
  · intro t c os' r hc hE
    refine ⟨[⟨t, g.pidOf t, c.next, r⟩], rfl, ?_, Nat.lt_of_lt_of_le ho hE.nextObj_le⟩
    rw [acquired_one, released_one]
    exact hE.value o ho

/-- the same along a schedule: with `evs` the events the schedule adds to the log,
    `value after + acquired evs = value before + released evs` -/
theorem counter_execAll (o : ObjId) (as : List Action) :
    ∀ g, o < g.os.nextObj → ∃ evs, (execAll g as).log = evs ++ g.log ∧
      ((execAll g as).os.sems o).value + acquired o evs = (g.os.sems o).value + released o evs := by
  induction as with
  | nil => exact fun g _ => ⟨[], rfl, rfl⟩
  | cons a as ih =>
    intro g ho
    obtain ⟨e1, l1, v1, ho1⟩ := counter_exec g a o ho
    obtain ⟨e2, l2, v2⟩ := ih (exec g a) ho1
    refine ⟨e2 ++ e1, by rw [show execAll g (a :: as) = execAll (exec g a) as from rfl, l2, l1, List.append_assoc], ?_⟩
    rw [show execAll g (a :: as) = execAll (exec g a) as from rfl, acquired_append, released_append]
    omega

/-- `runCall` is unfolded only when the state of the thread's slot is known: a proof that does not
    match the code gets stuck at once instead of unfolding symbolic runs -/
theorem runCall_none (g : G) (t : Tid) (sc : List Nat) (fuel : Nat) (h : g.calls t = none) : runCall g t sc fuel = g := by
  cases fuel <;> simp [runCall, h]

theorem runCall_some (g : G) (t : Tid) (sc : List Nat) (fuel : Nat) (c : Call) (h : g.calls t = some c) :
    runCall g t sc (fuel + 1) =
      (match (((List.replicate (if c.next.interruptible then sc.headD 0 else 0) (Action.step t true)).foldl exec g).step t false).log with
       | ⟨_, _, _, .block⟩ :: _ =>
         ((List.replicate (if c.next.interruptible then sc.headD 0 else 0) (Action.step t true)).foldl exec g).step t false
       | _ => runCall (((List.replicate (if c.next.interruptible then sc.headD 0 else 0) (Action.step t true)).foldl exec g).step t false) t sc.tail fuel) := by
  rw [runCall]
  simp only [h]
  rfl

/-- equal up to the ghost log -/
def G.Same (g g' : G) : Prop :=
  g.os = g'.os ∧ g.pidOf = g'.pidOf ∧ g.hs = g'.hs ∧ g.calls = g'.calls ∧ g.ret = g'.ret

theorem G.Same.refl (g : G) : g.Same g := ⟨rfl, rfl, rfl, rfl, rfl⟩

theorem G.Same.trans {a b c : G} (h1 : a.Same b) (h2 : b.Same c) : a.Same c :=
  ⟨h1.1.trans h2.1, h1.2.1.trans h2.2.1, h1.2.2.1.trans h2.2.2.1, h1.2.2.2.1.trans h2.2.2.2.1, h1.2.2.2.2.trans h2.2.2.2.2⟩

theorem G.Same.advance {g g' : G} (h : g.Same g') (t : Tid) (c : Call) (os' : OS) (r : Res) :
    (g.advance t c os' r).Same (g'.advance t c os' r) := by
  obtain ⟨_, h2, h3, h4, h5⟩ := h
  exact ⟨rfl, h2, by simp only [G.advance, h2, h3], by simp only [G.advance, h4], by simp only [G.advance, h5]⟩

theorem step_intr_same (g : G) (t : Tid) (c : Call) (hc : g.calls t = some c) (hi : c.next.interruptible = true) :
    (g.step t true).Same g := by
  have hs : sysStep (g.pidOf t) true c.next g.os = (g.os, .err .EINTR) := by simp [sysStep, hi]
  rw [step_eq g t true c hc, hs]
  refine ⟨rfl, rfl, ?_, ?_, ?_⟩ <;> funext x <;> simp only [G.advance, c.after_eintr hi]
  split
  · rename_i e; rw [e, hc]
  · rfl

theorem intr_steps_same (n : Nat) : ∀ (g : G) (t : Tid) (c : Call), g.calls t = some c → c.next.interruptible = true →
    ((List.replicate n (Action.step t true)).foldl exec g).Same g := by
  induction n with
  | zero => intro g t c _ _; exact G.Same.refl g
  | succ n ih =>
    intro g t c hc hi
    have h1 := step_intr_same g t c hc hi
    exact (ih (g.step t true) t c (by rw [h1.2.2.2.1]; exact hc) hi).trans h1

theorem runCall_same (fuel : Nat) : ∀ (g g' : G) (t : Tid) (sc : List Nat), g.Same g' →
    (runCall g t sc fuel).Same (runCall g' t [] fuel) := by
  induction fuel with
  | zero => intro g g' t sc h; exact h
  | succ f ih =>
    intro g g' t sc h
    cases hc : g.calls t with
    | none => rw [runCall_none g t sc _ hc, runCall_none g' t [] _ (h.2.2.2.1 ▸ hc)]; exact h
    | some c =>
      have hc' : g'.calls t = some c := h.2.2.2.1 ▸ hc
      rw [runCall_some g t sc f c hc, runCall_some g' t [] f c hc']
      simp only [List.headD_nil, ite_self, List.replicate_zero, List.foldl_nil, List.tail_nil]
      generalize hn : (if c.next.interruptible = true then sc.headD 0 else 0) = n
      -- the interrupted attempts leave the state as it was, up to the log
      have h1 : ((List.replicate n (Action.step t true)).foldl exec g).Same g' := by
        refine G.Same.trans ?_ h
        by_cases hi : c.next.interruptible = true
        · exact intr_steps_same n g t c hc hi
        · rw [if_neg hi] at hn; subst hn; exact G.Same.refl g
      generalize (List.replicate n (Action.step t true)).foldl exec g = g1 at h1
      rw [step_eq g1 t false c (h1.2.2.2.1 ▸ hc'), step_eq g' t false c hc', h1.1, h1.2.1]
      generalize sysStep (g'.pidOf t) false c.next g'.os = x
      obtain ⟨os', R⟩ := x
      cases R with
      | block => exact h1.advance t c os' _
      | ok v => exact ih _ _ t sc.tail (h1.advance t c os' _)
      | err e => exact ih _ _ t sc.tail (h1.advance t c os' _)

/-- Whatever EINTR results the script injects into a sequential call, the state it ends in is that of
    the uninterrupted call, up to the ghost log. -/
theorem eintr_transparent (g : G) (t : Tid) (op : Op) (script : List Nat) :
    (g.call t op script).Same (g.call t op []) :=
  runCall_same seqFuel _ _ t script (G.Same.refl _)

/-- no step of the schedule is a `shm_unlink (k)` -/
def NoShmUnlink (k : ShmKey) : G → List Action → Prop
  | _, [] => True
  | g, a :: as =>
    (match a with
     | .step t _ => ∀ c, g.calls t = some c → c.next ≠ .shmUnlink k
     | _ => True) ∧ NoShmUnlink k (exec g a) as

theorem shm_binding_exec {k : ShmKey} {s : SegId} {g : G} {a : Action} {as : List Action}
    (h : g.os.shmNames k = some s) (hq : NoShmUnlink k g (a :: as)) : (exec g a).os.shmNames k = some s := by
  cases a with
  | start t op => obtain ⟨segs', e, _⟩ := start_os g t op; show (g.start t op).os.shmNames k = _; rw [e]; exact h
  | kill p => exact h
  | fail t e =>
    show (g.fail t e).os.shmNames k = _
    cases hc : g.calls t with
    | none => rw [fail_none g t e hc]; exact h
    | some c => rw [fail_eq g t e c hc]; exact h
  | step t i =>
    show (g.step t i).os.shmNames k = _
    cases hc : g.calls t with
    | none => rw [step_none g t i hc]; exact h
    | some c => rw [step_eq g t i c hc]; exact (sysStep_effect ..).shmNames_bound h (hq.1 c hc)

theorem shm_binding_execAll (k : ShmKey) (s : SegId) (as : List Action) :
    ∀ g, g.os.shmNames k = some s → NoShmUnlink k g as → (execAll g as).os.shmNames k = some s := by
  induction as with
  | nil => intro g h _; exact h
  | cons a as ih => exact fun g h hq => ih (exec g a) (shm_binding_exec h hq) hq.2

end PV.IPC
