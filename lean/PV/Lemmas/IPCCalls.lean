import PV.Lemmas.IPCSys
/-!
The library calls of the IPC model as machines: what `after` can do, read backwards.  For each call
one inversion lemma for "the call goes on" and one for "the call returns a handle"; the invariants
over schedules are proved by cases on these.
-/
namespace PV.IPC
open PV.Generated.IPC

theorem SemNewSt.after_cont {s s' : SemNewSt} {r : Res} (h : s.after r = .cont s') : s' = { s with pc := s'.pc } := by
  unfold SemNewSt.after at h
  split at h
  case h_3 => split at h <;> cases h <;> rfl
  all_goals cases h <;> rfl

theorem SemNewSt.after_done {s : SemNewSt} {r : Res} {x : PSem} (h : s.after r = .done (.ok x)) :
    ∃ o b, r = .ok o ∧ x = s.handle b o := by
  unfold SemNewSt.after at h
  split at h
  case h_3 => split at h <;> cases h
  all_goals cases h <;> exact ⟨_, _, rfl, rfl⟩

/-- an interrupted `sem_open` is simply issued again (every call site sits in a retry loop) -/
theorem SemNewSt.after_eintr (s : SemNewSt) (h : s.next.interruptible = true) : s.after (.err .EINTR) = .cont s := by
  obtain ⟨key, mode, init, pc⟩ := s
  cases pc <;> first | rfl | cases h

theorem SemNewSt.next_key (s : SemNewSt) : s.next.semKey? = some s.key := by
  obtain ⟨key, mode, init, pc⟩ := s
  cases pc <;> rfl

theorem SemFreeSt.after_cont {s s' : SemFreeSt} {r : Res} (h : s.after r = .cont s') : s'.h = s.h := by
  unfold SemFreeSt.after at h
  split at h
  · split at h <;> cases h
    rfl
  · cases h

theorem SemFreeSt.next_key (s : SemFreeSt) : s.next.semKey? = none ∨ s.next.semKey? = some s.h.key := by
  obtain ⟨h, pc⟩ := s
  cases pc
  · left; rfl
  · right; rfl

/-- the size recorded for (and reported by) a handle opened on an existing segment of `L` bytes -/
def repSize (req L : Nat) : Nat := if req = 0 ∨ L < req then L else req

theorem existingSize_eq (req L : Nat) : existingSize req L = repSize req L := by
  simp [existingSize, repSize, shmKeepSmallerRequest]

theorem clampSize_rep (req L : Nat) : clampSize req (repSize req L) = repSize req L := by
  simp only [clampSize, repSize, shmNewClamp]
  split <;> simp_all
  omega

theorem clampSize_self (n : Nat) : clampSize n n = n := by simp [clampSize]

theorem repSize_le (req L : Nat) : repSize req L ≤ L := by
  simp only [repSize]; split <;> omega

theorem repSize_ne_zero (req L : Nat) (h : L ≠ 0) : repSize req L ≠ 0 := by
  simp only [repSize]; split <;> omega


/-- the control flow of `pp_shm_create_handle`: `st.after r = .cont st'`, transition by transition -/
inductive ShmNewSt.Next (st : ShmNewSt) : Res → ShmNewSt → Prop
  | retry : st.pc = .excl ∨ st.pc = .open → Next st (.err .EINTR) st
  | created (fd : Nat) : st.pc = .excl → Next st (.ok fd) { st with created := true, pc := .ftrunc fd }
  | found : st.pc = .excl → Next st (.err .EEXIST) { st with isExists := true, pc := .open }
  | opened (fd : Nat) : st.pc = .open → Next st (.ok fd) { st with pc := .fstat fd }
  | sized (fd n : Nat) : st.pc = .fstat fd → Next st (.ok n) { st with size := existingSize st.size n, pc := .mmap fd }
  | truncated (fd v : Nat) : st.pc = .ftrunc fd → Next st (.ok v) { st with pc := .mmap fd }
  | mapped (fd a : Nat) : st.pc = .mmap fd → Next st (.ok a) { st with addr := some a, pc := .close fd }
  | failed (fd : Nat) (e : Errno) : st.pc = .fstat fd ∨ st.pc = .ftrunc fd ∨ st.pc = .mmap fd →
      Next st (.err e) { st with pc := .fClose fd e }
  | closed (fd : Nat) (r : Res) : st.pc = .close fd →
      Next st r { st with pc := .sem { key := .lock st.key, mode := lockMode st.isExists, init := shmLockInit, pc := .excl } }
  | sem (s s' : SemNewSt) (r : Res) : st.pc = .sem s → s.after r = .cont s' → Next st r { st with pc := .sem s' }
  | unmap (e : Errno) (r : Res) : (∃ s, st.pc = .sem s) ∨ (∃ fd, st.pc = .fClose fd e) → st.addr.isSome = true →
      Next st r { st with pc := .fMunmap e }
  | unlink (e : Errno) (r : Res) : (∃ s, st.pc = .sem s) ∨ (∃ fd, st.pc = .fClose fd e) ∨ st.pc = .fMunmap e →
      st.created = true → Next st r { st with pc := .fUnlink e }

theorem ShmNewSt.next_of_cleanFrom {st st' : ShmNewSt} {e : Errno} {b : Bool} (r : Res)
    (h : st.cleanFrom e b = .cont st')
    (hb : b = false → (∃ s, st.pc = .sem s) ∨ (∃ fd, st.pc = .fClose fd e)) (ht : b = true → st.pc = .fMunmap e) :
    st.Next r st' := by
  unfold ShmNewSt.cleanFrom at h
  split at h
  · rename_i hc
    cases h
    cases b
    · exact .unmap e r (hb rfl) (by simpa using hc)
    · simp at hc
  · split at h
    · rename_i hc
      cases h
      cases b
      · exact .unlink e r (by rcases hb rfl with h | h; exact .inl h; exact .inr (.inl h)) hc
      · exact .unlink e r (.inr (.inr (ht rfl))) hc
    · cases h

/-- the cases are the arms of `ShmNewSt.after`, in its order -/
theorem ShmNewSt.next_of_after {st st' : ShmNewSt} {r : Res} (h : st.after r = .cont st') : st.Next r st' := by
  unfold ShmNewSt.after at h
  split at h
  case h_1 hpc => cases h; exact .created _ hpc
  case h_2 hpc => cases h; exact .retry (.inl hpc)
  case h_3 hpc => cases h; exact .found hpc
  case h_5 hpc => cases h; exact .opened _ hpc
  case h_6 hpc => cases h; exact .retry (.inr hpc)
  case h_8 hpc => cases h; exact .sized _ _ hpc
  case h_9 hpc => cases h; exact .failed _ _ (.inl hpc)
  case h_10 hpc => cases h; exact .truncated _ _ hpc
  case h_11 hpc => cases h; exact .failed _ _ (.inr (.inl hpc))
  case h_12 hpc => cases h; exact .mapped _ _ hpc
  case h_13 hpc => cases h; exact .failed _ _ (.inr (.inr hpc))
  case h_14 hpc => cases h; exact .closed _ _ hpc
  case h_15 hpc =>
    split at h
    · cases h; exact .sem _ _ _ hpc ‹_›
    · cases h
    · exact next_of_cleanFrom _ h (fun _ => .inl ⟨_, hpc⟩) (fun e => by cases e)
  case h_16 hpc => exact next_of_cleanFrom _ h (fun _ => .inr ⟨_, hpc⟩) (fun e => by cases e)
  case h_17 hpc => exact next_of_cleanFrom _ h (fun e => by cases e) (fun _ => hpc)
  all_goals cases h

theorem ShmNewSt.cleanFrom_ne_ok (st : ShmNewSt) (e : Errno) (b : Bool) (y : PShm) : st.cleanFrom e b ≠ .done (.ok y) := by
  unfold ShmNewSt.cleanFrom
  split
  · exact fun h => nomatch h
  · split <;> exact fun h => nomatch h

theorem ShmNewSt.after_done {st : ShmNewSt} {r : Res} {y : PShm} (h : st.after r = .done (.ok y)) :
    ∃ s ps, st.pc = .sem s ∧ s.after r = .done (.ok ps) ∧
      y = { created := st.created, key := st.key, addr := st.addr.getD 0, size := clampSize st.req st.size,
            sem := ps, ro := st.ro } := by
  unfold ShmNewSt.after at h
  split at h
  case h_15 hpc =>
    split at h
    · cases h
    · cases h; exact ⟨_, _, hpc, ‹_›, rfl⟩
    · exact absurd h (cleanFrom_ne_ok _ _ _ _)
  case h_16 => exact absurd h (cleanFrom_ne_ok _ _ _ _)
  case h_17 => exact absurd h (cleanFrom_ne_ok _ _ _ _)
  all_goals cases h

theorem ShmFreeSt.after_cont {st st' : ShmFreeSt} {r : Res} (h : st.after r = .cont st') :
    st'.h = st.h ∧ st'.pc ≠ .munmap ∧
    ∀ s', st'.pc = .sem s' → s'.h = st.h.sem ∨ ∃ s0, st.pc = .sem s0 ∧ s'.h = s0.h := by
  unfold ShmFreeSt.after at h
  split at h
  · split at h <;> cases h
    · exact ⟨rfl, nofun, nofun⟩
    · exact ⟨rfl, nofun, fun s' e => by cases e; exact .inl rfl⟩
  · cases h; exact ⟨rfl, nofun, fun s' e => by cases e; exact .inl rfl⟩
  · rename_i s0 hpc
    split at h <;> cases h
    rename_i s1 hs1
    exact ⟨rfl, nofun, fun s' e => by cases e; exact .inr ⟨s0, hpc, SemFreeSt.after_cont hs1⟩⟩

theorem Call.after_cont_shmNew {c : Call} {r : Res} {hid : Hid} {st' : ShmNewSt}
    (h : c.after r = .cont (.shmNew hid st')) : ∃ st, c = .shmNew hid st ∧ st.after r = .cont st' := by
  cases c <;> simp only [Call.after] at h <;> split at h <;> cases h
  exact ⟨_, rfl, ‹_›⟩

theorem Call.after_cont_shmFree {c : Call} {r : Res} {st' : ShmFreeSt}
    (h : c.after r = .cont (.shmFree st')) : ∃ st, c = .shmFree st ∧ st.after r = .cont st' := by
  cases c <;> simp only [Call.after] at h <;> split at h <;> cases h
  exact ⟨_, rfl, ‹_›⟩

theorem Call.after_done {c : Call} {r : Res} {ret : Ret} {hid : Hid} {x : Handle}
    (h : c.after r = .done (ret, some (hid, x))) :
    (∃ s z, c = .semNew hid s ∧ s.after r = .done (.ok z) ∧ x = .sem z) ∨
    (∃ st y, c = .shmNew hid st ∧ st.after r = .done (.ok y) ∧ x = .shm y) := by
  cases c <;> simp only [Call.after] at h <;> split at h <;> cases h
  · exact .inl ⟨_, _, rfl, ‹_›, rfl⟩
  · exact .inr ⟨_, _, rfl, ‹_›, rfl⟩

/-- a failed system call never completes a call with a new handle -/
theorem Call.after_err_no_handle (c : Call) (e : Errno) (ret : Ret) (hid : Hid) (x : Handle) :
    c.after (.err e) ≠ .done (ret, some (hid, x)) := by
  intro h
  rcases Call.after_done h with ⟨s, z, _, hs, _⟩ | ⟨st, y, _, hst, _⟩
  · obtain ⟨_, _, e, _⟩ := SemNewSt.after_done hs; cases e
  · obtain ⟨_, _, _, hs, _⟩ := ShmNewSt.after_done hst
    obtain ⟨_, _, e, _⟩ := SemNewSt.after_done hs; cases e

/-- an interrupted system call is simply issued again (every interruptible call site sits in a retry loop) -/
theorem Call.after_eintr (c : Call) (h : c.next.interruptible = true) : c.after (.err .EINTR) = .cont c := by
  cases c with
  | semNew hid s => simp only [Call.after, s.after_eintr h]
  | semFree s => obtain ⟨hd, pc⟩ := s; cases pc <;> cases h
  | acquire hd => rfl
  | release hd => cases h
  | shmNew hid s =>
    obtain ⟨key, req, ro, created, isExists, size, addr, pc⟩ := s
    cases pc with
    | sem st => simp only [Call.after, ShmNewSt.after, st.after_eintr h]
    | excl => rfl
    | «open» => rfl
    | _ => cases h
  | shmFree s =>
    obtain ⟨hd, pc⟩ := s
    cases pc with
    | sem st => obtain ⟨hd', pc'⟩ := st; cases pc' <;> cases h
    | _ => cases h

/-- The system calls on mappings, sizes and segment names, and the program points that issue them:
    `mmap` only a `p_shm_new` at its `mmap` point, with the size it has recorded; `munmap` only the
    failure path of a `p_shm_new` and the first step of a `p_shm_free`; `ftruncate` only a `p_shm_new`
    at its `ftruncate` point; `shm_unlink` only a `p_shm_free` at its `unlink` point and a `p_shm_new` at the
    end of its failure path. -/
theorem Call.next_shm (c : Call) :
    match c.next with
    | .mmap fd len prot fl => ∃ hid st, c = .shmNew hid st ∧ st.pc = .mmap fd ∧ len = st.size ∧
        prot = (if st.ro then shmMmapProtRO else shmMmapProtRW) ∧ fl = shmMmapFlags
    | .munmap a len => (∃ hid st e, c = .shmNew hid st ∧ st.pc = .fMunmap e ∧ a = st.addr.getD 0 ∧ len = st.size) ∨
        (∃ st, c = .shmFree st ∧ st.pc = .munmap ∧ a = st.h.addr ∧ len = st.h.size)
    | .ftruncate fd _ => ∃ hid st, c = .shmNew hid st ∧ st.pc = .ftrunc fd
    | .shmUnlink k => (∃ st : ShmFreeSt, c = .shmFree st ∧ st.pc = .unlink ∧ st.h.key = k) ∨
        (∃ hid e, ∃ st : ShmNewSt, c = .shmNew hid st ∧ st.pc = .fUnlink e ∧ st.key = k)
    | _ => True := by
  cases c with
  | semNew hid s => obtain ⟨key, mode, init, pc⟩ := s; cases pc <;> trivial
  | semFree s => obtain ⟨hd, pc⟩ := s; cases pc <;> trivial
  | acquire hd => trivial
  | release hd => trivial
  | shmNew hid st =>
    obtain ⟨key, req, ro, created, isExists, size, addr, pc⟩ := st
    cases pc with
    | mmap fd => exact ⟨_, _, rfl, rfl, rfl, rfl, rfl⟩
    | fMunmap e => exact .inl ⟨_, _, e, rfl, rfl, rfl, rfl⟩
    | ftrunc fd => exact ⟨_, _, rfl, rfl⟩
    | fUnlink e => exact .inr ⟨hid, e, _, rfl, rfl, rfl⟩
    | sem s => obtain ⟨key', mode, init, pc'⟩ := s; cases pc' <;> trivial
    | _ => trivial
  | shmFree st =>
    obtain ⟨hd, pc⟩ := st
    cases pc with
    | munmap => exact .inr ⟨_, rfl, rfl, rfl, rfl⟩
    | unlink => exact .inl ⟨_, rfl, rfl, rfl⟩
    | sem s => obtain ⟨hd', pc'⟩ := s; cases pc' <;> trivial

theorem Call.next_mmap {c : Call} {fd len prot fl : Nat} (h : c.next = .mmap fd len prot fl) :
    ∃ hid st, c = .shmNew hid st ∧ st.pc = .mmap fd ∧ len = st.size ∧
      prot = (if st.ro then shmMmapProtRO else shmMmapProtRW) ∧ fl = shmMmapFlags := by
  have := c.next_shm; rwa [h] at this

theorem Call.next_munmap {c : Call} {a len : Nat} (h : c.next = .munmap a len) :
    (∃ hid st e, c = .shmNew hid st ∧ st.pc = .fMunmap e ∧ a = st.addr.getD 0 ∧ len = st.size) ∨
    (∃ st, c = .shmFree st ∧ st.pc = .munmap ∧ a = st.h.addr ∧ len = st.h.size) := by
  have := c.next_shm; rwa [h] at this

theorem Call.next_ftruncate {c : Call} {fd len : Nat} (h : c.next = .ftruncate fd len) :
    ∃ hid st, c = .shmNew hid st ∧ st.pc = .ftrunc fd := by
  have := c.next_shm; rwa [h] at this

/-- `Call.next_shm` read for `shm_unlink (k)`: it is issued only by a `p_shm_free` of a handle of `k` at its
    `unlink` point, or by a `p_shm_new (k)` at the `shm_unlink` of its failure path.  (That these points are
    reached only with an owner's handle / by the creator is a fact of `after`, not part of this statement.) -/
theorem shm_unlink_only_by (c : Call) (k : ShmKey) (h : c.next = .shmUnlink k) :
    (∃ st : ShmFreeSt, c = .shmFree st ∧ st.pc = .unlink ∧ st.h.key = k) ∨
    (∃ hid e, ∃ st : ShmNewSt, c = .shmNew hid st ∧ st.pc = .fUnlink e ∧ st.key = k) := by
  have := c.next_shm; rwa [h] at this

end PV.IPC
