import PV.Lemmas.CondVar
/-! The event-counter client (C03): a blocked waiter whose predicate is true always has a wake-up
    on the way. -/
namespace PV.CondVar

def eAtPc (pc : EPC) (t : EThr) : Bool := decide (t.pc = pc)

/-- agents that will consume an event or wake a waiter: woken waiters, threads re-checking the
    predicate under the mutex, threads about to signal -/
def eTokens (s : EState) : Nat :=
  (s.mon.woken 0).length + cnt (eAtPc .check) s.thr + cnt (eAtPc .sig) s.thr

structure EInv (s : EState) : Prop where
  le : s.consumed ≤ s.events
  tok : s.mon.wset 0 ≠ [] → s.events - s.consumed ≤ eTokens s

inductive EReach : EState → Prop where
  | init (thr : List EThr) : (∀ t, t ∈ thr → t.pc = .start) → EReach (einit thr)
  | step {s s' : EState} {l : ELabel} : EReach s → eexec s l = some s' → EReach s'

def eTok (t : EThr) : Nat := (if eAtPc .check t then 1 else 0) + (if eAtPc .sig t then 1 else 0)

/-- thread `i` goes from `a` to `b`, the monitor becomes `m`, the counters `ev`, `co`.  `htok`: no event
    is outstanding afterwards, or the wait-set was non-empty before and events, tokens and pending
    wake-ups balance. -/
theorem EInv.set {s : EState} {i : Tid} {a : EThr} (hI : EInv s) (h : s.thr[i]? = some a) {b : EThr}
    {m : Mon} {ev co : Nat} (hle : co ≤ ev)
    (htok : m.wset 0 ≠ [] → ev - co = 0 ∨ (s.mon.wset 0 ≠ [] ∧
      ev - co + eTok a + (s.mon.woken 0).length ≤ s.events - s.consumed + eTok b + (m.woken 0).length)) :
    EInv { mon := m, thr := s.thr.set i b, events := ev, consumed := co } := by
  refine ⟨hle, fun hw => ?_⟩
  have c1 := cnt_set (p := eAtPc .check) b h
  have c2 := cnt_set (p := eAtPc .sig) b h
  rcases htok hw with h0 | ⟨hw0, hle⟩
  · simp only [h0]; exact Nat.zero_le _
  · have := hI.tok hw0
    simp only [eTokens, eTok] at hle this ⊢
    omega

theorem einv_step {s s' : EState} {l : ELabel} (hI : EInv s) (h : eexec s l = some s') : EInv s' := by
  have hle := hI.le
  cases l with
  | lock i =>
    simp only [eexec] at h
    split at h
    · contradiction
    · next th hth =>
      split at h
      · next hc =>
        split at h
        · contradiction
        · next m hm =>
          obtain ⟨_, rfl⟩ := mon_lock_some.mp hm
          cases h
          exact hI.set hth hle fun hw => .inr ⟨hw, by simp [eTok, eAtPc, hc.1]⟩
      · contradiction
  | step i =>
    simp only [eexec] at h
    split at h
    · contradiction
    · next th hth =>
      split at h
      · next hc =>
        -- signaller: one more event, and the thread itself becomes the token for it
        cases h
        exact hI.set hth (by omega) fun hw => .inr ⟨hw, by simp [eTok, eAtPc, hc]; omega⟩
      · split at h
        · next hc =>
          split at h
          · next hev =>
            split at h
            · contradiction
            · next m hm =>
              -- waiter blocks: nothing is outstanding
              cases h
              exact hI.set hth hle fun _ => .inl (by omega)
          · next hev =>
            -- waiter consumes: its token goes with the event
            cases h
            exact hI.set hth (by omega) fun hw => .inr ⟨hw, by simp [eTok, eAtPc, hc]; omega⟩
        · contradiction
  | signal i w =>
    simp only [eexec] at h
    split at h
    · contradiction
    · next th hth =>
      split at h
      · next hc =>
        split at h
        · contradiction
        · next m hm =>
          cases h
          rcases mon_signal_some.mp hm with ⟨_, he, rfl⟩ | ⟨x, _, hx, rfl⟩
          · exact hI.set hth hle fun hw => absurd he hw
          · -- the signaller's token becomes a pending wake-up
            exact hI.set hth hle fun _ =>
              .inr ⟨List.ne_nil_of_mem hx, by simp [eTok, eAtPc, hc, Mon.wake, upd]; omega⟩
      · contradiction
  | unlock i =>
    simp only [eexec] at h
    split at h
    · contradiction
    · next th hth =>
      split at h
      · next hc =>
        split at h
        · contradiction
        · next m hm =>
          obtain ⟨_, rfl⟩ := mon_unlock_some.mp hm
          cases h
          exact hI.set hth hle fun hw => .inr ⟨hw, by simp [eTok, eAtPc, hc]⟩
      · contradiction
  | reacquire i =>
    simp only [eexec] at h
    split at h
    · contradiction
    · next th hth =>
      split at h
      · next hc =>
        split at h
        · contradiction
        · next m hm =>
          -- a pending wake-up becomes a thread that re-checks
          obtain ⟨hw, _, rfl⟩ := mon_reacquire_some.mp hm
          cases h
          have := length_erase_add_one hw
          exact hI.set hth hle fun hws =>
            .inr ⟨hws, by simp [eTok, eAtPc, hc, Mon.reacquired, upd]; omega⟩
      · contradiction
  | spurious i =>
    simp only [eexec] at h
    split at h
    · contradiction
    · next th hth =>
      split at h
      · next hc =>
        split at h
        · contradiction
        · next m hm =>
          obtain ⟨hw, rfl⟩ := mon_spurious_some.mp hm
          cases h
          refine ⟨hle, fun _ => ?_⟩
          have := hI.tok (List.ne_nil_of_mem hw)
          simp only [eTokens, Mon.wake, upd, if_true, List.length_append, List.length_singleton] at this ⊢
          omega
      · contradiction

theorem ereach_inv {s : EState} (h : EReach s) : EInv s := by
  induction h with
  | init thr _ => exact ⟨Nat.le_refl _, fun h => absurd rfl h⟩
  | step _ hs ih => exact einv_step ih hs

end PV.CondVar
