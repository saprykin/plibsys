import PV.Model.RWLock
/-! Specification vocabulary for C02 (read-write lock): disciplined programs, who holds / waits,
reachable states, labelled steps.  (`PV/Props/C02.lean` states the property theorems in these terms.) -/
namespace PV.RWLock

/-! ### discipline of programs -/

/-- a disciplined program: a sequence of rounds `acquire ; matching release` -/
def Disc : List Op → Bool
  | [] => true
  | a :: b :: rest => a.isAcq && (b == a.rel) && Disc rest
  | [_] => false

def Op.heldBy : Op → Held
  | .rlock | .rtry => .r
  | .wlock | .wtry => .w
  | _ => .none

def Op.isTry : Op → Bool
  | .rtry | .wtry => true
  | _ => false

/-! ### counting predicates -/

def heldR (th : Thread) : Bool := th.held == .r
def heldW (th : Thread) : Bool := th.held == .w
/-- inside the wait block (`waiting++ … waiting--`) on `cv` -/
def inWait (cv : Cv) (th : Thread) : Bool :=
  match th.pc with
  | .atWait _ c | .blocked _ c | .woken _ c => c == cv
  | _ => false
def isAtWait (cv : Cv) (th : Thread) : Bool :=
  match th.pc with
  | .atWait _ c => c == cv
  | _ => false
def isWoken (cv : Cv) (th : Thread) : Bool :=
  match th.pc with
  | .woken _ c => c == cv
  | _ => false
def isAtSignal (cv : Cv) (th : Thread) : Bool :=
  match th.pc with
  | .atSignal _ c => c == cv
  | _ => false
def isAtBcast (cv : Cv) (th : Thread) : Bool :=
  match th.pc with
  | .atBcast _ c => c == cv
  | _ => false
def owns (th : Thread) : Bool := th.pc.ownsMutex


/-! ### holders and waiters of a state -/

/-- number of threads holding the lock in read mode -/
def readers (s : State) : Nat := s.threads.countP heldR
/-- number of threads holding the lock in write mode -/
def writers (s : State) : Nat := s.threads.countP heldW
/-- number of threads inside the wait block of `p_rwlock_reader_lock` (they wait on `read_cv`) -/
def waitingReaders (s : State) : Nat := s.threads.countP (inWait .read)
/-- number of threads inside the wait block of `p_rwlock_writer_lock` (they wait on `write_cv`) -/
def waitingWriters (s : State) : Nat := s.threads.countP (inWait .write)

/-! ### executions -/

/-- states reachable from an initial state whose programs are disciplined, by any interleaving of
    thread steps (any choice of the waiter a signal wakes) and spurious wake-ups; fewer than 2^15
    threads (the width of the packed counter fields) -/
inductive Reach (c : Cfg) : State → Prop
  | init (progs : List (List Op)) (hd : ∀ p ∈ progs, Disc p = true) (hn : progs.length < 2^15) : Reach c (init progs)
  | step {s s' : State} {t : Tid} {pick : Option Tid} : Reach c s → stepThread c s t pick = some s' → Reach c s'
  | spur {s s' : State} {t : Tid} : Reach c s → spurious s t = some s' → Reach c s'

inductive Label
  | run (t : Tid) (pick : Option Tid)
  | spur (t : Tid)

def Label.isSpur : Label → Bool
  | .spur _ => true
  | _ => false

/-- one labelled transition of the system -/
def Step (c : Cfg) (s : State) (l : Label) (s' : State) : Prop :=
  match l with
  | .run t pick => stepThread c s t pick = some s'
  | .spur t => spurious s t = some s'

/-- run a schedule -/
def runLabels (c : Cfg) : State → List Label → Option State
  | s, [] => some s
  | s, .run t pick :: ls => (stepThread c s t pick).bind (runLabels c · ls)
  | s, .spur t :: ls => (spurious s t).bind (runLabels c · ls)

theorem reach_runLabels {c : Cfg} : ∀ {s s' : State} (ls : List Label), Reach c s → runLabels c s ls = some s' → Reach c s'
  | _, _, [], h, e => Option.some.inj e ▸ h
  | _, _, .run _ _ :: ls, h, e =>
    let ⟨_, hs, e1⟩ := Option.bind_eq_some_iff.mp e
    reach_runLabels ls (.step h hs) e1
  | _, _, .spur _ :: ls, h, e =>
    let ⟨_, hs, e1⟩ := Option.bind_eq_some_iff.mp e
    reach_runLabels ls (.spur h hs) e1

/-- a state reached by a concrete schedule from disciplined programs that satisfies a (decidable) test -/
theorem reach_witness {c : Cfg} (progs : List (List Op)) (ls : List Label) (q : State → Bool)
    (hd : (progs.all fun p => Disc p) = true) (hn : progs.length < 2^15)
    (h : (runLabels c (init progs) ls).any q = true) : ∃ s, Reach c s ∧ q s = true := by
  cases hr : runLabels c (init progs) ls with
  | none => simp [hr] at h
  | some s =>
    rw [hr] at h
    exact ⟨s, reach_runLabels ls (Reach.init progs (by simpa using hd) hn) hr, by simpa using h⟩

/-! ### executions with failing primitive calls -/

/-- states reachable when, in addition, any primitive call may FAIL (`failStep`: `p_mutex_lock`,
    `p_mutex_unlock`, `p_cond_variable_wait`, signal, broadcast returning FALSE), any number of times -/
inductive ReachF (c : Cfg) : State → Prop
  | init (progs : List (List Op)) (hd : ∀ p ∈ progs, Disc p = true) (hn : progs.length < 2^15) : ReachF c (init progs)
  | step {s s' : State} {t : Tid} {pick : Option Tid} : ReachF c s → stepThread c s t pick = some s' → ReachF c s'
  | spur {s s' : State} {t : Tid} : ReachF c s → spurious s t = some s' → ReachF c s'
  | fail {s s' : State} {t : Tid} {zero : Bool} : ReachF c s → failStep s t zero = some s' → ReachF c s'

/-- every failure-free execution is one -/
theorem Reach.toF {c : Cfg} {s : State} (h : Reach c s) : ReachF c s := by
  induction h with
  | init progs hd hn => exact .init progs hd hn
  | step _ hs ih => exact .step ih hs
  | spur _ hs ih => exact .spur ih hs

inductive LabelF
  | run (t : Tid) (pick : Option Tid)
  | spur (t : Tid)
  | fail (t : Tid) (zero : Bool)

def runLabelsF (c : Cfg) : State → List LabelF → Option State
  | s, [] => some s
  | s, .run t pick :: ls => (stepThread c s t pick).bind (runLabelsF c · ls)
  | s, .spur t :: ls => (spurious s t).bind (runLabelsF c · ls)
  | s, .fail t z :: ls => (failStep s t z).bind (runLabelsF c · ls)

theorem reachF_runLabels {c : Cfg} : ∀ {s s' : State} (ls : List LabelF), ReachF c s → runLabelsF c s ls = some s' → ReachF c s'
  | _, _, [], h, e => Option.some.inj e ▸ h
  | _, _, .run _ _ :: ls, h, e =>
    let ⟨_, hs, e1⟩ := Option.bind_eq_some_iff.mp e
    reachF_runLabels ls (.step h hs) e1
  | _, _, .spur _ :: ls, h, e =>
    let ⟨_, hs, e1⟩ := Option.bind_eq_some_iff.mp e
    reachF_runLabels ls (.spur h hs) e1
  | _, _, .fail _ _ :: ls, h, e =>
    let ⟨_, hs, e1⟩ := Option.bind_eq_some_iff.mp e
    reachF_runLabels ls (.fail h hs) e1

/-- a state reached by a concrete schedule with failing calls that satisfies a (decidable) test -/
theorem reachF_witness {c : Cfg} (progs : List (List Op)) (ls : List LabelF) (q : State → Bool)
    (hd : (progs.all fun p => Disc p) = true) (hn : progs.length < 2^15)
    (h : (runLabelsF c (init progs) ls).any q = true) : ∃ s, ReachF c s ∧ q s = true := by
  cases hr : runLabelsF c (init progs) ls with
  | none => simp [hr] at h
  | some s =>
    rw [hr] at h
    exact ⟨s, reachF_runLabels ls (ReachF.init progs (by simpa using hd) hn) hr, by simpa using h⟩

/-- thread `t` can make a (non-spurious) step -/
def Enabled (c : Cfg) (s : State) (t : Tid) : Prop := ∃ pick s', stepThread c s t pick = some s'

/-! ### termination measure -/

/-- 2 while an API call is in progress before its final `p_mutex_unlock`, 1 at that unlock, 0 when done -/
def PC.major : PC → Nat
  | .done => 0
  | .atUnlock _ _ => 1
  | _ => 2

/-- progress inside one call; only a wake-up (signal / broadcast / spurious) can raise it -/
def PC.minor : PC → Nat
  | .lock _ => 4
  | .woken _ _ | .atSignal _ _ | .atBcast _ _ => 3
  | .atWait _ _ => 2
  | .blocked _ _ => 1
  | _ => 0

def Thread.major (th : Thread) : Nat := 2 * th.prog.length + th.pc.major
def Thread.minor (th : Thread) : Nat := th.pc.minor

/-- remaining API calls (doubled, plus the calls in progress) of all threads -/
def major (s : State) : Nat := (s.threads.map Thread.major).sum
/-- steps the threads can still make inside their current calls without a new wake-up -/
def minor (s : State) : Nat := (s.threads.map Thread.minor).sum

/-- the lexicographic termination measure -/
def measure (s : State) : Nat × Nat := (major s, minor s)

end PV.RWLock
